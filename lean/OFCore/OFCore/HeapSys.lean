import OFCore.Param
import OFCore.Generated
/-!
# Object-identity model of tax-benefit systems, reforms and system copies — property C14

Python counterparts (the tree with the repairs F-C14a, F-C14b, F-C14d, F-C14e, F-C14f applied):

* `TaxBenefitSystem.__init__` (entity copies bound to the new system)   ↦ `entityCopies`
* `TaxBenefitSystem.clone`                                             ↦ `cloneSys`
* `Reform.__init__` + `apply()`                                        ↦ `reformSys`
* `load_variable` / `add_variable` / `update_variable` / `replace_variable` ↦ `loadVariable`, `applyMod`
* `neutralize_variable` / `variables.get_neutralized_variable`         ↦ `neutralizeVar`
* `annualize_variable` / `variables.get_annualized_variable`           ↦ `annualizeVar`
* `Reform.modify_parameters` / in-place `Parameter.update` on a copy   ↦ `modifyParams`
* `TaxBenefitSystem.load_extension` (variables added, parameters merged in place)  ↦ `loadExtension`
* `tools.test_runner._get_tax_benefit_system` (clone, reforms, extensions, cache)  ↦ `testRunnerDerive`,
                                                                         `Op.testRunner`, `State.memo`
* `Variable.__init__` (`set`, `set_formulas`), `Variable.clone`, `Variable.get_formula`
                                                                       ↦ `construct`, `getFormula`
* `TaxBenefitSystem.get_variable`, `CoreEntity.get_variable`           ↦ `resolve`, `resolveVia`
* `Holder.get_array` / `Holder.set_input` guards on `is_neutralized`   ↦ `holderGet`, `holderSetInput`
* `Simulation._calculate` / `_check_for_cycle` on an annualised variable ↦ `annCalc`

Objects live in a heap (`List Obj`, the identity of an object is its index; allocation appends).
A pure model would erase exactly what the property is about: which objects a derived system
shares with the system it derives from, and which it owns.

Abstractions, stated once:
* `variable.entity` is kept as the entity *key*: the engine reads nothing else of it
  (`Simulation.get_variable_population`, `check_variable_defined_for_entity`, `get_variables`).
* value types, definition periods, defaults, `set_input` helpers and the descriptive attributes
  (`label`, `reference`, `documentation`, `unit`, `cerfa_field`, `calculate_output`,
  `is_period_size_independent`, `max_length`) are opaque tokens: a class carries, for each attribute it
  declares, the value `Variable.__init__` makes of the declared one (`ClassDef.attrs`); what the model
  decides is declared / inherited from the baseline variable / default (`attrOf`), and the label of a
  neutralised variable. The `allowed_type` / `allowed_values` / setter checks of `Variable.set` are one
  bit: a class that declares a value they refuse is `invalid`, and instantiating it raises.
* formula start dates and `end` are proleptic ordinals; the code compares zero-padded ISO strings,
  which is the same order (`Lemmas/Calendar.lean`). `formula` (undated) starts at ordinal 1.
* formula functions are identities `Fml.base n`; the closure `annual_formula` built by
  `get_annualized_variable` around `f` is `Fml.annual f`.
* the parameter tree is a flat map leaf-path ↦ dated history (`Param.Entry`, model of C06).
-/
namespace OFCore.HeapSys
open OFCore.Param

/-- object identity: index in the heap (a notation, so that `omega` sees a `Nat`) -/
scoped notation "Oid" => Nat

/-- identity of a formula function -/
inductive Fml where
  | base (n : Nat)
  | annual (f : Fml)
deriving DecidableEq, Repr

/-- what a `class x(Variable)` statement declares (an undeclared attribute is `none`) -/
structure ClassDef where
  name      : String
  valueType : Option String
  default   : Option String
  entity    : Option String
  defPeriod : Option String
  endDate   : Option Int
  setInput  : Option String
  formulas  : List (Int × Nat)      -- `formula_YYYY_MM_DD` in class-dict order: start ↦ function
  /-- the other declared attributes (`label`, `reference`, `documentation`, `unit`, `cerfa_field`,
      `calculate_output`, `is_period_size_independent`, `max_length`): key ↦ the value `Variable.__init__`
      makes of the declared one, as an opaque token (`none` = `None`: `label = ""`, `documentation = ""`,
      a falsy `calculate_output`) -/
  attrs     : List (String × Option String) := []
  /-- some declared attribute has a value `Variable.set` refuses (`allowed_type`, `allowed_values`, a
      setter's own check): `__init__` raises -/
  invalid   : Bool := false
deriving DecidableEq, Repr

/-- a `Variable` instance -/
structure VarObj where
  cls           : ClassDef
  baseline      : Option Oid        -- `baseline_variable`
  valueType     : String
  default       : String
  entity        : String
  defPeriod     : String
  endDate       : Option Int
  setInput      : Option String
  formulas      : List (Int × Fml)  -- `SortedDict`: ascending start dates
  isNeutralized : Bool
  label         : Option String := none             -- `label` (an opaque token; `[Neutralized] …` = `N(…)`)
  attrs         : List (String × Option String) := []   -- the attributes of `metaKeys`, in that order
deriving DecidableEq, Repr

/-- what can be observed of a variable object (everything but how it was built) -/
structure VarView where
  name          : String
  valueType     : String
  default       : String
  entity        : String
  defPeriod     : String
  endDate       : Option Int
  setInput      : Option String
  formulas      : List (Int × Fml)
  isNeutralized : Bool
  label         : Option String := none
  attrs         : List (String × Option String) := []
deriving DecidableEq, Repr

def VarObj.view (v : VarObj) : VarView :=
  ⟨v.cls.name, v.valueType, v.default, v.entity, v.defPeriod, v.endDate, v.setInput, v.formulas,
   v.isNeutralized, v.label, v.attrs⟩

/-- `Variable.is_input_variable()`: `len(self.formulas) == 0` -/
def VarView.isInput (v : VarView) : Bool := v.formulas.isEmpty

structure SysObj where
  entities : List Oid
  vars     : Oid                    -- the `variables` dict
  params   : Oid                    -- the `parameters` tree
  baseline : Option Oid             -- `Reform.baseline`
deriving DecidableEq, Repr

structure EntObj where
  key    : String
  system : Option Oid               -- `_tax_benefit_system`
deriving DecidableEq, Repr

abbrev ParamTree := List (String × List (Entry String))

inductive Obj where
  | sys (s : SysObj)
  | ent (e : EntObj)
  | vmap (m : List (String × Oid))
  | var (v : VarObj)
  | par (p : ParamTree)
deriving Repr

structure Heap where
  objs : List Obj
deriving Repr

namespace Heap
def next (h : Heap) : Nat := h.objs.length
def look (h : Heap) (i : Oid) : Option Obj := h.objs[i]?
def alloc (h : Heap) (o : Obj) : Heap × Oid := (⟨h.objs ++ [o]⟩, h.objs.length)
def allocs (h : Heap) (os : List Obj) : Heap := ⟨h.objs ++ os⟩
def put (h : Heap) (i : Oid) (o : Obj) : Heap := ⟨h.objs.set i o⟩

def getSys (h : Heap) (i : Oid) : Option SysObj :=
  match h.look i with | some (.sys s) => some s | some (.ent _) => none | some (.vmap _) => none
                      | some (.var _) => none | some (.par _) => none | none => none
def getEnt (h : Heap) (i : Oid) : Option EntObj :=
  match h.look i with | some (.ent e) => some e | some (.sys _) => none | some (.vmap _) => none
                      | some (.var _) => none | some (.par _) => none | none => none
def getMap (h : Heap) (i : Oid) : Option (List (String × Oid)) :=
  match h.look i with | some (.vmap m) => some m | some (.sys _) => none | some (.ent _) => none
                      | some (.var _) => none | some (.par _) => none | none => none
def getVar (h : Heap) (i : Oid) : Option VarObj :=
  match h.look i with | some (.var v) => some v | some (.sys _) => none | some (.ent _) => none
                      | some (.vmap _) => none | some (.par _) => none | none => none
def getPar (h : Heap) (i : Oid) : Option ParamTree :=
  match h.look i with | some (.par p) => some p | some (.sys _) => none | some (.ent _) => none
                      | some (.vmap _) => none | some (.var _) => none | none => none
end Heap

/-! ## Python `dict` as an insertion-ordered association list -/

/-- `d[k] = v`: an existing key keeps its position, a new key goes last -/
def dictSet {α} (k : String) (v : α) : List (String × α) → List (String × α)
  | [] => [(k, v)]
  | (k', v') :: r => if k' = k then (k, v) :: r else (k', v') :: dictSet k v r

/-- `del d[k]` -/
def dictDel {α} (k : String) : List (String × α) → List (String × α)
  | [] => []
  | (k', v') :: r => if k' = k then r else (k', v') :: dictDel k r

/-- `d.get(k)` -/
def dictGet {α} (k : String) : List (String × α) → Option α
  | [] => none
  | (k', v') :: r => if k' = k then some v' else dictGet k r

/-- one descriptive attribute of a variable object (`None` when the object does not carry it) -/
def VarObj.attr (v : VarObj) (k : String) : Option String := (dictGet k v.attrs).join

/-! ## `Variable` -/

/-- `config.VALUE_TYPES[value_type].get("default")` as the canonical tokens of the correspondence protocol
    (`Enum` has none): `F` = `False`, `d719163` = the date of ordinal 719163, 1970-01-01 -/
def typeDefault (vt : String) : String :=
  if vt = "bool" then "F" else if vt = "int" then "0" else if vt = "float" then "0"
  else if vt = "str" then "" else if vt = "date" then "d719163" else "-"

/-- `formulas[str(starting_date)] = formula` on a `SortedDict` -/
def insertF (d : Int) (f : Fml) : List (Int × Fml) → List (Int × Fml)
  | [] => [(d, f)]
  | (d', f') :: r =>
    if d < d' then (d, f) :: (d', f') :: r
    else if d = d' then (d, f) :: r
    else (d', f') :: insertF d f r

/-- the loop of `set_formulas` over the declared `formula_*` attributes; raises when a formula
    starts after the variable's `end` -/
def declaredFormulas (endDate : Option Int) : List (Int × Nat) → List (Int × Fml) →
    Except String (List (Int × Fml))
  | [], acc => .ok acc
  | (d, n) :: r, acc =>
    match endDate with
    | some e => if e < d then .error "ValueError: formula starts after end"
                else declaredFormulas endDate r (insertF d (.base n) acc)
    | none => declaredFormulas endDate r (insertF d (.base n) acc)

/-- the second half of `set_formulas`: the baseline's formulas that start strictly before the first
    new one are kept (all of them when the class declares none). `bf` is a `SortedDict`, so the
    kept ones come first in the result. -/
def mergeBaseline (declared bf : List (Int × Fml)) : List (Int × Fml) :=
  match declared with
  | [] => bf
  | (d0, _) :: _ => bf.filter (fun p => p.1 < d0) ++ declared

/-- the `end` attribute: a declared date wins; a class that declares `end = ""` (ordinal 0 in the
    protocol) REDEFINES it to "no end" (`set_end` returns `None`, and `Variable.set` inherits only
    when the attribute is absent); absent, it is inherited -/
def declaredEnd (declared inherited : Option Int) : Option Int :=
  match declared with
  | some e => if e = 0 then none else some e
  | none => inherited

/-- `required=True` attribute: declared, else inherited, else `ValueError` -/
def requiredAttr (what : String) (declared : Option String) (inherited : Option String) :
    Except String String :=
  match declared with
  | some x => .ok x
  | none =>
    match inherited with
    | some x => .ok x
    | none => .error ("ValueError: missing attribute " ++ what)

/-- the attributes other than `label` that `Variable.__init__` sets through `Variable.set` /
    `set_calculate_output`, in the order they are observed -/
def metaKeys : List String :=
  ["reference", "documentation", "unit", "cerfa_field", "calculate_output", "is_period_size_independent", "max_length"]

/-- `config.VALUE_TYPES[value_type]["is_period_size_independent"]`; the protocol's token of a JSON value is `j`
    followed by the hexadecimal of its text: `j66616c7365` = `false`, `j74727565` = `true` -/
def typeIpsi (vt : String) : String := if vt = "int" then "j66616c7365" else if vt = "float" then "j66616c7365" else "j74727565"

/-- the `default=` of `Variable.set`: only `is_period_size_independent` has one -/
def attrDefault (k vt : String) : Option String :=
  if k = "is_period_size_independent" then some (typeIpsi vt) else none

/-- one attribute, as `Variable.set` decides it. `declared`: `none` = the class does not declare it,
    `some none` = declared and turned into `None` by the setter, `some (some x)` = declared value.
    `inherited`: `none` = no baseline variable, `some x` = the baseline's attribute.
    A declared value wins — also a declared `None` (`label = ""` clears the label), except for
    `calculate_output` (`set_calculate_output`: `if not calculate_output and baseline: inherit`);
    undeclared, the baseline's value is inherited; without a baseline the default applies. -/
def attrOf (k vt : String) (declared : Option (Option String)) (inherited : Option (Option String)) :
    Option String :=
  match declared with
  | some (some x) => some x
  | some none =>
    if k = "calculate_output" then (match inherited with | some x => x | none => none) else none
  | none =>
    match inherited with
    | some x => x
    | none => attrDefault k vt

/-- … `max_length` exists on string variables only -/
def metaAttr (k vt : String) (declared : Option (Option String)) (inherited : Option (Option String)) :
    Option String :=
  if k = "max_length" then (if vt = "str" then attrOf k vt declared inherited else none)
  else attrOf k vt declared inherited

/-- `Variable.__init__(baseline_variable=b)` for a class whose declared values pass the checks of
    `Variable.set`, `b` already dereferenced -/
def constructCore (cls : ClassDef) (bid : Option Oid) (b : Option VarObj) : Except String VarObj :=
  match requiredAttr "value_type" cls.valueType (b.map (·.valueType)) with
  | .error e => .error e
  | .ok vt =>
  let dflt : String :=
    match cls.default with
    | some x => x
    | none => match b with | some bv => bv.default | none => typeDefault vt
  match requiredAttr "entity" cls.entity (b.map (·.entity)) with
  | .error e => .error e
  | .ok ent =>
  match requiredAttr "definition_period" cls.defPeriod (b.map (·.defPeriod)) with
  | .error e => .error e
  | .ok dp =>
  let endDate : Option Int := declaredEnd cls.endDate (match b with | some bv => bv.endDate | none => none)
  let si : Option String :=
    match cls.setInput with
    | some s => some s
    | none => match b with | some bv => bv.setInput | none => none
  match declaredFormulas endDate cls.formulas [] with
  | .error e => .error e
  | .ok decl =>
  let fs := match b with | some bv => mergeBaseline decl bv.formulas | none => decl
  .ok { cls := cls, baseline := bid, valueType := vt, default := dflt, entity := ent, defPeriod := dp,
        endDate := endDate, setInput := si, formulas := fs, isNeutralized := false,
        label := attrOf "label" vt (dictGet "label" cls.attrs) (b.map (·.label)),
        attrs := metaKeys.map fun k =>
          (k, metaAttr k vt (dictGet k cls.attrs) (b.map fun bv => bv.attr k)) }

/-- `Variable.__init__(baseline_variable=b)`: a declared value of the wrong type (`allowed_type`), outside
    the allowed values, or refused by a setter raises `ValueError` / `TypeError` before anything is bound -/
def constructWith (cls : ClassDef) (bid : Option Oid) (b : Option VarObj) : Except String VarObj :=
  if cls.invalid then .error "ValueError: invalid value for an attribute" else constructCore cls bid b

/-- `variable_class(baseline_variable=…)`: the baseline is read through its identity -/
def construct (h : Heap) (cls : ClassDef) (bid : Option Oid) : Except String VarObj :=
  match bid with
  | none => constructWith cls none none
  | some i =>
    match h.getVar i with
    | some b => constructWith cls (some i) (some b)
    | none => .error "dangling baseline_variable"

/-- `Variable.clone` (repaired, F-C14b): `self.__class__(baseline_variable=self.baseline_variable)` -/
def cloneVar (h : Heap) (v : VarObj) : Except String VarObj := construct h v.cls v.baseline

/-- `for start_date in reversed(self.formulas): if start_date <= instant_str: return …` -/
def lastLE : List (Int × Fml) → Int → Option Fml
  | [], _ => none
  | (s, f) :: r, d =>
    match lastLE r d with
    | some g => some g
    | none => if s ≤ d then some f else none

/-- `Variable.get_formula(period)` at the date `d = period.start` -/
def getFormula (v : VarView) (d : Int) : Option Fml :=
  match v.endDate with
  | some e => if e < d then none else lastLE v.formulas d
  | none => lastLE v.formulas d

/-! ## Systems -/

/-- `[copy.copy(entity) for entity in entities]` then `entity.set_tax_benefit_system(owner)`:
    the new objects, in order -/
def entityCopies (h : Heap) (owner : Oid) : List Oid → Option (List Obj)
  | [] => some []
  | e :: r =>
    match h.getEnt e, entityCopies h owner r with
    | some eo, some rest => some (Obj.ent { key := eo.key, system := some owner } :: rest)
    | _, _ => none

/-- `copy.deepcopy` of one variable object: its `baseline_variable` chain is copied with it -/
def copyVar : Nat → Heap → Oid → Option (Heap × Oid)
  | 0, _, _ => none
  | fuel + 1, h, vid =>
    match h.getVar vid with
    | none => none
    | some v =>
      match v.baseline with
      | none => some (h.alloc (.var v))
      | some b =>
        match copyVar fuel h b with
        | none => none
        | some (h1, b') => some (h1.alloc (.var { v with baseline := some b' }))

/-- `copy.deepcopy(self.variables)`: entries in dict order. Fuel `vid + 1` is enough wherever a
    `baseline_variable` was created before the variable that refers to it (identities decrease along the chain). -/
def copyVars : Heap → List (String × Oid) → Option (Heap × List (String × Oid))
  | h, [] => some (h, [])
  | h, (k, vid) :: r =>
    match copyVar (vid + 1) h vid with
    | none => none
    | some (h1, vid') =>
      match copyVars h1 r with
      | none => none
      | some (h2, r') => some (h2, (k, vid') :: r')

/-- `TaxBenefitSystem.clone` (repaired, F-C14a). Allocation order: the system, its entity copies,
    the parameter clone, the variable copies, the new dict. -/
def cloneSys (h : Heap) (src : Oid) : Except String (Heap × Oid) :=
  match h.getSys src with
  | none => .error "not a system"
  | some s =>
    let sid := h.next
    match entityCopies h sid s.entities, h.getPar s.params, h.getMap s.vars with
    | some ents, some p, some m =>
      let eids := (List.range ents.length).map (fun i => sid + 1 + i)
      let pid := sid + 1 + ents.length
      -- the system object is completed below; until then it points at itself
      let h1 := h.allocs (Obj.sys { entities := eids, vars := sid, params := pid, baseline := s.baseline }
                  :: ents ++ [Obj.par p])
      match copyVars h1 m with
      | none => .error "dangling variable"
      | some (h2, m') =>
        let (h3, mid) := h2.alloc (.vmap m')
        .ok (h3.put sid (.sys { entities := eids, vars := mid, params := pid, baseline := s.baseline }), sid)
    | _, _, _ => .error "ill-formed system"

/-- a parameter update declared by a modifier: `parameters.<name>.update(start=a, stop=b, value=v)` -/
structure PUpd where
  name : String
  a    : Int
  b    : Option Int
  v    : Option String
deriving DecidableEq, Repr

/-- an extension package: variable classes (`add_variables_from_directory`) and a `parameters/`
    directory whose top-level children are merged into the target's tree -/
structure Ext where
  name   : String
  vars   : List ClassDef
  params : ParamTree
deriving DecidableEq, Repr

/-- the modifications a derived system can receive -/
inductive Mod where
  | add (c : ClassDef)
  | update (c : ClassDef)
  | replace (c : ClassDef)
  | neutralize (name : String)
  | annualize (name : String)
  | params (us : List PUpd)
  | loadExt (e : Ext)                 -- `load_extension(package)`, directly or from a reform's `apply()`
deriving DecidableEq, Repr

/-- `TaxBenefitSystem.get_variable(name)` (`check_existence=False`): the identity found -/
def resolve (h : Heap) (sid : Oid) (name : String) : Option Oid :=
  match h.getSys sid with
  | none => none
  | some s =>
    match h.getMap s.vars with
    | none => none
    | some m => dictGet name m

/-- `entity.get_variable(name)`: through the entity's back-pointer -/
def resolveVia (h : Heap) (eid : Oid) (name : String) : Option Oid :=
  match h.getEnt eid with
  | none => none
  | some e =>
    match e.system with
    | none => none                      -- "You must set 'tax_benefit_system' before …"
    | some sid => resolve h sid name

/-- `self.variables[name] = <new object>` -/
def bindVar (h : Heap) (s : SysObj) (m : List (String × Oid)) (name : String) (v : VarObj) : Heap :=
  let (h1, vid) := h.alloc (.var v)
  h1.put s.vars (.vmap (dictSet name vid m))

/-- `load_variable(variable_class, update)` -/
def loadVariable (h : Heap) (sid : Oid) (cls : ClassDef) (update : Bool) : Heap × Except String Unit :=
  match h.getSys sid with
  | none => (h, .error "not a system")
  | some s =>
    match h.getMap s.vars with
    | none => (h, .error "ill-formed system")
    | some m =>
      let bid := dictGet cls.name m
      if bid.isSome && !update then (h, .error "VariableNameConflictError")
      else
        match construct h cls bid with
        | .error e => (h, .error e)
        | .ok v => (bindVar h s m cls.name v, .ok ())

/-- `replace_variable`: the old entry is deleted *before* the new class is instantiated -/
def replaceVariable (h : Heap) (sid : Oid) (cls : ClassDef) : Heap × Except String Unit :=
  match h.getSys sid with
  | none => (h, .error "not a system")
  | some s =>
    match h.getMap s.vars with
    | none => (h, .error "ill-formed system")
    | some m =>
      match dictGet cls.name m with
      | some _ => loadVariable (h.put s.vars (.vmap (dictDel cls.name m))) sid cls false
      | none => loadVariable h sid cls false

/-- the label `get_neutralized_variable` gives the clone: `[Neutralized]`, followed by the label of
    the variable it neutralises (the instance's, not the class's) when it has one -/
def neutralizedLabel (l : Option String) : String := "N(" ++ l.getD "-" ++ ")"

/-- `neutralize_variable(name)` -/
def neutralizeVar (h : Heap) (sid : Oid) (name : String) : Heap × Except String Unit :=
  match h.getSys sid with
  | none => (h, .error "not a system")
  | some s =>
    match h.getMap s.vars with
    | none => (h, .error "ill-formed system")
    | some m =>
      match dictGet name m with
      | none => (h, .error "AttributeError: 'NoneType' object has no attribute 'clone'")
      | some vid =>
        match h.getVar vid with
        | none => (h, .error "dangling variable")
        | some v =>
          match cloneVar h v with
          | .error e => (h, .error e)
          | .ok c => (bindVar h s m name { c with isNeutralized := true,
                                                   label := some (neutralizedLabel v.label) }, .ok ())

/-- `annualize_variable(name)` (repaired, F-C14d: the neutralised flag is carried over) -/
def annualizeVar (h : Heap) (sid : Oid) (name : String) : Heap × Except String Unit :=
  match h.getSys sid with
  | none => (h, .error "not a system")
  | some s =>
    match h.getMap s.vars with
    | none => (h, .error "ill-formed system")
    | some m =>
      match dictGet name m with
      | none => (h, .error "VariableNotFoundError")
      | some vid =>
        match h.getVar vid with
        | none => (h, .error "dangling variable")
        | some v =>
          match cloneVar h v with
          | .error e => (h, .error e)
          | .ok c =>
            (bindVar h s m name { c with formulas := v.formulas.map (fun p => (p.1, Fml.annual p.2)),
                                         isNeutralized := v.isNeutralized }, .ok ())

/-- the body of a modifier function: the updates in order. A missing leaf raises
    (`AttributeError`) after the earlier updates have been made: the tree reached is returned
    together with the verdict. -/
def applyUpds : ParamTree → List PUpd → ParamTree × Except String Unit
  | p, [] => (p, .ok ())
  | p, u :: r =>
    match dictGet u.name p with
    | none => (p, .error "AttributeError: no such parameter")
    | some l => applyUpds (dictSet u.name (update l u.a u.b u.v) p) r

/-- a parameter modifier. On a reform: `Reform.modify_parameters` (repaired, F-C14e: a deep copy
    of the reform's *current* tree is modified, then bound; nothing is bound when the modifier
    raises). On a plain system (a `clone()`): the tree the copy owns is updated in place, one
    update after the other. -/
def modifyParams (h : Heap) (sid : Oid) (us : List PUpd) : Heap × Except String Unit :=
  match h.getSys sid with
  | none => (h, .error "not a system")
  | some s =>
    match h.getPar s.params with
    | none => (h, .error "ill-formed system")
    | some p =>
      match s.baseline with
      | some _ =>
        match applyUpds p us with
        | (_, .error e) => (h, .error e)
        | (p', .ok ()) =>
          let (h1, pid) := h.alloc (.par p')
          (h1.put sid (.sys { s with params := pid }), .ok ())
      | none =>
        match applyUpds p us with
        | (p', r) => (h.put s.params (.par p'), r)

/-- `add_variables_from_directory`: `add_variable` for each class in turn; the first conflict raises
    (the classes already added stay) -/
def addVariables (h : Heap) (sid : Oid) : List ClassDef → Heap × Except String Unit
  | [] => (h, .ok ())
  | c :: r =>
    match loadVariable h sid c false with
    | (h1, .ok ()) => addVariables h1 sid r
    | (h1, .error e) => (h1, .error e)

/-- `ParameterNode.merge`: `add_child` for each child of the extension's tree; an existing name
    raises (the children already merged stay) -/
def mergeParams : ParamTree → ParamTree → ParamTree × Except String Unit
  | p, [] => (p, .ok ())
  | p, (k, l) :: r =>
    match dictGet k p with
    | some _ => (p, .error "ValueError: has already a child named …")
    | none => mergeParams (p ++ [(k, l)]) r

/-- `TaxBenefitSystem.load_extension`: the variables, then the parameters (an extension without a
    `parameters` directory merges nothing). A plain system merges them IN PLACE into the tree it
    owns; a system with a baseline — a reform, which may share its tree with any system down its
    baseline chain — first takes a deep copy of its tree (repair F-C14f) and merges into the copy. -/
def loadExtension (h : Heap) (sid : Oid) (e : Ext) : Heap × Except String Unit :=
  match addVariables h sid e.vars with
  | (h1, .error er) => (h1, .error er)
  | (h1, .ok ()) =>
    match e.params with
    | [] => (h1, .ok ())
    | q :: qs =>
      match h1.getSys sid with
      | none => (h1, .error "not a system")
      | some s =>
        match h1.getPar s.params with
        | none => (h1, .error "ill-formed system")
        | some p =>
          match s.baseline with
          | some _ =>
            match mergeParams p (q :: qs) with
            | (p', r) => ((h1.allocs [.par p']).put sid (.sys { s with params := h1.next }), r)
          | none =>
            match mergeParams p (q :: qs) with
            | (p', r) => (h1.put s.params (.par p'), r)

def loadExtensions (h : Heap) (sid : Oid) : List Ext → Heap × Except String Unit
  | [] => (h, .ok ())
  | e :: r =>
    match loadExtension h sid e with
    | (h1, .ok ()) => loadExtensions h1 sid r
    | (h1, .error er) => (h1, .error er)

def applyMod (h : Heap) (sid : Oid) : Mod → Heap × Except String Unit
  | .add c => loadVariable h sid c false
  | .update c => loadVariable h sid c true
  | .replace c => replaceVariable h sid c
  | .neutralize n => neutralizeVar h sid n
  | .annualize n => annualizeVar h sid n
  | .params us => modifyParams h sid us
  | .loadExt e => loadExtension h sid e

/-- `apply()`: the modifications in order; the first exception aborts -/
def applyMods (h : Heap) (sid : Oid) : List Mod → Heap × Except String Unit
  | [] => (h, .ok ())
  | m :: r =>
    match applyMod h sid m with
    | (h1, .ok ()) => applyMods h1 sid r
    | (h1, .error e) => (h1, .error e)

/-- `Reform.__init__(baseline)` before `apply()`: own entity copies, a shallow copy of the variable
    dict, the *same* parameter tree. -/
def reformInit (h : Heap) (src : Oid) : Except String (Heap × Oid) :=
  match h.getSys src with
  | none => .error "not a system"
  | some s =>
    let sid := h.next
    match entityCopies h sid s.entities, h.getMap s.vars with
    | some ents, some m =>
      let eids := (List.range ents.length).map (fun i => sid + 1 + i)
      let mid := sid + 1 + ents.length
      .ok (h.allocs (Obj.sys { entities := eids, vars := mid, params := s.params, baseline := some src }
              :: ents ++ [Obj.vmap m]), sid)
    | _, _ => .error "ill-formed system"

/-- `SomeReform(baseline)`: an exception in `apply()` leaves no system behind (only garbage) -/
def reformSys (h : Heap) (src : Oid) (mods : List Mod) : Heap × Except String Oid :=
  match reformInit h src with
  | .error e => (h, .error e)
  | .ok (h1, sid) =>
    match applyMods h1 sid mods with
    | (h2, .ok ()) => (h2, .ok sid)
    | (h2, .error e) => (h2, .error e)

/-! ## The YAML test runner's derivation -/

/-- `current = current.apply_reform(path)` for each reform in order -/
def applyReforms (h : Heap) (cur : Oid) : List (List Mod) → Heap × Except String Oid
  | [] => (h, .ok cur)
  | mods :: r =>
    match reformSys h cur mods with
    | (h1, .ok R) => applyReforms h1 R r
    | (h1, .error e) => (h1, .error e)

/-- `test_runner._get_tax_benefit_system(baseline, reforms, extensions)` on a cache miss: a
    `clone()` of the baseline, the reforms stacked on it, the extensions loaded into the last one.
    The intermediate systems are private to the derivation. -/
def testRunnerDerive (h : Heap) (src : Oid) (reforms : List (List Mod)) (exts : List Ext) :
    Heap × Except String Oid :=
  match cloneSys h src with
  | .error e => (h, .error e)
  | .ok (h1, N) =>
    match applyReforms h1 N reforms with
    | (h2, .error e) => (h2, .error e)
    | (h2, .ok R) =>
      match loadExtensions h2 R exts with
      | (h3, .ok ()) => (h3, .ok R)
      | (h3, .error e) => (h3, .error e)

/-- the cache key: `(id(baseline), ":".join(reforms), frozenset(extensions))` — reform paths in
    order, extension names as a set (sorted, without repetition) -/
abbrev TRKey := Nat × List String × List String

def insertName (s : String) : List String → List String
  | [] => [s]
  | t :: r => if s < t then s :: t :: r else if s = t then t :: r else t :: insertName s r

def nameSet (l : List String) : List String := l.foldr insertName []

def lookupMemo (k : TRKey) : List (TRKey × Oid) → Option Oid
  | [] => none
  | (k', v) :: r => if k' = k then some v else lookupMemo k r

/-! ## Histories -/

inductive Op where
  | clone (src : Nat)                    -- indices into the list of systems, in creation order
  | reform (src : Nat) (mods : List Mod)
  | modify (tgt : Nat) (m : Mod)
  /-- the YAML test runner deriving the system of a test: reforms by (path, what `apply()` does),
      extensions -/
  | testRunner (src : Nat) (reforms : List (String × List Mod)) (exts : List Ext)
deriving Repr

structure State where
  heap    : Heap
  systems : List Oid
  memo    : List (TRKey × Oid) := []      -- `_tax_benefit_system_cache`
deriving Repr

/-- one step; the flag says whether the call returned normally -/
def step (st : State) : Op → State × Bool
  | .clone src =>
    match st.systems[src]? with
    | none => (st, false)
    | some sid =>
      match cloneSys st.heap sid with
      | .ok (h, n) => ({ st with heap := h, systems := st.systems ++ [n] }, true)
      | .error _ => (st, false)
  | .reform src mods =>
    match st.systems[src]? with
    | none => (st, false)
    | some sid =>
      match reformSys st.heap sid mods with
      | (h, .ok n) => ({ st with heap := h, systems := st.systems ++ [n] }, true)
      | (h, .error _) => ({ st with heap := h }, false)
  | .modify tgt m =>
    match st.systems[tgt]? with
    | none => (st, false)
    | some sid =>
      match applyMod st.heap sid m with
      | (h, .ok ()) => ({ st with heap := h }, true)
      | (h, .error _) => ({ st with heap := h }, false)
  | .testRunner src reforms exts =>
    match st.systems[src]? with
    | none => (st, false)
    | some sid =>
      let key : TRKey := (sid, reforms.map (fun r => r.1), nameSet (exts.map (fun e => e.name)))
      match lookupMemo key st.memo with
      | some _ => (st, true)               -- cache hit: the system derived earlier, nothing new
      | none =>
        match testRunnerDerive st.heap sid (reforms.map (fun r => r.2)) exts with
        | (h, .ok R) => ({ heap := h, systems := st.systems ++ [R], memo := (key, R) :: st.memo }, true)
        | (h, .error _) => ({ st with heap := h }, false)

def run (st : State) : List Op → State
  | [] => st
  | op :: r => run (step st op).1 r

/-- the history only modifies systems it created itself (`k0` systems existed before) -/
def Op.targetsDerived (k0 : Nat) : Op → Prop
  | .clone _ => True
  | .reform _ _ => True
  | .modify tgt _ => k0 ≤ tgt
  | .testRunner _ _ _ => True

instance (k0 : Nat) (op : Op) : Decidable (op.targetsDerived k0) := by
  cases op <;> unfold Op.targetsDerived <;> infer_instance

/-! ## Observations -/

/-- a variable resolved by name in a system -/
def varObs (h : Heap) (sid : Oid) (name : String) : Option VarView :=
  match resolve h sid name with
  | none => none
  | some vid => (h.getVar vid).map (·.view)

/-- … and through one of the system's entities (what a population / holder gets) -/
def varObsVia (h : Heap) (eid : Oid) (name : String) : Option VarView :=
  match resolveVia h eid name with
  | none => none
  | some vid => (h.getVar vid).map (·.view)

/-- the names defined in a system, in dict order -/
def varNames (h : Heap) (sid : Oid) : List String :=
  match h.getSys sid with
  | none => []
  | some s =>
    match h.getMap s.vars with
    | none => []
    | some m => m.map (·.1)

/-- `system.parameters.<name>(date)` -/
def paramObs (h : Heap) (sid : Oid) (name : String) (d : Int) : Option String :=
  match h.getSys sid with
  | none => none
  | some s =>
    match h.getPar s.params with
    | none => none
    | some p =>
      match dictGet name p with
      | none => none
      | some l => pget l d

/-- `base_tax_benefit_system`: the end of the `baseline` chain -/
def rootOf : Nat → Heap → Oid → Oid
  | 0, _, sid => sid
  | fuel + 1, h, sid =>
    match h.getSys sid with
    | none => sid
    | some s =>
      match s.baseline with
      | none => sid
      | some b => rootOf fuel h b

/-- `get_variables(entity=e)`: the names defined for the entity key -/
def namesFor (h : Heap) (sid : Oid) (key : String) : List String :=
  (varNames h sid).filter fun n =>
    match resolve h sid n with
    | none => false
    | some vid => match h.getVar vid with | some v => v.entity == key | none => false

/-- the dated history of a parameter of a system -/
def paramHist (h : Heap) (sid : Oid) (name : String) : Option (List (Entry String)) :=
  match h.getSys sid with
  | none => none
  | some s =>
    match h.getPar s.params with
    | none => none
    | some p => dictGet name p

/-- a declared update as the update request of the parameter model (C06) -/
def PUpd.toUpd (u : PUpd) : Upd String := ⟨u.a, u.b, u.v⟩

/-- everything the property observes of a system -/
structure SysObs where
  names  : List String
  byName : String → Option VarView
  via    : List (String → Option VarView)        -- one per entity, in the system's order
  keys   : List (Option String)                  -- the entities' keys
  param  : String → Int → Option String

def sysObs (h : Heap) (sid : Oid) : SysObs :=
  { names := varNames h sid
    byName := varObs h sid
    via := match h.getSys sid with
           | none => []
           | some s => s.entities.map (fun e => varObsVia h e)
    keys := match h.getSys sid with
            | none => []
            | some s => s.entities.map (fun e => (h.getEnt e).map (·.key))
    param := paramObs h sid }

/-- the system object, its variable dict (whose entries are variable objects) and its parameter
    tree exist -/
def SysWF (h : Heap) (X : Oid) : Prop :=
  ∃ s m p, h.getSys X = some s ∧ h.getMap s.vars = some m ∧ h.getPar s.params = some p ∧
    ∀ e ∈ m, ∃ v, h.getVar e.2 = some v

/-- the variable names a modification declares a change for -/
def Mod.touched : Mod → List String
  | .add c => [c.name]
  | .update c => [c.name]
  | .replace c => [c.name]
  | .neutralize n => [n]
  | .annualize n => [n]
  | .params _ => []
  | .loadExt e => e.vars.map (fun c => c.name)

def Mod.isParams : Mod → Bool
  | .add _ => false
  | .update _ => false
  | .replace _ => false
  | .neutralize _ => false
  | .annualize _ => false
  | .params _ => true
  | .loadExt e => !e.params.isEmpty

/-- `TaxBenefitSystem(entities)`, a parameter tree, then `add_variable` for each class: the base
    systems of the correspondence. The entity objects handed to the constructor stay unbound; the
    system binds its own copies. -/
def baseSystem (keys : List String) (p : ParamTree) (cs : List ClassDef) : Option State :=
  let protos : List Obj := keys.map fun k => Obj.ent { key := k, system := none }
  let n := protos.length
  let sid := n
  let ents : List Obj := keys.map fun k => Obj.ent { key := k, system := some sid }
  let eids := (List.range n).map (fun i => sid + 1 + i)
  let mid := sid + 1 + n
  let pid := mid + 1
  let h : Heap := ⟨protos ++ (Obj.sys { entities := eids, vars := mid, params := pid, baseline := none }
                    :: ents ++ [Obj.vmap [], Obj.par p])⟩
  let rec addAll (h : Heap) : List ClassDef → Option Heap
    | [] => some h
    | c :: r =>
      match loadVariable h sid c false with
      | (h1, .ok ()) => addAll h1 r
      | (_, .error _) => none
  (addAll h cs).map fun h => { heap := h, systems := [sid] }

/-- the identities an observation follows out of an object -/
def Obj.ptrs : Obj → List Oid
  | .sys s => s.vars :: s.params :: s.entities
  | .ent e => match e.system with | some i => [i] | none => []
  | .vmap m => m.map (fun p => p.2)
  | .var _ => []
  | .par _ => []

/-- no dangling reference: what an allocation-built heap always satisfies -/
def Closed (h : Heap) : Prop := ∀ o ∈ h.objs, ∀ j ∈ o.ptrs, j < h.next

instance (h : Heap) : Decidable (Closed h) := by unfold Closed; infer_instance

/-! ## Holders and calculations, as far as the property speaks of them -/

/-- `Holder.get_array(period)`: the store is not even read for a neutralised variable -/
def holderGet {P : Type} (v : VarView) (store : P → Option String) (p : P) : Option String :=
  if v.isNeutralized then some v.default else store p

/-- `Holder.set_input(period, value)`: ignored (a warning) for a neutralised variable -/
def holderSetInput {P : Type} [DecidableEq P] (v : VarView) (store : P → Option String) (p : P)
    (x : String) : P → Option String :=
  if v.isNeutralized then store else fun q => if q = p then some x else store q

/-- `Simulation._calculate` for one request on a non-recursive formula environment: a known value
    wins, else the formula in force at the period's start runs (`runF`), else the default -/
def calcVal {P : Type} (v : VarView) (store : P → Option String) (start : P → Int)
    (runF : Fml → P → String) (p : P) : String :=
  match holderGet v store p with
  | some a => a
  | none =>
    match getFormula v (start p) with
    | some f => runF f p
    | none => v.default

/-- a frame of the tracer's stack -/
structure Frame where
  name   : String
  year   : Int
  month  : Nat
deriving DecidableEq, Repr

inductive CalcRes where
  | val (x : String)
  | cycle                         -- `CycleError` (propagates)
  | fuel
deriving DecidableEq, Repr

/-- `Simulation.calculate(name, year-month)` on an annualised monthly variable whose wrapped
    formula is a leaf (`orig`, it requests nothing). `stack` = the frames *above* the current one
    (`tracer.stack[:-1]`), `L = max_spiral_loops`, `cache` = the values already known,
    `inForce` = a formula is in force at that month (`get_formula`).
    `_check_for_cycle`: same (name, period) above ⇒ `CycleError`; `L` or more frames of the same
    variable above ⇒ `SpiralError`, caught by `_calculate`, which returns the default.
    `annual_formula`: not January ⇒ `population(name, period.this_year.first_month)`. -/
def annCalc (L : Nat) (dflt : String) (orig : Int → Nat → String) (inForce : Int → Nat → Bool)
    (cache : Int → Nat → Option String) (name : String) :
    Nat → List Frame → Int → Nat → CalcRes
  | 0, _, _, _ => .fuel
  | fuel + 1, stack, y, m =>
    match cache y m with
    | some a => .val a
    | none =>
      let previous := stack.filter (fun f => f.name = name)
      if previous.any (fun f => f.year = y ∧ f.month = m) then .cycle
      else if L ≤ previous.length then .val dflt
      else if inForce y m = false then .val dflt
      else if m ≠ 1 then annCalc L dflt orig inForce cache name fuel (stack ++ [⟨name, y, m⟩]) y 1
      else .val (orig y m)

end OFCore.HeapSys
