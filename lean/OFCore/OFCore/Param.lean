/-!
# Dated legislation parameters (import-free model) — property C06

Python counterparts (openfisca_core/parameters):

* `Parameter.values_list`           ↦ `List (Entry V)` in reverse chronological order
* `Parameter.__init__(data=…)`      ↦ `ofData` (keys sorted in reverse, `expected` placeholders skipped)
* `Parameter._get_at_instant`       ↦ `pget`
* `Parameter.update`                ↦ `updateCall` (argument checking) and `update` (the five phases)
* `ParameterNode._get_at_instant` / `ParameterNodeAtInstant.__init__` ↦ `PNode.atInstant` / `childrenAt`
* `ParameterScale._get_at_instant`  ↦ `scaleAt` (+ `scaleAdd` for the tax scales' `add_bracket`)

Abstraction. The code keeps instants as zero-padded ISO strings `YYYY-MM-DD` and compares them as
strings; the model keeps the proleptic ordinal of the same date (`datetime.date.toordinal`, `ord` in
`Calendar.lean`). On valid dates of years 1..9999 string order is the lexicographic order on
`(y, m, d)`, which `Lemmas/Calendar.lean` (`ord_lt_of_lex`, `ord_inj`) proves to be the order of the
ordinals; `stop.offset(1, "day")` is `ordinal + 1`. Values are an arbitrary type `V`
(`float | int | bool | list` in the code); a YAML `null` is `none`.
-/
namespace OFCore.Param

/-- one `ParameterAtInstant`: `instant_str` (as an ordinal) and `value` (`none` = null) -/
structure Entry (V : Type) where
  date : Int
  val  : Option V
deriving Repr, DecidableEq

variable {V : Type}

/-! ## Reading -/

/-- `Parameter._get_at_instant`: the first entry (in list order) dated on or before `d`;
    `None` when there is none — and also when that entry's value is null. -/
def pget : List (Entry V) → Int → Option V
  | [], _ => none
  | e :: r, d => if e.date ≤ d then e.val else pget r d

/-- the state invariant `Parameter.values_list` is documented to have: strictly decreasing dates -/
def Sorted : List (Entry V) → Prop
  | [] => True
  | [_] => True
  | e :: f :: r => f.date < e.date ∧ Sorted (f :: r)

instance decSorted : (l : List (Entry V)) → Decidable (Sorted l)
  | [] => isTrue trivial
  | [_] => isTrue trivial
  | e :: f :: r =>
    match decSorted (f :: r) with
    | isTrue h => if h' : f.date < e.date then isTrue ⟨h', h⟩ else isFalse (fun c => h' c.1)
    | isFalse h => isFalse (fun c => h c.2)

/-! ## Construction from a `{date: …}` mapping -/

/-- what a date key maps to in the `data` dict -/
inductive Item (V : Type) where
  | value (v : Option V)      -- `{value: v}` or a bare `v`
  | expected                  -- `"expected"` or `{expected: …}`: metadata only, skipped
deriving Repr, DecidableEq

/-- insertion into a list sorted by decreasing key (model of `sorted(keys, reverse=True)`) -/
def insertDesc (x : Int × Item V) : List (Int × Item V) → List (Int × Item V)
  | [] => [x]
  | y :: r => if y.1 ≤ x.1 then x :: y :: r else y :: insertDesc x r

def sortDesc : List (Int × Item V) → List (Int × Item V)
  | [] => []
  | x :: r => insertDesc x (sortDesc r)

/-- the loop of `Parameter.__init__` over the sorted instants -/
def keepValues : List (Int × Item V) → List (Entry V)
  | [] => []
  | (d, .value v) :: r => ⟨d, v⟩ :: keepValues r
  | (_, .expected) :: r => keepValues r

/-- `Parameter.__init__`: `items` is the mapping in declaration order (keys distinct) -/
def ofData (items : List (Int × Item V)) : List (Entry V) := keepValues (sortDesc items)

/-! ## `Parameter.update` -/

/-- phase 1, `while i < n and old[i].instant_str >= stop_str: new.append(old[i]); i += 1`:
    the entries appended -/
def keepFrom : List (Entry V) → Int → List (Entry V)
  | [], _ => []
  | e :: r, s => if s ≤ e.date then e :: keepFrom r s else []

/-- the same loop seen from the index: `old[i:]` once the leading entries dated `≥ s` are passed
    (phase 1 with `s = stop_str`, phase 4 with `s = start_str`) -/
def skipFrom : List (Entry V) → Int → List (Entry V)
  | [], _ => []
  | e :: r, s => if s ≤ e.date then skipFrom r s else e :: r

/-- `new_values[-1].instant_str` -/
def lastDate : List (Entry V) → Option Int
  | [] => none
  | [e] => some e.date
  | _ :: f :: r => lastDate (f :: r)

/-- phase 2 ("right-overlapped interval"): what is appended at `s = stop + 1 day` -/
def reopen (future rest : List (Entry V)) (s : Int) : List (Entry V) :=
  if lastDate future = some s then []            -- such interval is empty
  else match rest with
    | e :: _ => [⟨s, e.val⟩]                      -- `elif i < n`: the overlapped value goes on after `stop`
    | [] => [⟨s, none⟩]                           -- nothing earlier: undefined after `stop`

/-- the body of `Parameter.update` for a closed range: `a` = `start_str`, `s` = `stop_str`
    (the day after `stop`). All five phases, in the code's order. -/
def updateSpan (l : List (Entry V)) (a s : Int) (v : Option V) : List (Entry V) :=
  let future := keepFrom l s                          -- phase 1
  let rest := skipFrom l s                            -- `old_values[i:]`
  future ++ reopen future rest s                      -- phase 2
    ++ (⟨a, v⟩ :: skipFrom rest a)                    -- phases 3, 4, 5

/-- `Parameter.update` once `start` / `stop` are known; `stop = none` is the open-ended form.
    `a` = start, `b` = stop (inclusive last day); `stop.offset(1, "day")` is `b + 1`. -/
def update (l : List (Entry V)) (a : Int) (stop : Option Int) (v : Option V) : List (Entry V) :=
  match stop with
  | none => ⟨a, v⟩ :: skipFrom l a                      -- phases 1-2 do not run
  | some b => updateSpan l a (b + 1) v

/-- the argument checking at the top of `Parameter.update`: `period` (given as its first and last
    day) excludes `start` / `stop`; a start is mandatory -/
def updateCall (l : List (Entry V)) (period : Option (Int × Int)) (start stop : Option Int)
    (v : Option V) : Except String (List (Entry V)) :=
  match period with
  | some (ps, pe) =>
    if start.isSome || stop.isSome then .error "TypeError: both period and start/stop"
    else .ok (update l ps (some pe) v)
  | none =>
    match start with
    | none => .error "ValueError: neither start nor period"
    | some a => .ok (update l a stop v)

/-- a well-formed update request: start, optional inclusive stop, new value -/
structure Upd (V : Type) where
  a : Int
  b : Option Int
  v : Option V
deriving Repr

/-- the dates an update is meant to cover -/
def Upd.covers (u : Upd V) (d : Int) : Prop :=
  u.a ≤ d ∧ match u.b with | some b => d ≤ b | none => True

instance (u : Upd V) (d : Int) : Decidable (u.covers d) := by
  unfold Upd.covers; cases u.b <;> infer_instance

/-- claim domain: `start ≤ stop` -/
def Upd.WF (u : Upd V) : Prop := match u.b with | some b => u.a ≤ b | none => True

instance (u : Upd V) : Decidable u.WF := by unfold Upd.WF; cases u.b <;> infer_instance

def applyUpd (l : List (Entry V)) (u : Upd V) : List (Entry V) := update l u.a u.b u.v

/-- a finite sequence of updates, applied in order -/
def updates (l : List (Entry V)) (us : List (Upd V)) : List (Entry V) := us.foldl applyUpd l

/-! ## Scales at an instant -/

/-- a `ParameterScaleBracket`: four dated parameters (a missing key is an empty history) -/
structure Bracket where
  threshold   : List (Entry Rat)
  rate        : List (Entry Rat)
  amount      : List (Entry Rat)
  averageRate : List (Entry Rat)
deriving Repr

inductive ScaleKind where
  | singleAmount | marginalAmount | linearAverageRate | marginalRate
deriving Repr, DecidableEq

def ScaleKind.name : ScaleKind → String
  | .singleAmount => "single_amount" | .marginalAmount => "marginal_amount"
  | .linearAverageRate => "linear_average_rate" | .marginalRate => "marginal_rate"

/-- the dated field a scale kind reads besides the threshold -/
def Bracket.field (b : Bracket) : ScaleKind → List (Entry Rat)
  | .singleAmount => b.amount | .marginalAmount => b.amount
  | .linearAverageRate => b.averageRate | .marginalRate => b.rate

/-- `rates[i] += rate` at the first row whose threshold is `t` -/
def bumpRow : List (Rat × Rat) → Rat → Rat → List (Rat × Rat)
  | [], _, _ => []
  | (t', r') :: rest, t, r => if t' = t then (t', r' + r) :: rest else (t', r') :: bumpRow rest t r

/-- `insert(bisect_left(thresholds, t), …)` on a sorted list: before the first row `≥ t` -/
def insertRow : List (Rat × Rat) → Rat → Rat → List (Rat × Rat)
  | [], t, r => [(t, r)]
  | (t', r') :: rest, t, r => if t ≤ t' then (t, r) :: (t', r') :: rest else (t', r') :: insertRow rest t r

/-- `RateTaxScaleLike.add_bracket` / `AmountTaxScaleLike.add_bracket` -/
def scaleAdd (rows : List (Rat × Rat)) (t r : Rat) : List (Rat × Rat) :=
  if rows.any (fun p => p.1 == t) then bumpRow rows t r else insertRow rows t r

/-- `"amount" in bracket._children` etc.: the dated field has a non-null value at `d` -/
def hasAt (l : List (Entry Rat)) (d : Int) : Bool := (pget l d).isSome

/-- the class of scale `ParameterScale._get_at_instant` builds at `d` -/
def scaleKindAt (singleAmount : Bool) (bs : List Bracket) (d : Int) : ScaleKind :=
  if singleAmount then .singleAmount
  else if bs.any (fun b => hasAt b.amount d) then .marginalAmount
  else if bs.any (fun b => hasAt b.averageRate d) then .linearAverageRate
  else .marginalRate

/-- the `(threshold, value)` a bracket contributes at `d`, if both are defined there -/
def bracketPair (k : ScaleKind) (d : Int) (b : Bracket) : Option (Rat × Rat) :=
  match pget (b.field k) d, pget b.threshold d with
  | some x, some t => some (t, x)
  | _, _ => none

structure ScaleAt where
  kind : ScaleKind
  rows : List (Rat × Rat)      -- (threshold, rate | amount), as the tax scale stores them
deriving Repr

/-- `for bracket in brackets: if … in bracket._children: scale.add_bracket(threshold, value)` -/
def addAll (k : ScaleKind) (d : Int) : List Bracket → List (Rat × Rat) → List (Rat × Rat)
  | [], rows => rows
  | b :: bs, rows =>
    match bracketPair k d b with
    | some (t, x) => addAll k d bs (scaleAdd rows t x)
    | none => addAll k d bs rows

/-- `ParameterScale._get_at_instant`; `singleAmount` = (`metadata["type"] == "single_amount"`) -/
def scaleAt (singleAmount : Bool) (bs : List Bracket) (d : Int) : ScaleAt :=
  let k := scaleKindAt singleAmount bs d
  ⟨k, addAll k d bs []⟩

/-! ## Nodes at an instant -/

/-- a parameter tree: `Parameter`, `ParameterScale`, `ParameterNode` (children in dict order) -/
inductive PNode (V : Type) where
  | param (l : List (Entry V))
  | scale (singleAmount : Bool) (bs : List Bracket)
  | node (cs : List (String × PNode V))

/-- what `_get_at_instant` returns: a value, a tax scale, a `ParameterNodeAtInstant` -/
inductive Snap (V : Type) where
  | val (v : V)
  | scale (s : ScaleAt)
  | node (cs : List (String × Snap V))

mutual
/-- `child._get_at_instant(instant_str)`; `none` is Python's `None` -/
def PNode.atInstant : PNode V → Int → Option (Snap V)
  | .param l, d => (pget l d).map .val
  | .scale m bs, d => some (.scale (scaleAt m bs d))
  | .node cs, d => some (.node (childrenAt cs d))
/-- the loop of `ParameterNodeAtInstant.__init__`: keep the children that are not `None` -/
def childrenAt : List (String × PNode V) → Int → List (String × Snap V)
  | [], _ => []
  | (k, c) :: r, d =>
    match c.atInstant d with
    | some s => (k, s) :: childrenAt r d
    | none => childrenAt r d
end

/-- "child is defined at `d`", stated without running `atInstant`: a parameter needs a non-null
    value in force; sub-nodes and scales are always exposed -/
def PNode.definedAt : PNode V → Int → Bool
  | .param l, d => (pget l d).isSome
  | .scale _ _, _ => true
  | .node _, _ => true

/-! ## Building a node: `add_child`, `merge` -/

/-- `ParameterNode.add_child`: a name already present is refused (`ValueError`), otherwise the
    child is appended (dict insertion order). Every construction route — `data=` dict, directory
    of YAML files, explicit `add_child`, `merge` — goes through it. -/
def addChild (cs : List (String × PNode V)) (name : String) (c : PNode V) :
    Except String (List (String × PNode V)) :=
  if cs.any (fun p => p.1 == name) then .error "ValueError: already a child of that name"
  else .ok (cs ++ [(name, c)])

/-- `ParameterNode.merge`: `add_child` for every child of the other node, in its order -/
def mergeChildren (cs : List (String × PNode V)) : List (String × PNode V) →
    Except String (List (String × PNode V))
  | [] => .ok cs
  | (k, c) :: rest =>
    match addChild cs k c with
    | .ok cs' => mergeChildren cs' rest
    | .error e => .error e

/-! ## Keys spelled `YYYY`, `YYYY-MM`, `YYYY-MM-DD`

`INSTANT_PATTERN` accepts the three spellings; the code keeps the key TEXT as `instant_str` and compares
texts. A short key is a proper prefix of the full spelling of its first day, hence sorts just BEFORE it
and after every earlier day: `"2014-12-31" < "2015" < "2015-01" < "2015-01-01" < "2015-01-02"`. The
model keeps three ticks per day: the full spelling of day `o` is `3 * o`, the month spelling whose first
day is `o` is `3 * o - 1`, the year spelling `3 * o - 2` (`Lemmas/ParamKeys.lean`, `fine_lt_of_lex`: the order
of the ticks is the order of the texts). Query dates and the bounds of `update` are full dates. -/

inductive Spell where
  | year | month | day
deriving Repr, DecidableEq

/-- the tick of a key whose first day has ordinal `o` -/
def fine (o : Int) : Spell → Int
  | .day => 3 * o
  | .month => 3 * o - 1
  | .year => 3 * o - 2

/-- `Parameter.update` on a history whose keys are ticks: `start_str` and `stop_str` are full dates -/
def updateFine (l : List (Entry V)) (a : Int) (stop : Option Int) (v : Option V) : List (Entry V) :=
  match stop with
  | none => ⟨3 * a, v⟩ :: skipFrom l (3 * a)
  | some b => updateSpan l (3 * a) (3 * (b + 1)) v

/-- the same argument checking as `updateCall` -/
def updateCallFine (l : List (Entry V)) (period : Option (Int × Int)) (start stop : Option Int)
    (v : Option V) : Except String (List (Entry V)) :=
  match period with
  | some (ps, pe) =>
    if start.isSome || stop.isSome then .error "TypeError: both period and start/stop"
    else .ok (updateFine l ps (some pe) v)
  | none =>
    match start with
    | none => .error "ValueError: neither start nor period"
    | some a => .ok (updateFine l a stop v)

/-! ## Construction from YAML-like data: `helpers._parse_child` and the constructors it dispatches to

`Parameter.__init__`, `ParameterAtInstant.__init__` / `validate`, `ParameterNode.__init__(data=…)`,
`ParameterScale.__init__`, `ParameterScaleBracket` — with every branch that raises. Which exception class is
raised is not modelled (`.error` carries a hint only). -/

/-- a mapping key as the YAML loader / a Python dict hands it over -/
inductive YKey where
  | date (o : Int) (sp : Spell) (text : String)   -- a text matching `INSTANT_PATTERN`; `o` = ordinal of its first day
  | name (s : String)                             -- any other text
  | int (i : Int)                                 -- an integer (YAML `2: …`)
deriving Repr, DecidableEq

/-- what `yaml.load` returns (numbers as canonical tokens) -/
inductive Y where
  | null
  | bool (b : Bool)
  | num (tok : String)
  | str (s : String)
  | list (xs : List Y)
  | map (kvs : List (YKey × Y))

/-- `str(key)` -/
def YKey.text : YKey → String
  | .date _ _ t => t
  | .name s => s
  | .int i => toString i

/-- `periods.INSTANT_PATTERN.match(str(key))` (an integer prints as four digits iff it is in 1000..9999) -/
def YKey.isInstant : YKey → Bool
  | .date _ _ _ => true
  | .name _ => false
  | .int i => decide (1000 ≤ i) && decide (i ≤ 9999)

def YKey.isName (k : YKey) (s : String) : Bool :=
  match k with
  | .name t => t == s
  | .date _ _ _ => false
  | .int _ => false

/-- `data.get(s)` -/
def lookupName : List (YKey × Y) → String → Option Y
  | [], _ => none
  | (k, y) :: r, s => if k.isName s then some y else lookupName r s

/-- `s in data` -/
def hasName (kvs : List (YKey × Y)) (s : String) : Bool := (lookupName kvs s).isSome

def commonKeys : List String := ["description", "metadata", "unit", "reference", "documentation"]

def YKey.within (k : YKey) (allowed : List String) : Bool :=
  match k with
  | .name s => allowed.contains s
  | .date _ _ _ => false
  | .int _ => false

/-- `_validate_parameter(…, allowed_keys=…)` passes -/
def keysWithin (kvs : List (YKey × Y)) (allowed : List String) : Bool := kvs.all (fun p => p.1.within allowed)

/-- Python truthiness -/
def Y.truthy : Y → Bool
  | .null => false
  | .bool b => b
  | .num t => t != "0"
  | .str s => s != ""
  | .list xs => !xs.isEmpty
  | .map kvs => !kvs.isEmpty

/-- `self.metadata.update(data.get("metadata", {}))` succeeds (a mapping, or no such key) -/
def metaOk (kvs : List (YKey × Y)) : Bool :=
  match lookupName kvs "metadata" with
  | none => true
  | some (.map _) => true
  | some .null => false
  | some (.bool _) => false
  | some (.num _) => false
  | some (.str _) => false
  | some (.list _) => false

/-- the token of a list element -/
def Y.elemTok : Y → String
  | .null => "none"
  | .bool b => if b then "T" else "F"
  | .num t => t
  | .str _ => "?"
  | .list _ => "?"
  | .map _ => "?"

/-- `isinstance(x, ALLOWED_PARAM_TYPES)` (float, int, bool, None, list) and the value's token -/
def Y.valTok : Y → Option (Option String)
  | .null => some none
  | .bool b => some (some (if b then "T" else "F"))
  | .num t => some (some t)
  | .list xs => some (some ("L" ++ "_".intercalate (xs.map Y.elemTok)))
  | .str _ => none
  | .map _ => none

def atInstantKeys : List String := ["value", "metadata", "unit", "reference"]

/-- what a date key maps to: the `expected` test of `Parameter.__init__`, then `ParameterAtInstant.__init__` -/
def itemOf : Y → Except String (Item String)
  | .str s => if s == "expected" then .ok .expected else .error "must be of type object"
  | .map kvs =>
    if (match lookupName kvs "expected" with | some e => e.truthy | none => false) then .ok .expected
    else if !keysWithin kvs atInstantKeys then .error "Unexpected property"
    else match lookupName kvs "value" with
      | none => .error "Missing 'value' property"
      | some v =>
        match v.valTok with
        | none => .error "not one of the allowed types"
        | some tok => if metaOk kvs then .ok (.value tok) else .error "metadata"
  | .null => .ok (.value none)
  | .bool b => .ok (.value (some (if b then "T" else "F")))
  | .num t => .ok (.value (some t))
  | .list xs => .ok (.value (some ("L" ++ "_".intercalate (xs.map Y.elemTok))))

/-- the loop of `Parameter.__init__` over the keys: every key must be an instant TEXT -/
def paramItems : List (YKey × Y) → Except String (List (Int × Item String))
  | [] => .ok []
  | (.date o sp _, y) :: r =>
    match itemOf y, paramItems r with
    | .ok it, .ok its => .ok ((fine o sp, it) :: its)
    | .error e, _ => .error e
    | _, .error e => .error e
  | (.name _, _) :: _ => .error "Invalid property: must be a valid YYYY-MM-DD instant"
  | (.int _, _) :: _ => .error "TypeError: expected string"

/-- the mapping holding the dated values: under `values` (the declaration with description and metadata)
    or the data itself (simplified declaration) -/
def paramValues (kvs : List (YKey × Y)) : Except String (List (YKey × Y)) :=
  match lookupName kvs "values" with
  | some vs =>
    if vs.truthy then
      if !keysWithin kvs (commonKeys ++ ["values"]) then .error "Unexpected property"
      else if !metaOk kvs then .error "metadata"
      else match vs with
        | .map vkvs => .ok vkvs
        | .null => .error "must be of type object"
        | .bool _ => .error "must be of type object"
        | .num _ => .error "must be of type object"
        | .str _ => .error "must be of type object"
        | .list _ => .error "must be of type object"
    else .ok kvs          -- `if data.get("values")` is false: the key `values` is then taken for an instant
  | none => .ok kvs

/-- `Parameter.__init__(name, data)` for a mapping `data`: the values list, in ticks -/
def buildParam (kvs : List (YKey × Y)) : Except String (List (Entry String)) :=
  match paramValues kvs with
  | .error e => .error e
  | .ok vs =>
    match paramItems vs with
    | .error e => .error e
    | .ok its => .ok (ofData its)

def bracketKeys : List String := ["amount", "threshold", "rate", "average_rate"]

/-- `metadata.get("type") == "single_amount"` -/
def isSingleAmount (kvs : List (YKey × Y)) : Bool :=
  match lookupName kvs "metadata" with
  | some (.map m) =>
    (match lookupName m "type" with
     | some (.str s) => s == "single_amount"
     | _ => false)
  | _ => false

/-- a bracket field must be a dated parameter with numeric values (anything else is outside the model:
    `UNSUP`) -/
def ratEntries (rat : String → Option Rat) : List (Entry String) → Option (List (Entry Rat))
  | [] => some []
  | e :: r =>
    match (match e.val with
           | none => some none
           | some t => (rat t).map some), ratEntries rat r with
    | some v, some r' => some (⟨e.date, v⟩ :: r')
    | _, _ => none

def setField (b : Bracket) (k : String) (l : List (Entry Rat)) : Bracket :=
  if k == "threshold" then { b with threshold := l }
  else if k == "rate" then { b with rate := l }
  else if k == "amount" then { b with amount := l }
  else { b with averageRate := l }

mutual
/-- `helpers._parse_child(name, child, path)` -/
def parseChild (rat : String → Option Rat) : Y → Except String (PNode String)
  | .map kvs =>
    if hasName kvs "values" then
      match buildParam kvs with
      | .ok l => .ok (.param l)
      | .error e => .error e
    else if hasName kvs "brackets" then
      -- `ParameterScale.__init__`
      if !keysWithin kvs (commonKeys ++ ["brackets"]) then .error "Unexpected property"
      else if !metaOk kvs then .error "metadata"
      else match scaleBrackets rat kvs with
        | .ok bs => .ok (.scale (isSingleAmount kvs) bs)
        | .error e => .error e
    else if kvs.all (fun p => p.1.isInstant) then
      match buildParam kvs with
      | .ok l => .ok (.param l)
      | .error e => .error e
    else
      -- `ParameterNode.__init__(name, data=child)`
      if !metaOk kvs then .error "metadata"
      else match nodeKids rat kvs [] with
        | .ok cs => .ok (.node cs)
        | .error e => .error e
  | .null => .error "TypeError: argument of type 'NoneType' is not iterable"
  | .bool _ => .error "TypeError: argument of type 'bool' is not iterable"
  | .num _ => .error "TypeError: argument of type 'int' is not iterable"
  | .str _ => .error "must be of type object"
  | .list _ => .error "must be of type object"
/-- the loop of `ParameterNode.__init__` over `data.items()`: reserved keys are not members, a key is
    turned into text, the child is parsed and handed to `add_child` -/
def nodeKids (rat : String → Option Rat) : List (YKey × Y) → List (String × PNode String) →
    Except String (List (String × PNode String))
  | [], acc => .ok acc
  | (k, y) :: r, acc =>
    if k.within commonKeys then nodeKids rat r acc
    else match parseChild rat y with
      | .error e => .error e
      | .ok c =>
        match addChild acc k.text c with
        | .error e => .error e
        | .ok acc' => nodeKids rat r acc'
/-- `data.get("brackets", [])`, which must be a list -/
def scaleBrackets (rat : String → Option Rat) : List (YKey × Y) → Except String (List Bracket)
  | [] => .ok []
  | (k, y) :: r =>
    if k.isName "brackets" then
      match y with
      | .list xs => bracketList rat xs
      | .null => .error "must be of type array"
      | .bool _ => .error "must be of type array"
      | .num _ => .error "must be of type array"
      | .str _ => .error "must be of type array"
      | .map _ => .error "must be of type array"
    else scaleBrackets rat r
def bracketList (rat : String → Option Rat) : List Y → Except String (List Bracket)
  | [] => .ok []
  | b :: r =>
    match bracketOf rat b with
    | .error e => .error e
    | .ok x =>
      match bracketList rat r with
      | .error e => .error e
      | .ok xs => .ok (x :: xs)
/-- `ParameterScaleBracket(name, data)`: a node whose keys are restricted to the four fields -/
def bracketOf (rat : String → Option Rat) : Y → Except String Bracket
  | .map kvs =>
    if !keysWithin kvs bracketKeys then .error "Unexpected property"
    else bracketFields rat kvs ⟨[], [], [], []⟩
  | .null => .error "must be of type object"
  | .bool _ => .error "must be of type object"
  | .num _ => .error "must be of type object"
  | .str _ => .error "must be of type object"
  | .list _ => .error "must be of type object"
def bracketFields (rat : String → Option Rat) : List (YKey × Y) → Bracket → Except String Bracket
  | [], b => .ok b
  | (k, y) :: r, b =>
    match parseChild rat y with
    | .error e => .error e
    | .ok (.param l) =>
      (match ratEntries rat l with
       | some l' => bracketFields rat r (setField b k.text l')
       | none => .error "UNSUP")
    | .ok (.scale _ _) => .error "UNSUP"
    | .ok (.node _) => .error "UNSUP"
end

/-! ## Construction from a directory of YAML files: `ParameterNode.__init__(name, directory_path=…)` -/

/-- an entry of a directory listing: a file (`os.path.splitext` of its name, and what `yaml.load` makes of its
    content) or a sub-directory -/
inductive DirEnt where
  | file (stem ext : String) (content : Y)
  | dir (name : String) (entries : List DirEnt)

/-- `config.FILE_EXTENSIONS` -/
def yamlExts : List String := [".yaml", ".yml"]

/-- `index.yaml`: `data = _load_yaml_file(path) or {}`, the keys must be the reserved ones, the metadata a
    mapping (a content that is true but not a mapping has no `.keys()`) -/
def indexOk : Y → Bool
  | .map kvs => keysWithin kvs commonKeys && metaOk kvs
  | .null => true
  | .bool b => !b
  | .num t => t == "0"
  | .str t => t == ""
  | .list xs => xs.isEmpty

mutual
/-- one entry of the listing: files of other types are ignored, `index` describes the node itself, any other
    YAML file is a child named by its stem (`load_parameter_file` → `_parse_child`), a sub-directory is a child
    node; every child goes through `add_child`, so `a.yaml` beside `a.yml` or beside a directory `a` is refused -/
def buildEnt (rat : String → Option Rat) : DirEnt → List (String × PNode String) →
    Except String (List (String × PNode String))
  | .file stem ext content, acc =>
    if !yamlExts.contains ext then .ok acc
    else if stem == "index" then
      if indexOk content then .ok acc else .error "index: unexpected property"
    else
      match parseChild rat content with
      | .error e => .error e
      | .ok c => addChild acc stem c
  | .dir name entries, acc =>
    match buildDir rat entries [] with
    | .error e => .error e
    | .ok cs => addChild acc name (.node cs)
/-- the loop over `os.listdir(directory_path)`, in listing order -/
def buildDir (rat : String → Option Rat) : List DirEnt → List (String × PNode String) →
    Except String (List (String × PNode String))
  | [], acc => .ok acc
  | e :: r, acc =>
    match buildEnt rat e acc with
    | .error err => .error err
    | .ok acc' => buildDir rat r acc'
end

/-! ## Names: what a missing member is called -/

/-- `helpers._compose_name(path, child_name)` -/
def composeChild (path child : String) : String := if path == "" then child else path ++ "." ++ child

/-- `helpers._compose_name(path, item_name=key)`, the name `ParameterNotFoundError` carries when
    `node_at_instant.key` misses (Python's `None` for a node without a name) -/
def composeItem (path key : String) : String := if path == "" then "None" else path ++ "[" ++ key ++ "]"

/-- the children of a node that `node(d)` does NOT expose, each with the name the error carries -/
def absentAt (name : String) : List (String × PNode V) → Int → List (String × String)
  | [], _ => []
  | (k, c) :: r, d => if c.definedAt d then absentAt name r d else (k, composeItem name k) :: absentAt name r d

/-! ## `get_descendants` -/

mutual
/-- the `name`s of `node.get_descendants()`: every child followed by its own descendants, in dict order
    (a parameter and a scale have none: brackets are not descendants) -/
def PNode.descNames (name : String) : PNode V → List String
  | .param _ => []
  | .scale _ _ => []
  | .node cs => descAll name cs
def descAll (name : String) : List (String × PNode V) → List String
  | [] => []
  | (k, c) :: r => composeChild name k :: (c.descNames (composeChild name k) ++ descAll name r)
end

/-! ## Histories over several objects: `clone()` -/

/-- one step of a history over several objects (`Parameter`, `ParameterNode`, `ParameterScale`):
    `x.clone()` creates a new object (numbered after the existing ones), an update addresses one
    object. `U` is whatever an update request is for the kind of object at hand. -/
inductive HOp (U : Type) where
  | clone (src : Nat)
  | upd (obj : Nat) (u : U)
deriving Repr

/-- the object an operation writes to -/
def HOp.target {U : Type} : HOp U → Option Nat
  | .clone _ => none
  | .upd i _ => some i

/-- The objects are pure values: `clone()` (which rebuilds `values_list`, the children, the
    brackets) is a copy; an update replaces the addressed object only. `f` applies one update
    request to one object. Out-of-range indices leave the state as it is. -/
def runOp {σ U : Type} (f : σ → U → σ) (st : List σ) : HOp U → List σ
  | .clone s => match st[s]? with
    | some x => st ++ [x]
    | none => st
  | .upd i u => match st[i]? with
    | some x => st.set i (f x u)
    | none => st

def runOps {σ U : Type} (f : σ → U → σ) (st : List σ) (ops : List (HOp U)) : List σ :=
  ops.foldl (runOp f) st

/-- bookkeeping for the specification: an object's *own* sequence of updates is extended by the
    updates addressed to it and inherited by its clones -/
def snoc {U : Type} (us : List U) (u : U) : List U := us ++ [u]

/-! ## Specification vocabulary (used by the theorems of `Props/C06.lean`) -/

/-- `e` is the most recent entry of `l` on or before `d` -/
def IsLatest (l : List (Entry V)) (d : Int) (e : Entry V) : Prop :=
  e ∈ l ∧ e.date ≤ d ∧ ∀ e' ∈ l, e'.date ≤ d → e'.date ≤ e.date

/-- what one update is meant to do to the value read at `d` -/
def specStep (d : Int) (acc : Option V) (u : Upd V) : Option V :=
  if u.covers d then u.v else acc

/-- the rate / amount stored for threshold `t` (0 when `t` is not a threshold) -/
def rowVal : List (Rat × Rat) → Rat → Rat
  | [], _ => 0
  | (t', r') :: rest, t => if t' = t then r' else rowVal rest t

/-- the sum of the values of the brackets whose threshold at `d` is `t` (both defined at `d`) -/
def contribSum (k : ScaleKind) (d : Int) : List Bracket → Rat → Rat
  | [], _ => 0
  | b :: bs, t =>
    (match bracketPair k d b with
      | some (t', x) => if t' = t then x else 0
      | none => 0) + contribSum k d bs t

end OFCore.Param
