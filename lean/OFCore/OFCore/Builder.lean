import OFCore.PeriodText
/-!
# Situation document → simulation (import-free apart from the period model)

Transcription of the REPAIRED code (fixes C12a … C12f and C12gh, C12i, C12j, C12k, C12l, C12n, C12-errclass-axes applied):

* `openfisca_core/simulations/simulation_builder.py` : `build_from_dict`, `build_from_entities`,
  `explicit_singular_entities`, `add_person_entity`, `add_group_entity`,
  `add_default_group_entity`, `check_persons_to_allocate`, `init_variable_values`,
  `add_variable_value`, `get_input`, `expand_axes`, `finalize_variables_init`
* `_build_from_variables.py`, `_build_default_simulation.py`, `helpers.py`, `_type_guards.py`
* `openfisca_core/variables/variable.py` : `check_set_value`, `default_array`

A document is a JSON-like tree (`Doc`); objects are association lists whose keys are text or
integers (a Python `dict` built from YAML may have integer keys).  Period keys are read ONLY
through `parseKey` (= `periods.period`), the input buffer is keyed by the canonical text
`Period.text (parseKey k)` on the reading and on the writing side (repair C12a).

The distribution of an input over sub-periods (`Holder.set_input`, `set_input_dispatch_by_period`,
`set_input_divide_by_period`) is NOT modelled here: `finalize` takes it as a parameter
`setInput`.  `stdSetInput` at the end of the file is the instance the driver runs.

Errors: `situation` = `SituationParsingError`; `other` = any other exception;
`unmodelled` = the input leaves the part of Python/numpy behaviour this model transcribes
(never produced on the claimed streams of the correspondence check).
-/
namespace OFCore.Bld

/-! ## documents -/

/-- a `dict` key -/
inductive DKey
  | s (v : String)
  | i (v : Int)
deriving DecidableEq, Repr, Inhabited

/-- Python `str(key)` -/
def DKey.text : DKey → String
  | .s v => v
  | .i v => toString v

inductive Doc
  | null
  | bool (b : Bool)
  | int (i : Int)
  | num (r : Rat)
  | str (s : String)
  | date (o : Int)                       -- a `datetime.date` (YAML), as its proleptic ordinal
  | arr (xs : List Doc)
  | obj (kvs : List (DKey × Doc))
deriving Inhabited

inductive BErr | situation | other | unmodelled
deriving DecidableEq, Repr, Inhabited

abbrev R := Except BErr

/-- `dict.get(key)` for a text key -/
def lookupS (k : String) : List (DKey × Doc) → Option Doc
  | [] => none
  | (k', v) :: r => if k' = DKey.s k then some v else lookupS k r

/-! ## the tax-benefit system, as far as the builder reads it -/

structure Role where
  key : String
  plural : Option String
  max : Option Nat
  subroles : List String
deriving Repr, Inhabited, DecidableEq

/-- `role.plural or role.key` -/
def Role.docKey (r : Role) : String := r.plural.getD r.key

/-- `role.max` after `GroupEntity.__init__` (`len(subroles)` when there are sub-roles) -/
def Role.effMax (r : Role) : Option Nat :=
  if r.subroles = [] then r.max else some r.subroles.length

/-- `role.subroles or [role]`, as keys -/
def Role.flat (r : Role) : List String := if r.subroles = [] then [r.key] else r.subroles

/-- `role.subroles[index] if role.subroles else role`, as a key -/
def Role.roleAt (r : Role) (t : Nat) : String :=
  if r.subroles = [] then r.key else r.subroles.getD t ""

structure GroupKind where
  key : String
  plural : String
  roles : List Role
deriving Repr, Inhabited, DecidableEq

def GroupKind.flatRoles (g : GroupKind) : List String := g.roles.flatMap Role.flat

inductive VType | int | float | bool | str | date | enum (names : List String)
deriving DecidableEq, Repr, Inhabited

inductive SRule | absent | dispatch | divide
deriving DecidableEq, Repr, Inhabited

inductive Val
  | int (i : Int)
  | num (r : Rat)
  | bool (b : Bool)
  | str (s : String)
  | date (o : Int)       -- proleptic ordinal
  | enum (k : Nat)       -- index
deriving DecidableEq, Repr, Inhabited

abbrev Vec := List Val

structure Var where
  name : String
  entity : String        -- key of its entity
  vtype : VType
  defUnit : DUnit
  default : Val
  rule : SRule
  stop : Option Date := none     -- the variable's `end` attribute (inclusive)
deriving Repr, Inhabited, DecidableEq

structure Sys where
  personKey : String
  personPlural : String
  groups : List GroupKind
  vars : List Var
deriving Repr, Inhabited

def Sys.var? (sys : Sys) (name : String) : Option Var := sys.vars.find? (fun v => v.name == name)

/-- `tax_benefit_system.entities_plural()` -/
def Sys.plurals (sys : Sys) : List String := sys.personPlural :: sys.groups.map (·.plural)

/-- `tax_benefit_system.entities_by_singular()` : (key, plural) -/
def Sys.singulars (sys : Sys) : List (String × String) :=
  (sys.personKey, sys.personPlural) :: sys.groups.map (fun g => (g.key, g.plural))

/-! ## period keys -/

/-- `periods.period(key)` on a text or integer key -/
def parseKey : DKey → Except String Period
  | .s v => parsePeriod v.toList
  | .i n => .ok ⟨.year, ⟨n, 1, 1⟩, 1⟩

/-- `str(periods.period(key))` : the key of the input buffer -/
def canonKey (k : DKey) : Except String (List Char) := (parseKey k).map Period.text

/-! ## `Variable.check_set_value` -/

/-- float → int32 : truncation towards zero -/
def truncR (x : Rat) : Int := Int.tdiv x.num (x.den : Int)

inductive ETok | num (r : Rat) | plus | minus | times
deriving DecidableEq, Repr

/-- value of a string of digits read after the decimal point, as a rational below 1 -/
def fracVal (ds : List Char) : Rat :=
  ds.foldr (fun c acc => (((digitVal c).getD 0 : Nat) + acc) / 10) 0

def digitsNat (ds : List Char) : Nat := ds.foldl (fun a c => a * 10 + (digitVal c).getD 0) 0

/-- a Python decimal literal `digits[.digits]` / `.digits` at the head of the text; an integer
literal with a leading zero that is not all zeros is a syntax error -/
def lexNumber (cs : List Char) : Option (Rat × List Char) :=
  let ip := cs.takeWhile isDigit
  let r1 := cs.dropWhile isDigit
  match r1 with
  | '.' :: r2 =>
    let fp := r2.takeWhile isDigit
    if ip = [] ∧ fp = [] then none
    else some ((digitsNat ip : Rat) + fracVal fp, r2.dropWhile isDigit)
  | _ =>
    if ip = [] then none
    else if ip.length > 1 ∧ ip.head? = some '0' ∧ ip.any (· ≠ '0') then none
    else some ((digitsNat ip : Rat), r1)

/-- tokens of an arithmetic expression over `0-9 . + - * blank`; `none` = not in that language -/
def lexExpr : Nat → List Char → Option (List ETok)
  | 0, _ => none
  | _ + 1, [] => some []
  | fuel + 1, c :: cs =>
    if c = ' ' then lexExpr fuel cs
    else if c = '+' then (lexExpr fuel cs).map (ETok.plus :: ·)
    else if c = '-' then (lexExpr fuel cs).map (ETok.minus :: ·)
    else if c = '*' then (lexExpr fuel cs).map (ETok.times :: ·)
    else match lexNumber (c :: cs) with
      | none => none
      | some (r, rest) =>
        if rest.length < (c :: cs).length then (lexExpr fuel rest).map (ETok.num r :: ·) else none

/-- `('+'|'-')* number` : the signed value and the remaining tokens -/
def parseUnary : List ETok → Option (Rat × List ETok)
  | .plus :: r => parseUnary r
  | .minus :: r => (parseUnary r).map (fun (v, rest) => (-v, rest))
  | .num v :: r => some (v, r)
  | _ => none

/-- `unary (op unary)*` with the usual precedence: `acc` = finished sum, `cur` = running product -/
def parseRest : Nat → Rat → Rat → List ETok → Option Rat
  | _, acc, cur, [] => some (acc + cur)
  | 0, _, _, _ :: _ => none
  | fuel + 1, acc, cur, .plus :: r =>
    match parseUnary r with
    | some (v, rest) => parseRest fuel (acc + cur) v rest
    | none => none
  | fuel + 1, acc, cur, .minus :: r =>
    match parseUnary r with
    | some (v, rest) => parseRest fuel (acc + cur) (-v) rest
    | none => none
  | fuel + 1, acc, cur, .times :: r =>
    match parseUnary r with
    | some (v, rest) => parseRest fuel acc (cur * v) rest
    | none => none
  | _ + 1, _, _, .num _ :: _ => none

def exprAlphabet (c : Char) : Bool := isDigit c || c = '.' || c = '+' || c = '-' || c = '*' || c = ' '

def hasPower : List Char → Bool
  | '*' :: '*' :: _ => true
  | _ :: r => hasPower r
  | [] => false

def isLetter (c : Char) : Bool := ('a' ≤ c ∧ c ≤ 'z') || ('A' ≤ c ∧ c ≤ 'Z')

/-- words `numexpr` or numpy give a meaning to -/
def specialWords : List String :=
  ["true", "false", "nan", "inf", "infinity", "none", "expression", "numexpr", "numpy", "t", "e", "pi"]

/-- a word that `numexpr` does not know (`KeyError`: the text is kept) and numpy cannot read as
a number -/
def isPlainWord (cs : List Char) : Bool :=
  cs ≠ [] && cs.all isLetter && !(specialWords.contains (String.ofList (lower cs)))

/-- `commons.eval_expression(text)` followed by the conversion to a number:
`ok r` the value, `situation` a `SyntaxError` or a text that is not a number -/
def numOfText (s : String) : R Rat :=
  let cs := s.toList
  if cs.all exprAlphabet then
    if hasPower cs then .error .unmodelled
    else if cs.head? = some ' ' then .error .situation          -- IndentationError
    else match lexExpr (cs.length + 1) cs with
      | none => .error .situation
      | some toks =>
        match parseUnary toks with
        | none => .error .situation
        | some (v, rest) =>
          match parseRest (rest.length + 1) 0 v rest with
          | some r => .ok r
          | none => .error .situation
  else if isPlainWord cs then .error .situation
  else .error .unmodelled

/-- ordinal of 1970-01-01 -/
def epochOrd : Int := 719163

/-- numpy `datetime64[D]` from ISO text `YYYY`, `YYYY-MM`, `YYYY-MM-DD` -/
def dateOfText (s : String) : R Int :=
  let cs := s.toList
  match lexIso cs with
  | some (.y y) => if dateOk ⟨y, 1, 1⟩ then .ok (ord ⟨y, 1, 1⟩) else .error .unmodelled
  | some (.ym y m) => if dateOk ⟨y, m, 1⟩ then .ok (ord ⟨y, m, 1⟩) else .error .unmodelled
  | some (.ymd y m d) =>
    if y = 0 then .error .unmodelled
    else if dateOk ⟨y, m, d⟩ then .ok (ord ⟨y, m, d⟩) else .error .situation
  | some (.yw _ _) => .error .situation
  | some (.ywd _ _ _) => .error .situation
  | some (.yd _ _) => .error .unmodelled
  | none =>
    if isPlainWord cs then .error .situation
    else match cs with
      -- YYYY-MM-DD with a month or a day outside the ranges the ISO expression lets through
      | [a, b, c, d, '-', m1, m2, '-', d1, d2] =>
        if [a, b, c, d, m1, m2, d1, d2].all isDigit ∧ a ≠ '0' then .error .situation else .error .unmodelled
      | _ => .error .unmodelled

/-- what fits a C `long`: beyond it numpy raises `OverflowError` ("too large") -/
def inInt64 (i : Int) : Bool := decide (-9223372036854775808 ≤ i ∧ i ≤ 9223372036854775807)

def inInt32 (i : Int) : Bool := decide (-2147483648 ≤ i ∧ i ≤ 2147483647)

/-- `numpy.iinfo(dtype).min <= value <= numpy.iinfo(dtype).max` (repair C12n) for the `int32` of an
integer variable / the `int16` of an enum index; the value itself is compared, not its truncation -/
def ratIn (lo hi : Int) (r : Rat) : Bool := decide ((lo : Rat) ≤ r ∧ r ≤ (hi : Rat))
def ratInInt32 (r : Rat) : Bool := ratIn (-2147483648) 2147483647 r
def ratInInt16 (r : Rat) : Bool := ratIn (-32768) 32767 r

/-- a list given where one value is expected: `array[index] = sequence` raises (repair C12c) -/
def listAsScalar (xs : List Doc) : R Val :=
  if xs.length = 1 then .error .unmodelled else .error .situation

/-- `Variable.check_set_value(value)` followed by `array[instance_index] = value`
(the value is not `None`) -/
def checkSetValue (var : Var) (d : Doc) : R Val :=
  match var.vtype, d with
  | _, .null => .error .unmodelled
  -- a `datetime.date`
  | .date, .date o => .ok (.date o)
  | .float, .date _ => .error .situation
  | .int, .date _ => .error .situation
  | .enum _, .date _ => .error .situation
  | .bool, .date _ => .ok (.bool true)
  | .str, .date _ => .error .unmodelled
  -- float
  | .float, .int i => .ok (.num i)
  | .float, .num r => .ok (.num r)
  | .float, .bool b => .ok (.num (if b then 1 else 0))
  | .float, .str s => (numOfText s).map Val.num
  | .float, .arr xs => listAsScalar xs
  | .float, .obj _ => .error .situation
  -- int
  | .int, .int i => if ratInInt32 i then .ok (.int i) else .error .situation
  | .int, .num r => if ratInInt32 r then .ok (.int (truncR r)) else .error .situation
  | .int, .bool b => .ok (.int (if b then 1 else 0))
  | .int, .str s => match numOfText s with
    | .error e => .error e
    | .ok r => if inInt32 (truncR r) then .ok (.int (truncR r)) else .error .unmodelled
  | .int, .arr xs => listAsScalar xs
  | .int, .obj _ => .error .situation
  -- bool
  | .bool, .bool b => .ok (.bool b)
  | .bool, .int i => .ok (.bool (i != 0))
  | .bool, .num r => .ok (.bool (r != 0))
  | .bool, .str s => .ok (.bool (s != ""))
  | .bool, .arr xs => if xs.length ≥ 2 then .error .situation else .error .unmodelled
  | .bool, .obj _ => .error .unmodelled
  -- str
  | .str, .str s => .ok (.str s)
  | .str, .bool _ => .error .unmodelled
  | .str, .int _ => .error .unmodelled
  | .str, .num _ => .error .unmodelled
  | .str, .arr _ => .error .unmodelled
  | .str, .obj _ => .error .unmodelled
  -- date
  | .date, .str s => (dateOfText s).map Val.date
  | .date, .int i =>
    if !inInt64 i then .error .situation
    else if -700000 ≤ i ∧ i ≤ 2900000 then .ok (.date (epochOrd + i)) else .error .unmodelled
  | .date, .bool _ => .error .unmodelled
  | .date, .num _ => .error .situation
  | .date, .arr _ => .error .situation
  | .date, .obj _ => .error .situation
  -- enum
  | .enum names, .str s => if s ∈ names then .ok (.enum (names.idxOf s)) else .error .situation
  | .enum names, .int i =>
    if !ratInInt16 i then .error .situation
    else if 0 ≤ i ∧ i < names.length then .ok (.enum i.toNat) else .error .unmodelled
  | .enum _, .bool _ => .error .unmodelled
  | .enum _, .num r => if ratInInt16 r then .error .unmodelled else .error .situation
  | .enum _, .arr xs => listAsScalar xs
  | .enum _, .obj _ => .error .situation


/-! ## small tools -/

/-- `Except` fold, left to right, first error wins -/
def foldE {α σ : Type} (f : σ → α → R σ) : σ → List α → R σ
  | s, [] => .ok s
  | s, x :: xs => match f s x with
    | .error e => .error e
    | .ok s' => foldE f s' xs

/-- `Except` map, left to right, first error wins -/
def mapE {α β : Type} (f : α → R β) : List α → R (List β)
  | [] => .ok []
  | x :: xs => match f x with
    | .error e => .error e
    | .ok y => match mapE f xs with
      | .error e => .error e
      | .ok ys => .ok (y :: ys)

def Doc.asObj? : Doc → Option (List (DKey × Doc))
  | .obj kvs => some kvs
  | .null => none | .bool _ => none | .int _ => none | .num _ => none | .str _ => none | .arr _ => none
  | .date _ => none

def Doc.asArr? : Doc → Option (List Doc)
  | .arr xs => some xs
  | .null => none | .bool _ => none | .int _ => none | .num _ => none | .str _ => none | .obj _ => none
  | .date _ => none

def Doc.str? : Doc → Option String
  | .str s => some s
  | .null => none | .bool _ => none | .int _ => none | .num _ => none | .arr _ => none | .obj _ => none
  | .date _ => none

def Doc.isNull : Doc → Bool
  | .null => true
  | .bool _ => false | .int _ => false | .num _ => false | .str _ => false | .arr _ => false | .obj _ => false
  | .date _ => false

/-- association list read: the first entry for the key -/
def alGet {κ β : Type} [DecidableEq κ] : List (κ × β) → κ → Option β
  | [], _ => none
  | (k', v) :: r, k => if k' = k then some v else alGet r k

/-- association list write: replaces the entry in place, or appends a new one (`dict[k] = v`) -/
def alSet {κ β : Type} [DecidableEq κ] : List (κ × β) → κ → β → List (κ × β)
  | [], k, v => [(k, v)]
  | (k', v') :: r, k, v => if k' = k then (k, v) :: r else (k', v') :: alSet r k v

/-! ## the input buffer: (variable, canonical period text) → array under construction -/

abbrev Buffer := List ((String × List Char) × Vec)

/-- one `add_variable_value` that passed its checks: `array[idx] = val` on the array buffered
under `(var, key)`, created with `size` defaults when it does not exist yet -/
structure Write where
  var : String
  key : List Char
  idx : Nat
  val : Val
  size : Nat
  dflt : Val
deriving Repr, Inhabited, DecidableEq

/-- `get_input` (canonical key, repair C12a), `default_array`, `array[idx] = value`,
`input_buffer[name][canonical key] = array` -/
def applyWrite (buf : Buffer) (w : Write) : Buffer :=
  let arr := (alGet buf (w.var, w.key)).getD (List.replicate w.size w.dflt)
  alSet buf (w.var, w.key) (arr.set w.idx w.val)

def applyWrites (buf : Buffer) (ws : List Write) : Buffer := ws.foldl applyWrite buf

/-- `variable.definition_period == ETERNITY`, by name -/
def isEternal (sys : Sys) (name : String) : Bool :=
  match sys.var? name with
  | some v => decide (v.defUnit = .eternity)
  | none => false

/-- the key of the first write, in document order, to variable `var` -/
def firstKeyOf (ws : List Write) (var : String) : Option (List Char) :=
  (ws.find? (fun w => w.var == var)).map (·.key)

/-- `get_buffer_key` (repair C12j) on the writes of ONE entity (the variables of an entity are
buffered by that entity's instances only): the canonical text of the period — except that every
input of a variable defined for eternity joins the entry buffered first for that variable, whatever
period key it is given under -/
def resolveKeys (sys : Sys) (ws : List Write) : List Write :=
  ws.map (fun w => if isEternal sys w.var then { w with key := (firstKeyOf ws w.var).getD w.key } else w)

/-- `get_buffer_key` against a buffer (axes): the entry buffered first for an eternal variable -/
def bufferKey (sys : Sys) (buf : Buffer) (name : String) (ck : List Char) : List Char :=
  if isEternal sys name then
    match buf.find? (fun e => e.1.1 == name) with
    | some e => e.1.2
    | none => ck
  else ck

/-- `add_variable_value` up to the buffer write, for one `(period key, value)` pair -/
def valueWrite (var : Var) (size idx : Nat) (kv : DKey × Doc) : R (Option Write) :=
  match canonKey kv.1 with
  | .error _ => .error .situation
  | .ok ck =>
    if kv.2.isNull then .ok none
    else match checkSetValue var kv.2 with
      | .error e => .error e
      | .ok v => .ok (some ⟨var.name, ck, idx, v, size, var.default⟩)

/-- the `{period: value}` pairs of one variable of one instance (`init_variable_values`): a value
that is not an object is read at the default period -/
def variablePairs (dp : Option String) (d : Doc) : Option (List (DKey × Doc)) :=
  match d.asObj? with
  | some kvs => some kvs
  | none => dp.map (fun p => [(DKey.s p, d)])

/-- one variable of one instance -/
def variableWrites (sys : Sys) (entKey : String) (dp : Option String) (size idx : Nat)
    (kv : DKey × Doc) : R (List Write) :=
  match sys.var? kv.1.text with
  | none => .error .situation
  | some var =>
    if var.entity ≠ entKey then .error .situation else
    match variablePairs dp kv.2 with
    | none => .error .situation
    | some kvs => (mapE (valueWrite var size idx) kvs).map (fun ws => ws.filterMap id)

/-- `init_variable_values(entity, instance_object, instance_id)` -/
def instanceWrites (sys : Sys) (entKey : String) (dp : Option String) (ids : List String)
    (id : String) (vars : List (DKey × Doc)) : R (List Write) :=
  (mapE (variableWrites sys entKey dp ids.length (ids.idxOf id)) vars).map List.flatten

/-! ## entities -/

structure Ent where
  key : String
  plural : String
  isPerson : Bool
  ids : List String
  memb : List Nat          -- members_entity_id (empty for the person entity)
  roles : List String      -- members_role keys (empty for the person entity)
deriving Repr, Inhabited, DecidableEq

def Ent.count (e : Ent) : Nat := e.ids.length

/-- one instance of the person entity -/
def personInstance (sys : Sys) (dp : Option String) (ids : List String) (kv : DKey × Doc) : R (List Write) :=
  match kv.2.asObj? with
  | none => .error .situation
  | some vars => instanceWrites sys sys.personKey dp ids kv.1.text vars

/-- `add_person_entity` : ids and buffer writes -/
def addPersonEntity (sys : Sys) (dp : Option String) (d : Doc) : R (List String × List Write) :=
  match d.asObj? with
  | none => .error .situation
  | some kvs =>
    let ids := kvs.map (fun kv => kv.1.text)
    (mapE (personInstance sys dp ids) kvs).map (fun ws => (ids, ws.flatten))

def strictItem : Doc → Doc
  | .int i => .str (toString i)
  | .bool b => .str (if b then "True" else "False")
  | .null => .null | .num r => .num r | .str s => .str s | .arr xs => .arr xs | .obj kvs => .obj kvs
  | .date o => .date o

/-- `helpers.transform_to_strict_syntax` -/
def strictSyntax : Doc → Doc
  | .str s => .arr [.str s]
  | .int i => .arr [.str (toString i)]
  | .bool b => .arr [.str (if b then "True" else "False")]
  | .arr xs => .arr (xs.map strictItem)
  | .null => .null | .num r => .num r | .obj kvs => .obj kvs | .date o => .date o

/-- `roles_json` of one instance: for every role, the strict form of what the instance gives
under `role.plural or role.key` (nothing = `[]`) -/
def roleDocs (g : GroupKind) (ikvs : List (DKey × Doc)) : List (Role × Doc) :=
  g.roles.map (fun r => (r, strictSyntax ((lookupS r.docKey ikvs).getD (.arr []))))

/-- `variables_json` : the instance without its role entries -/
def variablesJson (g : GroupKind) (ikvs : List (DKey × Doc)) : List (DKey × Doc) :=
  ikvs.filter (fun kv => !(g.roles.map (fun r => DKey.s r.docKey)).contains kv.1)

/-- the persons a role entry lists -/
def Doc.strs (d : Doc) : List String := (d.asArr?.getD []).filterMap Doc.str?

/-- `check_persons_to_allocate` + `persons_to_allocate.discard` -/
def allocOne (personsIds : List String) (ta : List String) (d : Doc) : R (List String) :=
  match d.str? with
  | none => .error .situation
  | some pid =>
    if pid ∉ personsIds then .error .situation
    else if pid ∉ ta then .error .situation
    else .ok (ta.filter (· ≠ pid))

def allocRole (personsIds : List String) (ta : List String) (rd : Role × Doc) : R (List String) :=
  match rd.2.asArr? with
  | none => .error .situation
  | some xs => foldE (allocOne personsIds) ta xs

/-- `role.max is not None and len(persons_with_role) > role.max` -/
def maxOk (rd : Role × Doc) : Bool :=
  match rd.1.effMax with
  | none => true
  | some m => decide ((rd.2.asArr?.getD []).length ≤ m)

/-- `memberships[person_index] = entity_index; roles[person_index] = …` -/
structure MWrite where
  pidx : Nat
  gidx : Nat
  role : String
deriving Repr, Inhabited, DecidableEq

def roleMWrites (personsIds : List String) (gidx : Nat) (rd : Role × Doc) : List MWrite :=
  (List.zipIdx rd.2.strs).map (fun (pid, t) => ⟨personsIds.idxOf pid, gidx, rd.1.roleAt t⟩)

structure GAcc where
  toAlloc : List String
  mws : List MWrite
  ws : List Write
deriving Repr, Inhabited

/-- one iteration of the instance loop of `add_group_entity` -/
def groupStep (sys : Sys) (dp : Option String) (g : GroupKind) (personsIds gids : List String)
    (acc : GAcc) (kv : DKey × Doc) : R GAcc :=
  match kv.2.asObj? with
  | none => .error .situation
  | some ikvs =>
    let rds := roleDocs g ikvs
    match foldE (allocRole personsIds) acc.toAlloc rds with
    | .error e => .error e
    | .ok ta =>
      let gidx := gids.idxOf kv.1.text
      if !(rds.all maxOk) then .error .situation else
      match instanceWrites sys g.key dp gids kv.1.text (variablesJson g ikvs) with
      | .error e => .error e
      | .ok ws => .ok ⟨ta, acc.mws ++ rds.flatMap (roleMWrites personsIds gidx), acc.ws ++ ws⟩

def applyM (n : Nat) (mws : List MWrite) : List Nat × List String :=
  mws.foldl (fun (acc : List Nat × List String) w => (acc.1.set w.pidx w.gidx, acc.2.set w.pidx w.role))
    (List.replicate n 0, List.replicate n "")

/-- arrays of the variables of entity `key` buffered so far are resized to `n` (repair C12f) -/
def padBuffer (sys : Sys) (key : String) (n : Nat) (buf : Buffer) : Buffer :=
  buf.map (fun e => match sys.var? e.1.1 with
    | some var => if var.entity = key then (e.1, e.2 ++ List.replicate (n - e.2.length) var.default) else e
    | none => e)

/-- `add_group_entity` -/
def addGroupEntity (sys : Sys) (dp : Option String) (g : GroupKind) (personsIds : List String)
    (d : Doc) (buf : Buffer) : R (Ent × Buffer) :=
  match d.asObj? with
  | none => .error .situation
  | some kvs =>
    let gids := kvs.map (fun kv => kv.1.text)
    match foldE (groupStep sys dp g personsIds gids) ⟨personsIds, [], []⟩ kvs with
    | .error e => .error e
    | .ok acc =>
      let buf1 := applyWrites buf (resolveKeys sys acc.ws)
      if acc.toAlloc = [] then
        let mr := applyM personsIds.length acc.mws
        .ok (⟨g.key, g.plural, false, gids, mr.1, mr.2⟩, buf1)
      else
        match g.flatRoles.head? with
        | none => .error .other
        | some r0 =>
          let gids' := gids ++ acc.toAlloc
          -- repair C12i: the own-group is located by its position, not by looking the id up
          let own := (List.zipIdx acc.toAlloc).map (fun (pid, off) =>
            (⟨personsIds.idxOf pid, gids.length + off, r0⟩ : MWrite))
          let mr := applyM personsIds.length (acc.mws ++ own)
          .ok (⟨g.key, g.plural, false, gids', mr.1, mr.2⟩, padBuffer sys g.key gids'.length buf1)

/-- `add_default_group_entity` -/
def addDefaultGroupEntity (g : GroupKind) (personsIds : List String) : R Ent :=
  match g.flatRoles.head? with
  | none => .error .other
  | some r0 => .ok ⟨g.key, g.plural, false, personsIds, List.range personsIds.length,
      List.replicate personsIds.length r0⟩

/-- `params.get(plural)` : JSON `null` is Python's `None` -/
def getEntityDoc (plural : String) (params : List (DKey × Doc)) : Option Doc :=
  match lookupS plural params with
  | none => none
  | some d => if d.isNull then none else some d

structure BState where
  ents : List Ent
  buf : Buffer
deriving Repr, Inhabited

def groupsStep (sys : Sys) (dp : Option String) (params : List (DKey × Doc)) (hasAxes : Bool)
    (personsIds : List String) (st : BState) (g : GroupKind) : R BState :=
  match getEntityDoc g.plural params with
  | some d =>
    match addGroupEntity sys dp g personsIds d st.buf with
    | .error e => .error e
    | .ok (e, buf) => .ok ⟨st.ents ++ [e], buf⟩
  | none =>
    if hasAxes then .error .situation
    else match addDefaultGroupEntity g personsIds with
      | .error e => .error e
      | .ok e => .ok ⟨st.ents ++ [e], st.buf⟩

/-- `helpers.has_unexpected_entities` : a truthy key that is not an entity plural -/
def unexpectedKey (sys : Sys) : DKey → Bool
  | .s v => v ≠ "" && !(sys.plurals.contains v)
  | .i n => n ≠ 0

/-- Python truthiness of `persons_json` -/
def Doc.truthy : Doc → Bool
  | .null => false
  | .bool b => b
  | .int i => i ≠ 0
  | .num r => r ≠ 0
  | .str s => s ≠ ""
  | .date _ => true
  | .arr xs => !xs.isEmpty
  | .obj kvs => !kvs.isEmpty

/-- `build_from_entities` up to (excluding) the axes: entities, memberships, buffered inputs -/
def buildEntities (sys : Sys) (dp : Option String) (params : List (DKey × Doc)) (hasAxes : Bool) : R BState :=
  if params.any (fun kv => unexpectedKey sys kv.1) then .error .situation else
  match lookupS sys.personPlural params with
  | none => .error .situation
  | some pj =>
    if !pj.truthy then .error .situation else
    match addPersonEntity sys dp pj with
    | .error e => .error e
    | .ok (pids, pws) =>
      let st0 : BState := ⟨[⟨sys.personKey, sys.personPlural, true, pids, [], []⟩], applyWrites [] (resolveKeys sys pws)⟩
      foldE (groupsStep sys dp params hasAxes pids) st0 sys.groups


/-! ## axes -/

structure Axis where
  name : String
  count : Nat
  min : Rat
  max : Rat
  index : Nat
  period : Option DKey
deriving Repr, Inhabited

def Doc.rat? : Doc → Option Rat
  | .int i => some i
  | .num r => some r
  | .null => none | .bool _ => none | .str _ => none | .arr _ => none | .obj _ => none | .date _ => none

def Doc.nat? : Doc → Option Nat
  | .int i => if 0 ≤ i then some i.toNat else none
  | .null => none | .bool _ => none | .num _ => none | .str _ => none | .arr _ => none | .obj _ => none
  | .date _ => none

def Doc.key? : Doc → Option DKey
  | .str s => some (.s s)
  | .int i => some (.i i)
  | .null => none | .bool _ => none | .num _ => none | .arr _ => none | .obj _ => none | .date _ => none

/-- one axis description; anything but the documented shape is outside the model -/
def parseAxis (d : Doc) : R Axis :=
  match d.asObj? with
  | none => .error .unmodelled
  | some kvs =>
    match (lookupS "name" kvs).bind Doc.str?, (lookupS "count" kvs).bind Doc.nat?,
          (lookupS "min" kvs).bind Doc.rat?, (lookupS "max" kvs).bind Doc.rat? with
    | some name, some count, some mn, some mx =>
      if count = 0 then .error .unmodelled else
      let index := match lookupS "index" kvs with
        | none => some 0
        | some d => d.nat?
      let period := match lookupS "period" kvs with
        | none => some none
        | some d => (d.key?).map some
      match index, period with
      | some i, some p => .ok ⟨name, count, mn, mx, i, p⟩
      | _, _ => .error .unmodelled
    | _, _, _, _ => .error .unmodelled

/-- the lists of parallel axes, one per perpendicular dimension (repair C12k: every axis of every
list) -/
def parseAxes (d : Doc) : R (List (List Axis)) :=
  match d.asArr? with
  | none => .error .unmodelled
  | some [] => .error .unmodelled
  | some (d0 :: rest) =>
    match d0.asArr? with
    | none => .error .unmodelled
    | some [] => .error .unmodelled
    | some (a :: as) =>
      match mapE parseAxis (a :: as) with
      | .error e => .error e
      | .ok par =>
        match mapE (fun (dd : Doc) => match dd.asArr? with
            | some (x :: xs) => mapE parseAxis (x :: xs)
            | some [] => .error .unmodelled
            | none => .error .unmodelled) rest with
        | .error e => .error e
        | .ok perp => .ok (par :: perp)

/-- Python `list * n` / `numpy.tile(array, n)` -/
def tile {α : Type} (n : Nat) (xs : List α) : List α := (List.replicate n xs).flatten

/-- replication of one entity: counts multiply, ids get the running index as a suffix, roles are
repeated, memberships are repeated and shifted by the prototype's count per copy -/
def expandEnt (cell : Nat) (e : Ent) : Ent :=
  { e with
    ids := List.zipWith (fun id (k : Nat) => id ++ toString k) (tile cell e.ids) (List.range (cell * e.ids.length))
    roles := tile cell e.roles
    memb := if e.isPerson then e.memb else
      List.zipWith (· + ·) (tile cell e.memb)
        ((List.range cell).flatMap (fun c => List.replicate e.memb.length (c * e.ids.length))) }

/-- assignment of a float64 axis value into the variable's array -/
def axisCast (var : Var) (r : Rat) : R Val :=
  match var.vtype with
  | .float => .ok (.num r)
  | .int => .ok (.int (truncR r))
  | .bool => .error .unmodelled | .str => .error .unmodelled | .date => .error .unmodelled
  | .enum _ => .error .unmodelled

/-- `array[idx::step] = vals` -/
def strideSet (arr : Vec) (idx step : Nat) (vals : Vec) : R Vec :=
  let hit (j : Nat) : Bool := decide (idx ≤ j) && (j - idx) % step == 0
  let n := ((List.range arr.length).filter hit).length
  if step = 0 then .error .other
  else if n ≠ vals.length then (if vals.length = 1 then .error .unmodelled else .error .other)
  else .ok ((List.zipIdx arr).map (fun (x, j) => if hit j then vals.getD ((j - idx) / step) x else x))

def natProd (l : List Nat) : Nat := l.foldl (· * ·) 1

/-- shape of `numpy.meshgrid(*linspaces)` (default `indexing="xy"`: the first two axes swap) -/
def meshShape : List Nat → List Nat
  | [] => []
  | [a] => [a]
  | a :: b :: r => b :: a :: r

def meshPos (d : Nat) : Nat := if d = 0 then 1 else if d = 1 then 0 else d

/-- `axes_meshes[d].reshape(cell_count)[k]` -/
def meshCoord (counts : List Nat) (d k : Nat) : Nat :=
  let S := meshShape counts
  let j := if counts.length < 2 then d else meshPos d
  (k / natProd (S.drop (j + 1))) % S.getD j 1

/-- the value of the axis in each cell: `linspace(min, max, count)` (one list of parallel axes) or
`min + mesh * (max - min) / (count - 1)` (perpendicular axes) -/
def axisValue (a : Axis) (cnt c : Nat) : Rat :=
  if cnt = 1 then a.min else a.min + (c : Rat) * (a.max - a.min) / ((cnt : Rat) - 1)

/-- `axis.get("period", self.default_period)` -/
def axisKey (dp : Option String) (a : Axis) : Option DKey :=
  match a.period with
  | some k => some k
  | none => dp.map DKey.s

/-- the array the axis values are laid on: the buffered one replicated `cell` times when it still
has the prototype's size, or `cell * step` defaults -/
def axisArray (buf : Buffer) (k : String × List Char) (cell step : Nat) (d : Val) : Vec :=
  match alGet buf k with
  | none => List.replicate (cell * step) d
  | some x => if x.length = step then tile cell x else x

/-- one axis: replicate (or create) the buffered array of its variable at its period, then lay
the values on the indexed instance of every copy -/
def layAxis (sys : Sys) (dp : Option String) (entKey : String) (step cell cnt : Nat) (multi : Bool)
    (coords : List Nat) (buf : Buffer) (a : Axis) : R Buffer :=
  match sys.var? a.name with
  | none => .error .other
  | some var =>
    if var.entity ≠ entKey then .error .unmodelled else
    match axisKey dp a with
    | none => .error .other
    | some k =>
      match canonKey k with
      | .error _ => .error .other
      | .ok ck0 =>
        let ck := bufferKey sys buf a.name ck0          -- repair C12j
        if cnt = 1 ∧ multi then .error .unmodelled else
        match mapE (fun c => axisCast var (axisValue a cnt c)) coords with
        | .error e => .error e
        | .ok vals =>
          match strideSet (axisArray buf (a.name, ck) cell step var.default) a.index step vals with
          | .error e => .error e
          | .ok arr' => .ok (alSet buf (a.name, ck) arr')

def entCountOf (ents : List Ent) (key : String) : Nat :=
  match ents.find? (fun e => e.key == key) with
  | some e => e.count
  | none => 0

/-- one list of parallel axes (dimension `d`) -/
def layDim (sys : Sys) (dp : Option String) (ents : List Ent) (counts : List Nat) (cell : Nat)
    (multi : Bool) (buf : Buffer) (dd : Nat × List Axis) : R Buffer :=
  match dd.2 with
  | [] => .error .unmodelled
  | first :: _ =>
    match sys.var? first.name with
    | none => .error .other                    -- KeyError in get_variable_entity
    | some fv =>
      let step := entCountOf ents fv.entity
      let coords := (List.range cell).map (fun k => if multi then meshCoord counts dd.1 k else k)
      foldE (layAxis sys dp fv.entity step cell first.count multi coords) buf dd.2

/-- `expand_axes` -/
def expandAxes (sys : Sys) (dp : Option String) (st : BState) (dims : List (List Axis)) : R BState :=
  let counts := dims.map (fun l => match l.head? with | some a => a.count | none => 1)
  let cell := natProd counts
  let multi := decide (dims.length ≠ 1)
  match foldE (layDim sys dp st.ents counts cell multi) st.buf (List.zipIdx dims |>.map (fun (l, d) => (d, l))) with
  | .error e => .error e
  | .ok buf => .ok ⟨st.ents.map (expandEnt cell), buf⟩

/-! ## flushing the buffer -/

abbrev Store := List ((String × Period) × Vec)

/-- `Holder.set_input(period, array)` of variable `var` whose population has `count` members;
`situation` stands for `PeriodMismatchError` -/
abbrev SetInput := Store → Var → Nat → Period → Vec → R Store

/-- the sort key of `finalize_variables_init` (repairs C12b, C12l):
`(inf if eternity else size_in_days, unit_weight)`; `none` is `float("inf")` -/
def flushKey (p : Period) : R (Option Int × Int) :=
  if p.unit = .eternity then .ok (none, unitWeight p.unit)
  else match p.sizeInDays with
    | .ok d => .ok (some d, unitWeight p.unit)
    | .error _ => .error .other

/-- tuple order of the keys -/
def keyLe (a b : Option Int × Int) : Bool :=
  match a.1, b.1 with
  | none, none => decide (a.2 ≤ b.2)
  | none, some _ => false
  | some _, none => true
  | some x, some y => decide (x < y) || (decide (x = y) && decide (a.2 ≤ b.2))

/-- `p` is not flushed after `q` -/
def flushLe (p q : Period) : Bool :=
  match flushKey p, flushKey q with
  | .ok a, .ok b => keyLe a b
  | .ok _, .error _ => false
  | .error _, .ok _ => false
  | .error _, .error _ => false

def keyedPeriod (p : Period) : R ((Option Int × Int) × Period) :=
  match flushKey p with
  | .ok k => .ok (k, p)
  | .error e => .error e

/-- stable insertion: `x` goes before the first element it is not greater than -/
def insertBy {α : Type} (le : α → α → Bool) (x : α) : List α → List α
  | [] => [x]
  | y :: ys => if le x y then x :: y :: ys else y :: insertBy le x ys

/-- Python's `sorted(..., key=...)` (stable): insertion sort from the right -/
def sortBy {α : Type} (le : α → α → Bool) (l : List α) : List α := l.foldr (insertBy le) []

/-- variables of the buffer in first-use order -/
def dedup : List String → List String
  | [] => []
  | x :: xs => x :: (dedup xs).filter (· ≠ x)

def bufferVars (buf : Buffer) : List String := dedup (buf.map (fun e => e.1.1))

/-- the buffered period texts of one variable, in insertion order -/
def varKeys (buf : Buffer) (v : String) : List (List Char) :=
  (buf.filter (fun e => e.1.1 = v)).map (fun e => e.1.2)

def parseBuffered (ck : List Char) : R Period :=
  match parsePeriod ck with
  | .ok p => .ok p
  | .error _ => .error .other

/-- `[periods.period(s) for s in buffer]` then `sorted(..., key=…)` (stable) -/
def sortedPeriods (buf : Buffer) (v : String) : R (List Period) :=
  match mapE parseBuffered (varKeys buf v) with
  | .error e => .error e
  | .ok ps =>
    match mapE keyedPeriod ps with
    | .error e => .error e
    | .ok kps => .ok ((sortBy (fun a b => keyLe a.1 b.1) kps).map (fun kp => kp.2))

/-- `variable.end is None or period.start.date <= variable.end` : the end date is INCLUSIVE;
`ok false` = the input is ignored; the start of `ETERNITY` has no date (`ValueError`) -/
def endGuard (var : Var) (q : Period) : R Bool :=
  match var.stop with
  | none => .ok true
  | some e => if q.unit = .eternity then .error .other else .ok (decide (q.start.le e))

/-- `values = buffer[str(period)]; array = tile(values, count // len(values));`
`if variable.end is None or period.start.date <= variable.end: set_input` -/
def callStep (si : SetInput) (buf : Buffer) (var : Var) (count : Nat) (store : Store) (q : Period) : R Store :=
  match alGet buf (var.name, q.text) with
  | none => .error .other
  | some values =>
    if values.length = 0 then .error .other
    else match endGuard var q with
      | .error e => .error e
      | .ok false => .ok store
      | .ok true => si store var count q (tile (count / values.length) values)

def flushVar (sys : Sys) (si : SetInput) (buf : Buffer) (e : Ent) (store : Store) (vname : String) : R Store :=
  match sys.var? vname with
  | none => .ok store
  | some var =>
    if var.entity ≠ e.key then .ok store else
    match sortedPeriods buf vname with
    | .error x => .error x
    | .ok ps => foldE (callStep si buf var e.count) store ps

/-- `finalize_variables_init(population)` -/
def finalizeEnt (sys : Sys) (si : SetInput) (buf : Buffer) (store : Store) (e : Ent) : R Store :=
  foldE (flushVar sys si buf e) store (bufferVars buf)

structure Sim where
  ents : List Ent
  store : Store
deriving Repr, Inhabited

def finalize (sys : Sys) (si : SetInput) (st : BState) : R Sim :=
  match foldE (finalizeEnt sys si st.buf) [] st.ents with
  | .error e => .error e
  | .ok store => .ok ⟨st.ents, store⟩

/-! ## the three document shapes -/

def isAxesKey (k : DKey) : Bool := k == DKey.s "axes"

/-- `check_axis` (repair C12-errclass-axes): an axis over an unknown variable, or over a period that
cannot be read (`periods.period(None)` when neither the axis nor the builder gives one), is refused
with a situation error before anything is expanded -/
def checkAxis (sys : Sys) (dp : Option String) (a : Axis) : R Unit :=
  match sys.var? a.name with
  | none => .error .situation
  | some _ =>
    match axisKey dp a with
    | none => .error .situation
    | some k =>
      match canonKey k with
      | .error _ => .error .situation
      | .ok _ => .ok ()

/-- `build_from_entities` -/
def buildFromEntities (sys : Sys) (dp : Option String) (si : SetInput) (kvs : List (DKey × Doc)) : R Sim :=
  let params := kvs.filter (fun kv => !isAxesKey kv.1)
  let axes := getEntityDoc "axes" kvs
  match buildEntities sys dp params axes.isSome with
  | .error e => .error e
  | .ok st =>
    match axes with
    | none => finalize sys si st
    | some ad =>
      match parseAxes ad with
      | .error e => .error e
      | .ok dims =>
        match foldE (fun (_ : Unit) a => checkAxis sys dp a) () dims.flatten with
        | .error e => .error e
        | .ok _ =>
          match expandAxes sys dp st dims with
          | .error e => .error e
          | .ok st' => finalize sys si st'

def keyIn (l : List String) : DKey → Bool
  | .s v => l.contains v
  | .i _ => false

/-- `explicit_singular_entities` (repair C12gh: every key that is not a singular entity key is kept,
`axes` and unknown keys included) : `entity: {...}` becomes `entities: {entity: {...}}` and
overrides a plural entry of the same entity -/
def explicitSingular (sys : Sys) (kvs : List (DKey × Doc)) : List (DKey × Doc) :=
  (sys.singulars.filterMap (fun (sp : String × String) => (lookupS sp.1 kvs).map (fun d =>
      (DKey.s sp.2, Doc.obj [(DKey.s sp.1, d)])))) ++
  kvs.filter (fun kv => !keyIn (sys.singulars.map (·.1)) kv.1)

/-- `_person_count` -/
def personCount (kvs : List (DKey × Doc)) : R Nat :=
  let ofValue (d : Doc) : R Nat :=
    match d with
    | .str _ => .ok 1
    | .arr xs => if xs = [] then .error .unmodelled else .ok xs.length
    | .obj _ => .error .unmodelled
    | .null => .ok 1 | .bool _ => .ok 1 | .int _ => .ok 1 | .num _ => .ok 1 | .date _ => .ok 1
  match kvs with
  | [] => .ok 1
  | (_, d) :: _ =>
    match d with
    | .obj [] => .ok 1
    | .obj ((_, d') :: _) => ofValue d'
    | .str _ => ofValue d | .arr _ => ofValue d
    | .null => ofValue d | .bool _ => ofValue d | .int _ => ofValue d | .num _ => ofValue d
    | .date _ => ofValue d

/-- element of a list handed to `Holder._to_array` (`numpy.asarray(...).astype(dtype)`,
`Enum.encode`); every refusal is an ordinary exception here -/
def scalarConv (var : Var) (d : Doc) : R Val :=
  match var.vtype, d with
  | .float, .int i => .ok (.num i)
  | .float, .num r => .ok (.num r)
  | .float, .bool b => .ok (.num (if b then 1 else 0))
  | .int, .int i => .ok (.int i)
  | .int, .num r => .ok (.int (truncR r))
  | .int, .bool b => .ok (.int (if b then 1 else 0))
  | .bool, .bool b => .ok (.bool b)
  | .bool, .int i => .ok (.bool (i != 0))
  | .bool, .num r => .ok (.bool (r != 0))
  | .str, .str s => .ok (.str s)
  | .date, .str s => match dateOfText s with
    | .ok o => .ok (.date o)
    | .error .situation => .error .other
    | .error .other => .error .other
    | .error .unmodelled => .error .unmodelled
  | .enum names, .str s => if s ∈ names then .ok (.enum (names.idxOf s)) else .error .other
  | .date, .date o => .ok (.date o)
  | .float, .date _ => .error .other | .int, .date _ => .error .other
  | .bool, .date _ => .error .unmodelled | .str, .date _ => .error .unmodelled | .enum _, .date _ => .error .unmodelled
  | .float, .str _ => .error .unmodelled | .float, .null => .error .unmodelled
  | .float, .arr _ => .error .unmodelled | .float, .obj _ => .error .unmodelled
  | .int, .str _ => .error .unmodelled | .int, .null => .error .unmodelled
  | .int, .arr _ => .error .unmodelled | .int, .obj _ => .error .unmodelled
  | .bool, .str _ => .error .unmodelled | .bool, .null => .error .unmodelled
  | .bool, .arr _ => .error .unmodelled | .bool, .obj _ => .error .unmodelled
  | .str, .null => .error .unmodelled | .str, .bool _ => .error .unmodelled | .str, .int _ => .error .unmodelled
  | .str, .num _ => .error .unmodelled | .str, .arr _ => .error .unmodelled | .str, .obj _ => .error .unmodelled
  | .date, .null => .error .unmodelled | .date, .bool _ => .error .unmodelled | .date, .int _ => .error .unmodelled
  | .date, .num _ => .error .unmodelled | .date, .arr _ => .error .unmodelled | .date, .obj _ => .error .unmodelled
  | .enum _, .null => .error .unmodelled | .enum _, .bool _ => .error .unmodelled | .enum _, .int _ => .error .unmodelled
  | .enum _, .num _ => .error .unmodelled | .enum _, .arr _ => .error .unmodelled | .enum _, .obj _ => .error .unmodelled

def toArrayDoc (var : Var) (d : Doc) : R Vec :=
  match d with
  | .arr xs => if xs = [] then .error .unmodelled else mapE (scalarConv var) xs
  | .null => .error .unmodelled
  | .obj _ => .error .unmodelled
  | .bool _ => (scalarConv var d).map (fun v => [v])
  | .int _ => (scalarConv var d).map (fun v => [v])
  | .num _ => (scalarConv var d).map (fun v => [v])
  | .date _ => (scalarConv var d).map (fun v => [v])
  | .str _ =>
    match var.vtype with
    | .float => .error .unmodelled        -- `eval_expression` on a bare text
    | .int => .error .unmodelled
    | .bool => (scalarConv var d).map (fun v => [v])
    | .str => (scalarConv var d).map (fun v => [v])
    | .date => (scalarConv var d).map (fun v => [v])
    | .enum _ => (scalarConv var d).map (fun v => [v])

/-- `Simulation.set_input(name, period, value)` : nothing is wrapped in a situation error -/
def setInputDoc (sys : Sys) (si : SetInput) (count : Nat) (store : Store) (name pk : DKey) (value : Doc) : R Store :=
  match sys.var? name.text with
  | none => .error .other
  | some var =>
    match parseKey pk with
    | .error _ => .error .other
    | .ok p =>
      -- `if variable.end is not None and period.start.date > variable.end: return`
      match endGuard var p with
      | .error e => .error e
      | .ok false => .ok store
      | .ok true =>
      match toArrayDoc var value with
      | .error e => .error e
      | .ok arr =>
        match si store var count p arr with
        | .ok s => .ok s
        | .error .situation => .error .other
        | .error .other => .error .other
        | .error .unmodelled => .error .unmodelled

def datedStep (sys : Sys) (si : SetInput) (count : Nat) (store : Store) (kv : DKey × Doc) : R Store :=
  match kv.2.asObj? with
  | some pvs => foldE (fun s (pv : DKey × Doc) => setInputDoc sys si count s kv.1 pv.1 pv.2) store pvs
  | none => .ok store

def undatedStep (sys : Sys) (dp : Option String) (si : SetInput) (count : Nat) (store : Store) (kv : DKey × Doc) : R Store :=
  match kv.2.asObj? with
  | some _ => .ok store
  | none =>
    match dp with
    | none => .error .situation
    | some p => setInputDoc sys si count store kv.1 (.s p) kv.2

/-- `_BuildDefaultSimulation` : `count` instances of every entity, one person per group -/
def defaultEnts (sys : Sys) (count : Nat) : List Ent :=
  let ids := (List.range count).map (fun (k : Nat) => toString k)
  ⟨sys.personKey, sys.personPlural, true, ids, [], []⟩ ::
    sys.groups.map (fun g => ⟨g.key, g.plural, false, ids, List.range count,
      List.replicate count (g.flatRoles.headD "")⟩)

/-- `build_from_variables` -/
def buildFromVariables (sys : Sys) (dp : Option String) (si : SetInput) (kvs : List (DKey × Doc)) : R Sim :=
  match personCount kvs with
  | .error e => .error e
  | .ok count =>
    match foldE (datedStep sys si count) [] kvs with
    | .error e => .error e
    | .ok s1 =>
      match foldE (undatedStep sys dp si count) s1 kvs with
      | .error e => .error e
      | .ok s2 => .ok ⟨defaultEnts sys count, s2⟩

def isIntKey : DKey → Bool
  | .i _ => true
  | .s _ => false

def isEntityKey (sys : Sys) (k : DKey) : Bool := isAxesKey k || keyIn sys.plurals k

/-- `build_from_dict` : the three shapes (and the fall-through of repair C12d) -/
def buildFromDict (sys : Sys) (dp : Option String) (si : SetInput) (d : Doc) : R Sim :=
  match d.asObj? with
  | none => .error .unmodelled
  | some kvs =>
    if kvs.any (fun kv => isIntKey kv.1) then .error .unmodelled
    else if kvs.any (fun kv => keyIn (sys.singulars.map (·.1)) kv.1) then
      buildFromEntities sys dp si (explicitSingular sys kvs)
    else if !kvs.isEmpty ∧ kvs.all (fun kv => isEntityKey sys kv.1) then
      buildFromEntities sys dp si kvs
    else if kvs.isEmpty ∨ kvs.any (fun kv => keyIn (sys.vars.map (·.name)) kv.1) then
      buildFromVariables sys dp si kvs
    else buildFromEntities sys dp si kvs

/-- `set_default_period(text)` : the builder keeps the canonical text -/
def setDefaultPeriod (raw : String) : Except String String :=
  (canonKey (.s raw)).map String.ofList

/-! ## the instance of `setInput` run by the driver (`Holder.set_input` and the two helpers of
`holders/helpers.py`, repaired C16a/C16b); of the theorems only `C12_refuses_period_mismatch` is about it -/

def storeKey (var : Var) (p : Period) : Period :=
  if var.defUnit = .eternity then Period.eternity else p

/-- `Holder._set` (the array already has the variable's type) -/
def holderSet (store : Store) (var : Var) (count : Nat) (p : Period) (arr : Vec) : R Store :=
  if arr.length ≠ count then .error .other
  else if var.defUnit ≠ .eternity ∧ (var.defUnit ≠ p.unit ∨ p.size > 1) then .error .situation
  else .ok (alSet store (var.name, storeKey var p) arr)

/-- `while sub.start < after: …; sub = sub.offset(1)` -/
def walkFrom (after : Date) : Nat → Period → R (List Period)
  | 0, _ => .error .other
  | fuel + 1, sub =>
    if sub.start.lt after then
      match sub.offset (.n 1) none with
      | .error _ => .error .other
      | .ok nxt => match walkFrom after fuel nxt with
        | .error e => .error e
        | .ok rest => .ok (sub :: rest)
    else .ok []

def walk (defU : DUnit) (p : Period) : R (List Period) :=
  match instOffset p.start (.n p.size) p.unit with
  | .error _ => .error .other
  | .ok none => .error .other
  | .ok (some after) => walkFrom after ((ord after - ord p.start).toNat + 1) ⟨defU, p.start, 1⟩

def fillUnknown (name : String) (arr : Vec) (store : Store) (q : Period) : Store :=
  match alGet store (name, q) with
  | none => alSet store (name, q) arr
  | some _ => store

def Val.rat? : Val → Option Rat
  | .num r => some r
  | .int _ => none | .bool _ => none | .str _ => none | .date _ => none | .enum _ => none

def vecRat? (v : Vec) : Option (List Rat) := v.mapM Val.rat?

def stdSetInput : SetInput := fun store var count p arr =>
  if p.unit = .eternity ∧ var.defUnit ≠ .eternity then .error .situation else
  match var.rule with
  | .absent => holderSet store var count p arr
  | .dispatch =>
    if arr.length ≠ count then .error .other
    else if var.defUnit = .eternity then .error .other
    else match walk var.defUnit p with
      | .error e => .error e
      | .ok subs => .ok (subs.foldl (fillUnknown var.name arr) store)
  | .divide =>
    if arr.length ≠ count then .error .other
    else if var.defUnit = .eternity then .error .other
    else match walk var.defUnit p, vecRat? arr with
      | .error e, _ => .error e
      | .ok _, none => .error .unmodelled
      | .ok subs, some a =>
        let known := subs.filterMap (fun q => alGet store (var.name, q))
        match known.mapM vecRat? with
        | none => .error .unmodelled
        | some ks =>
          let remaining := ks.foldl (fun acc k => List.zipWith (· - ·) acc k) a
          let n := subs.length - known.length
          if n > 0 then
            .ok (subs.foldl (fillUnknown var.name (remaining.map (fun x => Val.num (x / (n : Rat))))) store)
          else if remaining.all (· == 0) then .ok store
          else .error .other

/-! ## the other construction routes

* `SimulationBuilder.build_default_simulation(system, count)` ↦ `buildDefault`
* `build_from_entities` called directly (the web API's `handlers.calculate` does, without the
  dispatch of `build_from_dict`) ↦ `buildFromEntitiesDoc`
* `create_entities` / `declare_person_entity` / `declare_entity` / `join_with_persons` / `build`
  ↦ `buildJoined` (`joinMemb`, `joinRoles`) -/

/-- `build_default_simulation(system, count)` : `count` persons, one group of each kind per person,
first role, no input -/
def buildDefault (sys : Sys) (count : Nat) : Sim := ⟨defaultEnts sys count, []⟩

/-- `build_from_entities(system, input)` : `helpers.check_type(input_dict, dict, ["error"])` first -/
def buildFromEntitiesDoc (sys : Sys) (dp : Option String) (si : SetInput) (d : Doc) : R Sim :=
  match d.asObj? with
  | none => .error .situation
  | some kvs => buildFromEntities sys dp si kvs

/-- `join_with_persons` (repair F-C11b), memberships: the position, among the DECLARED group ids,
of the id each person is assigned to.  `numpy.searchsorted` on ids that are not pairwise distinct,
or for an id that is not declared, is outside the model. -/
def joinMemb (gids assign : List String) : R (List Nat) :=
  if gids.Nodup then
    mapE (fun a => if a ∈ gids then .ok (gids.idxOf a) else .error .unmodelled) assign
  else .error .unmodelled

/-- a role given to `join_with_persons`: a key of a flattened role, or an index into them -/
inductive RoleRef | key (k : String) | idx (i : Nat)
deriving DecidableEq, Repr, Inhabited

/-- `join_with_persons`, roles: all indices (`numpy.array(flattened_roles)[roles_array]`) or all
keys (`numpy.select`; a key that is no role would leave the integer 0 in the array: outside the
model, like a mixed or an empty list) -/
def joinRoles (flat : List String) (roles : List RoleRef) : R (List String) :=
  match roles with
  | [] => .error .unmodelled
  | .idx _ :: _ =>
    mapE (fun r => match r with
      | .idx i => (match flat[i]? with | some k => .ok k | none => .error .other)
      | .key _ => .error .unmodelled) roles
  | .key _ :: _ =>
    mapE (fun r => match r with
      | .key k => if k ∈ flat then .ok k else .error .unmodelled
      | .idx _ => .error .unmodelled) roles

/-- one `declare_entity` + `join_with_persons` -/
structure Joined where
  kind : String
  ids : List String
  assign : List String
  roles : List RoleRef
deriving Repr, Inhabited

def joinOne (sys : Sys) (npersons : Nat) (j : Joined) : R Ent :=
  match sys.groups.find? (fun g => g.key == j.kind) with
  | none => .error .other
  | some g =>
    if j.assign.length ≠ npersons ∨ j.roles.length ≠ npersons then .error .unmodelled else
    match joinMemb j.ids j.assign with
    | .error e => .error e
    | .ok memb =>
      match joinRoles g.flatRoles j.roles with
      | .error e => .error e
      | .ok roles => .ok ⟨g.key, g.plural, false, j.ids, memb, roles⟩

/-- `create_entities`, `declare_person_entity`, one `declare_entity` + `join_with_persons` per group
kind of the system (in system order), `build` -/
def buildJoined (sys : Sys) (pids : List String) (js : List Joined) : R Sim :=
  if js.map (·.kind) ≠ sys.groups.map (·.key) then .error .unmodelled else
  match mapE (joinOne sys pids.length) js with
  | .error e => .error e
  | .ok ents => .ok ⟨⟨sys.personKey, sys.personPlural, true, pids, [], []⟩ :: ents, []⟩

end OFCore.Bld
