import OFCore.Period
/-!
# Object-identity model of simulations (C13) — imports the period model (and `Generated.maxSpiralLoops` through it)

A pure model erases object identity, and `Simulation.clone` is *about* identity: which parts of
the copy are new objects and which are the original's objects reached through a second
reference.  Here objects live in a **heap** and are designated by **ids**; a field that holds
another object holds its id.  `cloneSim` is the transcription of `Simulation.clone`,
`Population.clone`, `GroupPopulation.clone`, `Holder.clone` (repaired code, `notes/fixes.py`
entries C13 and C13c) as an *allocation pattern*: which fields are freshly allocated, which are
copied by reference.  The operations (`set_input` — with `set_input_dispatch_by_period` for the variables
that declare it —, `delete_arrays`, `calculate`, `calculate_add`, `trace = …`, `get_holder`,
`invalidate_cache_entry`) read and write **through ids**, navigating exactly
the references the Python code navigates (`holder.population.count`,
`holder.simulation.memory_config`, `population.simulation.calculate`, `group.members`,
`population.simulation.populations[…]`, …).

Ids are pairs `(region, index)`: an allocation made on behalf of a simulation goes to the end of
that simulation's region; `cloneSim` opens a new region.  Nothing can observe the numeric value
of an id (the model only compares ids for equality), so *any* allocation discipline that hands
out fresh ids is a faithful model of `id()`; this one makes "the clone owns what it reaches"
a statement about regions.

What is a value and what is an object: vectors (`numpy` arrays) are values (no operation of the
property mutates an array in place; clone and original do share the array objects); the
tax-benefit system, the entities, the variables, `ids`, `members_entity_id`, `MemoryConfig` are
immutable here and are values too (C14 is about the system).  Objects: simulation, population,
holder, `InMemoryStorage` (with its `_arrays` dict), `OnDiskStorage` (with its `_files` dict),
the temporary directory on the file system, tracer, the `invalidated_caches` set.
-/
namespace OFCore.Heap

structure Id where
  reg : Nat
  idx : Nat
deriving DecidableEq, Repr, Inhabited

abbrev Var := Nat
abbrev Vec := List Int
/-- a calculation node / a cache key / a tracer frame -/
abbrev Key := Var × Period

inductive Err where
  | bad      -- dangling id / object of the wrong class (never happens on heaps built by `build`)
  | value    -- `ValueError`, `PeriodMismatchError`, `VariableNotFoundError`, `KeyError` …
  | cycle    -- `CycleError`
  | spiral   -- `SpiralError` (always caught inside `_calculate`)
  | fuel
deriving DecidableEq, Repr

/-! ## the rule system (a value shared by a simulation and its clone) -/

/-- how a formula reaches a dependency -/
inductive Via where
  | same      -- `population(dep, period)`
  | members   -- `group.sum(group.members(dep, period))`
  | project   -- `person.<group>(dep, period)`
  | membersRole (role : List Nat)     -- `group.sum(group.members(dep, period), role=ROLE)`
  | nbPersons (role : List Nat)       -- `group.nb_persons(role=ROLE)` (no dependency)
  | hasRole (g : Nat) (role : List Nat)   -- `person.has_role(ROLE)`, `ROLE` a role of group entity `g` (no dependency)
  | param                             -- `parameters(period).p0` in a three-argument formula (no dependency)
  | nth (k : Nat)                     -- `group.value_nth_person(k, group.members(dep, period), default=0)`
  | enumIs (k : Nat)                  -- `population(dep, period) == ENUM.<member k>`: an `EnumArray` compared with a member
deriving DecidableEq, Repr

/-- the value of the one parameter of the generated systems (parameters are C06/C07's subject) -/
def paramValue : Int := 7

/-- A role argument is the list of *flattened* role indices a member may hold to satisfy it (a role with
sub-roles is satisfied by any of them).  The role table used throughout the correspondence: `r0` with
sub-roles `r0s0, r0s1` (flattened 0, 1), `r1` (2), `r2` with `max = 1` (3); the first flattened role is
the one `members_role` falls back to when no role was ever assigned. -/
def stdRoles : List (List Nat) := [[0, 1], [0], [1], [2], [3]]

inductive PT where
  | same | lastMonth
deriving DecidableEq, Repr

structure Term where
  coef : Int
  dep : Var
  via : Via
  pt : PT
deriving DecidableEq, Repr

structure VarDecl where
  entity : Nat               -- 0 = the person entity, k ≥ 1 = a group entity
  defPeriod : DUnit
  dflt : Int
  formula : Option (Int × List Term)    -- constant + Σ coef · term
  blacklisted : Bool := false           -- listed in `tax_benefit_system.cache_blacklist`
  isEnum : Bool := false                -- `value_type = Enum`: its vectors are `EnumArray`s (member indices)
  dispatch : Bool := false              -- `set_input = set_input_dispatch_by_period`
deriving Repr

abbrev Sys := List VarDecl

/-! ## objects -/

/-- `InMemoryStorage` -/
structure StoreObj where
  eternal : Bool
  arrays : List (Period × Vec)
deriving DecidableEq, Repr

/-- `OnDiskStorage`: `storage_dir` = (the temporary directory, the variable's sub-directory) -/
structure DiskObj where
  eternal : Bool
  var : Var
  dir : Id
  files : List Period
deriving DecidableEq, Repr

/-- the temporary directory: (sub-directory, file name) ↦ content -/
structure DirObj where
  files : List (Key × Vec)
deriving DecidableEq, Repr

structure HolderObj where
  var : Var
  pop : Id
  sim : Id
  mem : Id
  disk : Option Id
  noStore : Bool             -- `_do_not_store` (the variable is in `memory_config.variables_to_drop`)
deriving DecidableEq, Repr

structure PopObj where
  entity : Nat
  sim : Id
  holders : List (Var × Id)
  count : Nat
  ids : List Nat
  members : Option Id
  membersEntityId : List Nat
  membersRole : Option (List Nat)    -- `_members_role`: `None`, or the flattened role of each person
  membersPosition : Option (List Nat)   -- `_members_position`: `None`, or the assigned position of each person
deriving DecidableEq, Repr

structure TracerObj where
  full : Bool
  stack : List Key
  roots : List Key          -- `FullTracer.trees` (name and period of each root)
deriving DecidableEq, Repr

/-- `MemoryConfig(max_memory_occupation=0, priority_variables=…, variables_to_drop=…)` -/
structure MemConfig where
  priority : List Var
  drop : List Var := []
deriving DecidableEq, Repr

structure SimObj where
  persons : Id
  pops : List (Nat × Id)     -- `populations`: entity ↦ population
  tracer : Id
  inval : Id                 -- `invalidated_caches`
  trace : Bool
  memConfig : Option MemConfig
  dir : Option Id            -- `_data_storage_dir`
  debug : Bool := false
  optOut : Bool := false     -- `opt_out_cache`
  msl : Nat := Generated.maxSpiralLoops    -- `max_spiral_loops`
deriving DecidableEq, Repr

inductive Obj where
  | sim (o : SimObj)
  | pop (o : PopObj)
  | holder (o : HolderObj)
  | store (o : StoreObj)
  | disk (o : DiskObj)
  | dir (o : DirObj)
  | tracer (o : TracerObj)
  | inval (o : List Key)
deriving DecidableEq, Repr

def Obj.sim? : Obj → Option SimObj
  | .sim o => some o | .pop _ => none | .holder _ => none | .store _ => none
  | .disk _ => none | .dir _ => none | .tracer _ => none | .inval _ => none
def Obj.pop? : Obj → Option PopObj
  | .sim _ => none | .pop o => some o | .holder _ => none | .store _ => none
  | .disk _ => none | .dir _ => none | .tracer _ => none | .inval _ => none
def Obj.holder? : Obj → Option HolderObj
  | .sim _ => none | .pop _ => none | .holder o => some o | .store _ => none
  | .disk _ => none | .dir _ => none | .tracer _ => none | .inval _ => none
def Obj.store? : Obj → Option StoreObj
  | .sim _ => none | .pop _ => none | .holder _ => none | .store o => some o
  | .disk _ => none | .dir _ => none | .tracer _ => none | .inval _ => none
def Obj.disk? : Obj → Option DiskObj
  | .sim _ => none | .pop _ => none | .holder _ => none | .store _ => none
  | .disk o => some o | .dir _ => none | .tracer _ => none | .inval _ => none
def Obj.dir? : Obj → Option DirObj
  | .sim _ => none | .pop _ => none | .holder _ => none | .store _ => none
  | .disk _ => none | .dir o => some o | .tracer _ => none | .inval _ => none
def Obj.tracer? : Obj → Option TracerObj
  | .sim _ => none | .pop _ => none | .holder _ => none | .store _ => none
  | .disk _ => none | .dir _ => none | .tracer o => some o | .inval _ => none
def Obj.inval? : Obj → Option (List Key)
  | .sim _ => none | .pop _ => none | .holder _ => none | .store _ => none
  | .disk _ => none | .dir _ => none | .tracer _ => none | .inval o => some o

/-! ## the heap -/

abbrev Heap := List (List Obj)

def Heap.get? (h : Heap) (p : Id) : Option Obj := (h[p.reg]?).bind (fun r => r[p.idx]?)
def Heap.put (h : Heap) (p : Id) (o : Obj) : Heap := h.modify p.reg (fun r => r.set p.idx o)
def Heap.size (h : Heap) (r : Nat) : Nat := (h[r]?.getD []).length
def Heap.push (h : Heap) (r : Nat) (o : Obj) : Heap := h.modify r (fun l => l ++ [o])

/-- heap computations: an exception leaves the heap as it was when it was raised -/
def HM (α : Type) : Type := Heap → Except Err α × Heap

namespace HM
def pure' {α : Type} (a : α) : HM α := fun h => (.ok a, h)
def bind' {α β : Type} (m : HM α) (f : α → HM β) : HM β := fun h =>
  match m h with
  | (.ok a, h1) => f a h1
  | (.error e, h1) => (.error e, h1)
instance : Monad HM where
  pure := pure'
  bind := bind'
def fail {α : Type} (e : Err) : HM α := fun h => (.error e, h)
/-- `try: m finally: fin` -/
def tryFinally {α : Type} (m : HM α) (fin : HM Unit) : HM α := fun h =>
  match fin (m h).2 with
  | (.ok _, h2) => ((m h).1, h2)
  | (.error e, h2) => (.error e, h2)
/-- `try: m except SpiralError: handler` -/
def catchSpiral {α : Type} (m : HM α) (handler : HM α) : HM α := fun h =>
  match m h with
  | (.ok a, h1) => (.ok a, h1)
  | (.error .spiral, h1) => handler h1
  | (.error .bad, h1) => (.error .bad, h1)
  | (.error .value, h1) => (.error .value, h1)
  | (.error .cycle, h1) => (.error .cycle, h1)
  | (.error .fuel, h1) => (.error .fuel, h1)
def ofOption {α : Type} (e : Err) : Option α → HM α
  | some a => pure a
  | none => fail e
/-- an exception raised by the period model -/
def ofPeriod {α : Type} : Except String α → HM α
  | .ok a => pure a
  | .error _ => fail .value
end HM
open HM

/-- read the object designated by an id -/
def rd (p : Id) : HM Obj := fun h =>
  match h.get? p with
  | some o => (.ok o, h)
  | none => (.error .bad, h)
/-- assign the fields of an existing object -/
def wr (p : Id) (o : Obj) : HM Unit := fun h =>
  match h.get? p with
  | some _ => (.ok (), h.put p o)
  | none => (.error .bad, h)
/-- storages, directories, tracers and sets: the objects that refer to nothing a simulation is made of -/
def Obj.leafKind : Obj → Nat
  | .sim _ => 0 | .pop _ => 0 | .holder _ => 0
  | .store _ => 1 | .disk _ => 2 | .dir _ => 3 | .tracer _ => 4 | .inval _ => 5

/-- assign the content of a storage / directory / tracer / set: the object keeps its class -/
def wrLeaf (p : Id) (o : Obj) : HM Unit := fun h =>
  match h.get? p with
  | some old => if old.leafKind = o.leafKind ∧ o.leafKind ≠ 0 then (.ok (), h.put p o) else (.error .bad, h)
  | none => (.error .bad, h)

/-- allocate a new object at the end of region `r` -/
def new (r : Nat) (o : Obj) : HM Id := fun h =>
  match h[r]? with
  | some l => (.ok ⟨r, l.length⟩, h.push r o)
  | none => (.error .bad, h)
/-- open a new, empty region -/
def newRegion : HM Nat := fun h => (.ok h.length, h ++ [[]])

/-- `[f(a) for a in l]` -/
def mapMH {α β : Type} (f : α → HM β) : List α → HM (List β)
  | [] => pure []
  | a :: r => do
    let b ← f a
    let bs ← mapMH f r
    pure (b :: bs)

def rdSim (p : Id) : HM SimObj := do ofOption .bad (← rd p).sim?
/-- assign attributes of a simulation -/
def updSim (x : Id) (f : SimObj → SimObj) : HM Unit := do
  let so ← rdSim x
  wr x (.sim (f so))

def rdPop (p : Id) : HM PopObj := do ofOption .bad (← rd p).pop?
/-- assign attributes of a population -/
def updPop (p : Id) (f : PopObj → PopObj) : HM Unit := do
  let po ← rdPop p
  wr p (.pop (f po))

def rdHolder (p : Id) : HM HolderObj := do ofOption .bad (← rd p).holder?
def rdStore (p : Id) : HM StoreObj := do ofOption .bad (← rd p).store?
def rdDisk (p : Id) : HM DiskObj := do ofOption .bad (← rd p).disk?
def rdDir (p : Id) : HM DirObj := do ofOption .bad (← rd p).dir?
def rdTracer (p : Id) : HM TracerObj := do ofOption .bad (← rd p).tracer?
def rdInval (p : Id) : HM (List Key) := do ofOption .bad (← rd p).inval?

/-! ## association lists (Python dicts: assignment to an existing key keeps its position) -/

def alGet {κ β : Type} [DecidableEq κ] : List (κ × β) → κ → Option β
  | [], _ => none
  | (k', v) :: r, k => if k' = k then some v else alGet r k

def alPut {κ β : Type} [DecidableEq κ] : List (κ × β) → κ → β → List (κ × β)
  | [], k, v => [(k, v)]
  | (k', v') :: r, k, v => if k' = k then (k', v) :: r else (k', v') :: alPut r k v

def insertNew {κ : Type} [DecidableEq κ] (l : List κ) (k : κ) : List κ := if k ∈ l then l else l ++ [k]

/-! ## storages -/

/-- an eternal storage files everything under `ETERNITY` -/
def keyOf (eternal : Bool) (p : Period) : Period := if eternal then Period.eternity else p

def StoreObj.find (s : StoreObj) (p : Period) : Option Vec := alGet s.arrays (keyOf s.eternal p)
def StoreObj.insert (s : StoreObj) (v : Vec) (p : Period) : StoreObj :=
  { s with arrays := alPut s.arrays (keyOf s.eternal p) v }

/-- items kept by `delete(period)`: those `period` does not contain (`contains` may raise) -/
def keepOutside {β : Type} (p : Period) (key : β → Period) : List β → Except String (List β)
  | [] => .ok []
  | x :: r =>
    match p.contains (key x) with
    | .error e => .error e
    | .ok c =>
      match keepOutside p key r with
      | .error e => .error e
      | .ok r' => .ok (if c then r' else x :: r')

/-- `InMemoryStorage.delete` -/
def StoreObj.remove (s : StoreObj) : Option Period → Except String StoreObj
  | none => .ok { s with arrays := [] }
  | some p =>
    match keepOutside (keyOf s.eternal p) (fun x => x.1) s.arrays with
    | .error e => .error e
    | .ok l => .ok { s with arrays := l }

/-- `OnDiskStorage.get` -/
def diskFind (d : DiskObj) (p : Period) : HM (Option Vec) :=
  let k := keyOf d.eternal p
  if k ∈ d.files then do
    let dir ← rdDir d.dir
    match alGet dir.files (d.var, k) with
    | some v => pure (some v)
    | none => fail .bad
  else pure none

/-- `OnDiskStorage.put`: write the file, then register it in `_files` -/
def diskInsert (did : Id) (v : Vec) (p : Period) : HM Unit := do
  let d ← rdDisk did
  let k := keyOf d.eternal p
  let dir ← rdDir d.dir
  wrLeaf d.dir (.dir ⟨alPut dir.files (d.var, k) v⟩)
  wrLeaf did (.disk { d with files := insertNew d.files k })

/-- `OnDiskStorage.delete` (forgets the files, does not remove them) -/
def diskRemove (did : Id) (p : Option Period) : HM Unit := do
  let d ← rdDisk did
  match p with
  | none => wrLeaf did (.disk { d with files := [] })
  | some p =>
    let l ← ofPeriod (keepOutside (keyOf d.eternal p) (fun x => x) d.files)
    wrLeaf did (.disk { d with files := l })

/-! ## holders -/

def isEternal (decl : VarDecl) : Bool := decide (decl.defPeriod = .eternity)

def varDecl (sys : Sys) (v : Var) : HM VarDecl := ofOption .value sys[v]?

/-- `simulation.data_storage_dir`: the temporary directory is made on first use -/
def dataStorageDir (r : Nat) (sid : Id) : HM Id := do
  let so ← rdSim sid
  match so.dir with
  | some d => pure d
  | none => do
    let d ← new r (.dir ⟨[]⟩)
    updSim sid (fun so => { so with dir := some d })
    pure d

/-- the `_disk_storage` of a new holder: none without a memory configuration or for a priority variable,
else `create_disk_storage()` -/
def createDisk (r : Nat) (sid : Id) (v : Var) (eternal : Bool) : HM (Option Id) := do
  let so ← rdSim sid
  match so.memConfig with
  | none => pure none
  | some mc =>
    if v ∈ mc.priority then pure none else do
      let dirId ← dataStorageDir r sid
      let did ← new r (.disk ⟨eternal, v, dirId, []⟩)
      pure (some did)

/-- `Holder.__init__(variable, population)`, called by `population.get_holder` on first use;
everything it allocates goes to region `r` -/
def createHolder (sys : Sys) (r : Nat) (pid : Id) (v : Var) : HM (Id × HolderObj) := do
  let decl ← varDecl sys v
  let po ← rdPop pid
  let mem ← new r (.store ⟨isEternal decl, []⟩)
  -- `self.simulation = population.simulation`; `self.simulation.memory_config`
  let disk ← createDisk r po.sim v (isEternal decl)
  let so ← rdSim po.sim
  let noStore := match so.memConfig with
    | none => false
    | some mc => decide (v ∈ mc.drop)
  let ho : HolderObj := ⟨v, pid, po.sim, mem, disk, noStore⟩
  let hid ← new r (.holder ho)
  updPop pid (fun po => { po with holders := po.holders ++ [(v, hid)] })
  pure (hid, ho)

/-- `simulation.get_holder(variable)`: `get_variable_population(variable).get_holder(variable)` -/
def getHolder (sys : Sys) (x : Id) (v : Var) : HM (Id × HolderObj) := do
  let decl ← varDecl sys v
  let so ← rdSim x
  let pid ← ofOption .value (alGet so.pops decl.entity)
  let po ← rdPop pid
  match alGet po.holders v with
  | some hid => do
    let ho ← rdHolder hid
    pure (hid, ho)
  | none => createHolder sys x.reg pid v

/-- the on-disk half of `Holder.get_array` -/
def diskLookup (disk : Option Id) (p : Period) : HM (Option Vec) :=
  match disk with
  | some did => do
    let d ← rdDisk did
    diskFind d p
  | none => pure none

/-- `Holder.get_array` -/
def holderFind (ho : HolderObj) (p : Period) : HM (Option Vec) := do
  let st ← rdStore ho.mem
  match st.find p with
  | some v => pure (some v)
  | none => diskLookup ho.disk p

/-- the on-disk half of `Holder.get_known_periods` -/
def diskPeriods (disk : Option Id) : HM (List Period) :=
  match disk with
  | some did => do
    let d ← rdDisk did
    pure d.files
  | none => pure []

/-- `Holder.get_known_periods` -/
def knownPeriods (ho : HolderObj) : HM (List Period) := do
  let st ← rdStore ho.mem
  let ds ← diskPeriods ho.disk
  pure (st.arrays.map (fun x => x.1) ++ ds)

/-- the known periods with the value `get_array` returns for each -/
def holderKnown (ho : HolderObj) : HM (List (Period × Option Vec)) := do
  let ps ← knownPeriods ho
  mapMH (fun p => do
    let a ← holderFind ho p
    pure (p, a)) ps

/-- `Holder._set` (after `_to_array`: the length is checked against `self.population.count`) -/
def holderSet (sys : Sys) (ho : HolderObj) (p : Period) (v : Vec) : HM Unit := do
  let decl ← varDecl sys ho.var
  let po ← rdPop ho.pop
  if v.length ≠ po.count then fail .value else
  if !isEternal decl ∧ (decl.defPeriod ≠ p.unit ∨ p.size > 1) then fail .value else do
  let st ← rdStore ho.mem
  match ho.disk with
  | none => wrLeaf ho.mem (.store (st.insert v p))
  | some did =>
    match st.find p with
    | some _ => wrLeaf ho.mem (.store (st.insert v p))
    | none => do
      -- `psutil.virtual_memory().percent >= self.simulation.memory_config.max_memory_occupation_pc`
      let so ← rdSim ho.sim
      match so.memConfig with
      | none => fail .bad
      | some _ => diskInsert did v p

/-- `Holder.put_in_cache`: nothing is stored for a dropped variable, nor — when the simulation opts out —
for a variable of the system's cache blacklist -/
def putInCache (sys : Sys) (ho : HolderObj) (p : Period) (v : Vec) : HM Unit :=
  if ho.noStore then pure () else do
  let so ← rdSim ho.sim
  let decl ← varDecl sys ho.var
  if so.optOut ∧ decl.blacklisted then pure () else
  holderSet sys ho p v

/-- `Holder.delete_arrays` -/
def holderDelete (ho : HolderObj) (p : Option Period) : HM Unit := do
  let st ← rdStore ho.mem
  let st' ← ofPeriod (st.remove p)
  wrLeaf ho.mem (.store st')
  match ho.disk with
  | some did => diskRemove did p
  | none => pure ()

/-- `Holder.default_array`: `variable.default_array(self.population.count)` -/
def holderDefault (sys : Sys) (ho : HolderObj) : HM Vec := do
  let decl ← varDecl sys ho.var
  let po ← rdPop ho.pop
  pure (List.replicate po.count decl.dflt)

/-! ## simulation operations -/

/-- one turn of the loop of `set_input_dispatch_by_period`: a sub-period that has no value yet
(`holder.get_array(sub_period) is None`, so neither in memory nor on disk) takes the array -/
def dispatchOne (sys : Sys) (ho : HolderObj) (a : Vec) (sub : Period) : HM Unit := do
  let found ← holderFind ho sub
  match found with
  | some _ => pure ()
  | none => holderSet sys ho sub a

/-- the loop: from the start of the period, one definition period after the other while it starts before `after` -/
def dispatchLoop (sys : Sys) (ho : HolderObj) (a : Vec) (after : Date) : Nat → Period → HM Unit
  | 0, _ => fail .fuel
  | n + 1, sub =>
    if sub.start.lt after then do
      dispatchOne sys ho a sub
      let nxt ← ofPeriod (sub.offset (.n 1) none)
      dispatchLoop sys ho a after n nxt
    else pure ()

/-- `set_input_dispatch_by_period(holder, period, array)`: `_to_array` (the length is checked against the
population) — refused for an eternal variable — `after_instant = period.start.offset(size, unit)` — the loop -/
def dispatchInput (sys : Sys) (ho : HolderObj) (decl : VarDecl) (p : Period) (a : Vec) : HM Unit := do
  let po ← rdPop ho.pop
  if a.length ≠ po.count then fail .value else
  if isEternal decl then fail .value else do
  let after ← ofPeriod (instOffset p.start (.n p.size) p.unit)
  match after with
  | none => fail .value
  | some af => dispatchLoop sys ho a af 800 ⟨decl.defPeriod, p.start, 1⟩

/-- `Simulation.set_input` → `Holder.set_input`: a variable with a `set_input` rule hands the period and the
array to it, the others store under the period itself -/
def setInput (sys : Sys) (x : Id) (v : Var) (p : Period) (a : Vec) : HM Unit := do
  let decl ← varDecl sys v
  let (_, ho) ← getHolder sys x v
  if p.unit = .eternity ∧ !isEternal decl then fail .value else
  if decl.dispatch then dispatchInput sys ho decl p a else
  holderSet sys ho p a

/-- `set_input` with values that `astype(variable.dtype)` refuses: the holder is made, the period is
checked, `_to_array` raises -/
def setInputBad (sys : Sys) (x : Id) (v : Var) (p : Period) : HM Unit := do
  let decl ← varDecl sys v
  let _ ← getHolder sys x v
  if p.unit = .eternity ∧ !isEternal decl then fail .value else
  fail .value

/-- `Simulation.delete_arrays` -/
def deleteArrays (sys : Sys) (x : Id) (v : Var) (p : Option Period) : HM Unit := do
  let (_, ho) ← getHolder sys x v
  holderDelete ho p

/-- `simulation.invalidate_cache_entry(variable, period)`: `self.invalidated_caches.add(Cache(variable, period))` —
nothing is checked (the entry is met by the next purge) -/
def invalidateEntry (x : Id) (v : Var) (p : Period) : HM Unit := do
  let so ← rdSim x
  let inv ← rdInval so.inval
  wrLeaf so.inval (.inval (insertNew inv (v, p)))

/-- `simulation.trace = b`: the setter installs a *new* tracer -/
def setTrace (x : Id) (b : Bool) : HM Unit := do
  let t ← new x.reg (.tracer ⟨b, [], []⟩)
  updSim x (fun so => { so with trace := b, tracer := t })

/-- `_check_period_consistency` -/
def periodConsistent (decl : VarDecl) (p : Period) : Bool :=
  if decl.defPeriod = .eternity then true
  else if decl.defPeriod = .year ∧ p.unit ≠ .year then false
  else if decl.defPeriod = .month ∧ p.unit ≠ .month then false
  else if decl.defPeriod = .week ∧ p.unit ≠ .week then false
  else if decl.defPeriod = .day ∧ p.unit ≠ .day then false
  else if decl.defPeriod = .weekday ∧ p.unit ≠ .weekday then false
  else decide (p.size = 1)

/-- frames marked by `invalidate_spiral_variables`, walking the stack from the most recent -/
def spiralFrames (msl : Nat) (v : Var) : List Key → Nat → List Key
  | [], _ => []
  | f :: rest, count =>
    if f.1 = v then
      if count + 1 > msl then [f] else f :: spiralFrames msl v rest (count + 1)
    else f :: spiralFrames msl v rest count

def addAll (inv : List Key) (ks : List Key) : List Key := ks.foldl insertNew inv

/-- `_check_for_cycle` -/
def checkForCycle (x : Id) (v : Var) (p : Period) : HM Unit := do
  let so ← rdSim x
  let tr ← rdTracer so.tracer
  let previous := (tr.stack.dropLast.filter (fun f => f.1 = v)).map (fun f => f.2)
  if p ∈ previous then fail .cycle else
  if previous.length ≥ so.msl then do
    let inv ← rdInval so.inval
    wrLeaf so.inval (.inval (addAll inv (spiralFrames so.msl v tr.stack.reverse 0)))
    fail .spiral
  else pure ()

/-- `tracer.record_calculation_start` -/
def tracerStart (x : Id) (v : Var) (p : Period) : HM Unit := do
  let so ← rdSim x
  let tr ← rdTracer so.tracer
  wrLeaf so.tracer (.tracer { tr with
    stack := tr.stack ++ [(v, p)],
    roots := if tr.full ∧ tr.stack.isEmpty then tr.roots ++ [(v, p)] else tr.roots })

/-- `tracer.record_calculation_end` -/
def tracerEnd (x : Id) : HM Unit := do
  let so ← rdSim x
  let tr ← rdTracer so.tracer
  wrLeaf so.tracer (.tracer { tr with stack := tr.stack.dropLast })

def purgeEach (sys : Sys) (x : Id) : List Key → HM Unit
  | [] => pure ()
  | (v, p) :: rest => do
    let (_, ho) ← getHolder sys x v
    holderDelete ho (some p)
    purgeEach sys x rest

/-- `purge_cache_of_invalid_values`; `self.invalidated_caches = set()` binds a *new* set -/
def purge (sys : Sys) (x : Id) : HM Unit := do
  let so ← rdSim x
  let tr ← rdTracer so.tracer
  if tr.stack.isEmpty then do
    let inv ← rdInval so.inval
    purgeEach sys x inv
    let i ← new x.reg (.inval [])
    updSim x (fun so => { so with inval := i })
  else pure ()

def vadd (a b : Vec) : Vec := List.zipWith (· + ·) a b
def vscale (c : Int) (a : Vec) : Vec := a.map (c * ·)

/-- `numpy.bincount(members_entity_id, weights=a, minlength=count)` -/
def groupSum (membersEntityId : List Nat) (a : Vec) (count : Nat) : Vec :=
  let n := max count ((membersEntityId.foldl max 0) + (if membersEntityId.isEmpty then 0 else 1))
  (List.range n).map (fun g => ((membersEntityId.zip a).filter (fun x => x.1 = g)).foldl (fun s x => s + x.2) 0)

/-- `GroupPopulation.members_role`: the assigned roles, else everybody holds the first flattened role
(the getter also caches that default in `_members_role`; the cached value is the value it would compute
again, so the assignment is not observable and is not modelled as a write) -/
def PopObj.roles (po : PopObj) : List Nat :=
  po.membersRole.getD (List.replicate po.membersEntityId.length 0)

/-- position of each person among the members of its group, in order of appearance -/
def appearancePositions (mei : List Nat) : List Nat :=
  (List.range mei.length).map (fun k => ((mei.take k).filter (fun g => some g = mei[k]?)).length)

/-- `GroupPopulation.members_position`: the assigned positions, else the order of appearance (cached like
the default roles) -/
def PopObj.positions (po : PopObj) : List Nat :=
  po.membersPosition.getD (appearancePositions po.membersEntityId)

/-- `GroupPopulation.value_nth_person(k, a, default=0)`: for every group with more than `k` members, the value
of its member at position `k`.  (`ordered_members_map`, an `argsort` of `members_entity_id` whose order
inside a group is numpy's, only serves to enumerate the members group by group: it has no influence on the
result and is not modelled.)  `none`: the positions are not a numbering of each group's members — numpy
raises on the shape mismatch. -/
def nthPerson (mei positions : List Nat) (a : Vec) (count k : Nat) : Option Vec :=
  let rows := (mei.zip positions).zip a
  let sel := rows.filter (fun x => x.1.2 = k)
  let nb := fun g => (mei.filter (fun x => x = g)).length
  let targets := (List.range count).filter (fun g => nb g > k)
  if sel.length ≠ targets.length then none else
  some ((List.range count).map (fun g =>
    if nb g > k then
      match sel.find? (fun x => x.1.1 = g) with
      | some x => x.2
      | none => 0
    else 0))

/-- `members_role == role`, or the disjunction over the sub-roles -/
def roleBits (roles : List Nat) (role : List Nat) : List Bool := roles.map (fun r => role.contains r)

/-- `numpy.bincount(members_entity_id[filter], weights=a[filter], minlength=count)` -/
def groupSumRole (membersEntityId : List Nat) (bits : List Bool) (a : Vec) (count : Nat) : Vec :=
  let kept := ((membersEntityId.zip a).zip bits).filter (fun x => x.2)
  groupSum (kept.map (fun x => x.1.1)) (kept.map (fun x => x.1.2)) count

def transformPeriod (pt : PT) (p : Period) : HM Period :=
  match pt with
  | .same => pure p
  | .lastMonth => ofPeriod p.lastMonth

/-- one term of a formula, evaluated for the population `pid` the formula is called with;
`rec` is `Simulation.calculate` (one unit of fuel less) -/
def evalTerm (sys : Sys) (rec : Id → Var → Period → HM Vec) (pid : Id) (ent : Nat) (p : Period) (t : Term) :
    HM Vec := do
  let p' ← transformPeriod t.pt p
  let ddecl ← varDecl sys t.dep
  let po ← rdPop pid
  match t.via with
  | .same =>
    -- `population(dep, p')`: `check_variable_defined_for_entity`, then `self.simulation.calculate`
    if ddecl.entity ≠ ent then fail .value else
    rec po.sim t.dep p'
  | .enumIs k =>
    -- `population(dep, p') == ENUM.<member k>`: what `calculate` returns for an Enum variable — computed, cached,
    -- or copied into a clone with the store — is an `EnumArray`, which compares with a member by index
    if ddecl.entity ≠ ent then fail .value else do
    let a ← rec po.sim t.dep p'
    pure (a.map (fun x => if x = (k : Int) then 1 else 0))
  | .members => do
    -- `population.sum(population.members(dep, p'))`
    let mid ← ofOption .value po.members
    let mo ← rdPop mid
    if ddecl.entity ≠ mo.entity then fail .value else do
    let a ← rec mo.sim t.dep p'
    if a.length ≠ mo.count then fail .value else
    pure (groupSum po.membersEntityId a po.count)
  | .project => do
    -- `person.<group>(dep, p')`: the projector takes `population.simulation.populations[group]`
    let so ← rdSim po.sim
    let gid ← ofOption .value (alGet so.pops ddecl.entity)
    if ddecl.entity = 0 then fail .value else do
    let go ← rdPop gid
    let a ← rec go.sim t.dep p'
    if a.length ≠ go.count then fail .value else
    ofOption .value (go.membersEntityId.mapM (fun g => a[g]?))
  | .membersRole role => do
    -- `population.sum(population.members(dep, p'), role=ROLE)`; the filter is
    -- `self.members.has_role(ROLE)`: `members.simulation.get_population(ROLE.entity.plural).members_role`
    let mid ← ofOption .value po.members
    let mo ← rdPop mid
    if ddecl.entity ≠ mo.entity then fail .value else do
    let a ← rec mo.sim t.dep p'
    if a.length ≠ mo.count then fail .value else do
    let so ← rdSim mo.sim
    let gid ← ofOption .value (alGet so.pops ent)
    let go ← rdPop gid
    if go.roles.length ≠ a.length then fail .value else
    pure (groupSumRole po.membersEntityId (roleBits go.roles role) a po.count)
  | .nbPersons role =>
    -- `population.nb_persons(role=ROLE)`: `self.sum(self.members_role == ROLE)`
    if po.roles.length ≠ po.membersEntityId.length then fail .value else
    pure (groupSum po.membersEntityId ((roleBits po.roles role).map (fun b => if b then 1 else 0)) po.count)
  | .hasRole g role => do
    -- `person.has_role(ROLE)`: `self.simulation.get_population(ROLE.entity.plural).members_role == ROLE`
    let so ← rdSim po.sim
    let gid ← ofOption .value (alGet so.pops g)
    let go ← rdPop gid
    pure ((roleBits go.roles role).map (fun b => if b then 1 else 0))
  | .param => pure (List.replicate po.count paramValue)
  | .nth k => do
    -- `population.value_nth_person(k, population.members(dep, p'), default=0)`
    let mid ← ofOption .value po.members
    let mo ← rdPop mid
    if ddecl.entity ≠ mo.entity then fail .value else do
    let a ← rec mo.sim t.dep p'
    if a.length ≠ mo.count then fail .value else
    if po.positions.length ≠ a.length ∨ po.membersEntityId.length ≠ a.length then fail .value else
    ofOption .value (nthPerson po.membersEntityId po.positions a po.count k)

def evalTerms (sys : Sys) (rec : Id → Var → Period → HM Vec) (pid : Id) (ent : Nat) (p : Period) :
    List Term → Vec → HM Vec
  | [], acc => pure acc
  | t :: rest, acc => do
    let a ← evalTerm sys rec pid ent p t
    if a.length ≠ acc.length then fail .value else
    evalTerms sys rec pid ent p rest (vadd acc (vscale t.coef a))

/-- `_run_formula`, or the default array when the variable has no formula -/
def formulaValue (sys : Sys) (rec : Id → Var → Period → HM Vec) (p : Period) (decl : VarDecl) (pid : Id)
    (ho : HolderObj) : HM Vec :=
  match decl.formula with
  | none => holderDefault sys ho
  | some ct =>
    -- `variable.get_formula(period)` prints the start instant: `ETERNITY` has no printable start
    if p.unit = .eternity then fail .value else do
    let po ← rdPop pid
    evalTerms sys rec pid decl.entity p ct.2 (List.replicate po.count ct.1)

/-- the `try:` body of `_calculate`: cycle check, formula (or default), store -/
def computeAndStore (sys : Sys) (rec : Id → Var → Period → HM Vec) (x : Id) (v : Var) (p : Period)
    (decl : VarDecl) (pid : Id) (ho : HolderObj) : HM Vec := do
  checkForCycle x v p
  let a ← formulaValue sys rec p decl pid ho
  putInCache sys ho p a
  pure a

/-- repair C02a / C02c: a hit on an entry awaiting deletion taints the calculations in progress; an eternal
variable has one stored value, whatever the period it was marked or is read under -/
def taintOnHit (x : Id) (v : Var) (p : Period) (eternal : Bool) : HM Unit := do
  let so ← rdSim x
  let inv ← rdInval so.inval
  if inv.any (fun k => decide (k.1 = v) && (decide (k.2 = p) || eternal)) then do
    let tr ← rdTracer so.tracer
    wrLeaf so.inval (.inval (addAll inv tr.stack))
  else pure ()

/-- `_calculate` -/
def calcInner (sys : Sys) (rec : Id → Var → Period → HM Vec) (x : Id) (v : Var) (p : Period) : HM Vec := do
  let decl ← varDecl sys v
  let so ← rdSim x
  let pid ← ofOption .value (alGet so.pops decl.entity)
  let (_, ho) ← getHolder sys x v
  if !periodConsistent decl p then fail .value else do
  match ← holderFind ho p with
  | some a => do
    taintOnHit x v p (isEternal decl)
    pure a
  | none =>
    catchSpiral (computeAndStore sys rec x v p decl pid ho) (holderDefault sys ho)

/-- `Simulation.calculate` -/
def calcF (sys : Sys) : Nat → Id → Var → Period → HM Vec
  | 0, _, _, _ => fail .fuel
  | n + 1, x, v, p => do
    tracerStart x v p
    tryFinally (calcInner sys (calcF sys n) x v p) (do tracerEnd x; purge sys x)

def sumCalc (sys : Sys) (fuel : Nat) (x : Id) (v : Var) : List Period → Option Vec → HM (Option Vec)
  | [], acc => pure acc
  | sp :: rest, acc => do
    let a ← calcF sys fuel x v sp
    sumCalc sys fuel x v rest (some (match acc with | none => a | some b => vadd b a))

/-- the ways a caller gets at a population of a simulation -/
inductive Route where
  | getPopulation     -- `simulation.get_population(entity.plural)`
  | populations       -- `simulation.populations[entity.key]`
  | shortcut          -- `simulation.<entity key>` (set by `create_shortcuts` / `clone`)
  | persons           -- `simulation.persons`
deriving DecidableEq, Repr

/-- Every route is a look-up in the simulation object itself, derived each time and stored nowhere else: the
population it returns is the one listed by *this* simulation.  (Three of the routes are three code paths in
openfisca-core and one expression here.) -/
def routePop (x : Id) (r : Route) (ent : Nat) : HM Id := do
  let so ← rdSim x
  match r with
  | .persons => pure so.persons
  | .getPopulation => ofOption .value (alGet so.pops ent)
  | .populations => ofOption .value (alGet so.pops ent)
  | .shortcut => ofOption .value (alGet so.pops ent)

/-- `population(v, period)` on the population a route returned: `check_variable_defined_for_entity`, then
`population.simulation.calculate(v, period)` -/
def calcThrough (sys : Sys) (fuel : Nat) (x : Id) (r : Route) (ent : Nat) (v : Var) (p : Period) : HM Vec := do
  let pid ← routePop x r ent
  let po ← rdPop pid
  let decl ← varDecl sys v
  if decl.entity ≠ po.entity then fail .value else
  calcF sys fuel po.sim v p

/-- `population.get_holder(v)` on the population `pid` -/
def popGetHolder (sys : Sys) (r : Nat) (pid : Id) (v : Var) : HM (Id × HolderObj) := do
  let decl ← varDecl sys v
  let po ← rdPop pid
  if decl.entity ≠ po.entity then fail .value else
  match alGet po.holders v with
  | some hid => do
    let ho ← rdHolder hid
    pure (hid, ho)
  | none => createHolder sys r pid v

/-- `population.get_holder(v).get_array(period)` on the population a route returned -/
def readThrough (sys : Sys) (x : Id) (r : Route) (ent : Nat) (v : Var) (p : Period) : HM (Option Vec) := do
  let pid ← routePop x r ent
  let (_, ho) ← popGetHolder sys x.reg pid v
  holderFind ho p

/-- `Simulation.calculate_add`: `sum(calculate(v, sub) for sub in subperiods)`; `none` is the integer
`0` Python's `sum` returns when there is no sub-period -/
def calcAdd (sys : Sys) (fuel : Nat) (x : Id) (v : Var) (p : Period) : HM (Option Vec) := do
  let decl ← varDecl sys v
  if unitWeight decl.defPeriod > unitWeight p.unit then fail .value else
  if decl.defPeriod = .eternity then fail .value else
  -- repair C03: an eternal period cannot be summed over
  if p.unit = .eternity then fail .value else do
  let subs ← ofPeriod (p.subperiods decl.defPeriod)
  sumCalc sys fuel x v subs none

inductive Op where
  | setInput (v : Var) (p : Period) (a : Vec)
  | deleteArrays (v : Var) (p : Option Period)
  | calculate (v : Var) (p : Period)
  | calculateAdd (v : Var) (p : Period)
  | setTrace (b : Bool)
  | touch (v : Var)          -- `simulation.get_holder(v)`
  | setBad (v : Var) (p : Period)   -- `set_input` with an array of the right length whose dtype cannot be cast
  | calcVia (r : Route) (ent : Nat) (v : Var) (p : Period)   -- `<route>(v, period)`
  | readVia (r : Route) (ent : Nat) (v : Var) (p : Period)   -- `<route>.get_holder(v).get_array(period)`
  | invalidate (v : Var) (p : Period)   -- `simulation.invalidate_cache_entry(v, period)`
deriving Repr

/-- what a call returns -/
inductive Out where
  | done                     -- `None`
  | vec (a : Vec)
  | zero                     -- the integer `0` of an empty `calculate_add`
  | nothing                  -- `get_array` found no value
deriving DecidableEq, Repr

/-- one public-API call on the simulation `x` -/
def step (sys : Sys) (fuel : Nat) (x : Id) : Op → HM Out
  | .setInput v p a => do setInput sys x v p a; pure .done
  | .deleteArrays v p => do deleteArrays sys x v p; pure .done
  | .calculate v p => do pure (.vec (← calcF sys fuel x v p))
  | .calculateAdd v p => do
    match ← calcAdd sys fuel x v p with
    | some a => pure (.vec a)
    | none => pure .zero
  | .setTrace b => do setTrace x b; pure .done
  | .touch v => do let _ ← getHolder sys x v; pure .done
  | .setBad v p => do setInputBad sys x v p; pure .done
  | .calcVia r ent v p => do pure (.vec (← calcThrough sys fuel x r ent v p))
  | .readVia r ent v p => do
    match ← readThrough sys x r ent v p with
    | some a => pure (.vec a)
    | none => pure .nothing
  | .invalidate v p => do invalidateEntry x v p; pure .done

/-! ## observations of one simulation -/

structure HolderObs where
  var : Var
  ownPop : Bool              -- `holder.population is` the population that lists it
  ownSim : Bool              -- `holder.simulation is` this simulation
  known : List (Period × Option Vec)
deriving DecidableEq, Repr

structure PopObs where
  entity : Nat
  ownSim : Bool              -- `population.simulation is` this simulation
  ownMembers : Bool          -- `group.members is simulation.persons` (true for the persons)
  count : Nat
  ids : List Nat
  membersEntityId : List Nat
  roles : List Nat                     -- `members_role` (flattened role of each person)
  positions : List Nat                 -- `members_position`
  roleCounts : List (List Int)         -- `nb_persons(role)` for every role of `stdRoles`
  holders : List HolderObs
deriving DecidableEq, Repr

structure Obs where
  debug : Bool
  optOut : Bool
  msl : Nat
  trace : Bool
  full : Bool
  roots : List Key
  stack : List Key
  inval : List Key
  personsListed : Bool       -- `simulation.persons is simulation.populations[person]`
  pops : List PopObs
  routes : List (Nat × List Bool)   -- per entity: is the population returned by `get_population(plural)`,
                                    -- `populations[key]`, `simulation.<key>` bound to this simulation?
  personsRoute : Bool               -- `simulation.persons.simulation is simulation`
deriving DecidableEq, Repr

def observeHolder (x pid : Id) (e : Var × Id) : HM HolderObs := do
  let ho ← rdHolder e.2
  let known ← holderKnown ho
  pure ⟨e.1, decide (ho.pop = pid), decide (ho.sim = x), known⟩

def observePop (x persons : Id) (e : Nat × Id) : HM PopObs := do
  let po ← rdPop e.2
  let hs ← mapMH (observeHolder x e.2) po.holders
  pure ⟨po.entity, decide (po.sim = x),
    (match po.members with | none => true | some m => decide (m = persons)),
    po.count, po.ids, po.membersEntityId, po.roles, po.positions,
    stdRoles.map (fun role =>
      groupSum po.membersEntityId ((roleBits po.roles role).map (fun b => if b then 1 else 0)) po.count),
    hs⟩

/-- is the population a route returns bound to the simulation that was asked? -/
def routeOwn (x : Id) (r : Route) (ent : Nat) : HM Bool := do
  let pid ← routePop x r ent
  let po ← rdPop pid
  pure (decide (po.sim = x))

def observeRoutes (x : Id) (e : Nat × Id) : HM (Nat × List Bool) := do
  let a ← routeOwn x .getPopulation e.1
  let b ← routeOwn x .populations e.1
  let c ← routeOwn x .shortcut e.1
  pure (e.1, [a, b, c])

def observe (x : Id) : HM Obs := do
  let so ← rdSim x
  let tr ← rdTracer so.tracer
  let inv ← rdInval so.inval
  let pops ← mapMH (observePop x so.persons) so.pops
  let routes ← mapMH (observeRoutes x) so.pops
  let pr ← routeOwn x .persons 0
  pure ⟨so.debug, so.optOut, so.msl, so.trace, tr.full, tr.roots, tr.stack, inv,
    decide (alGet so.pops 0 = some so.persons), pops, routes, pr⟩

/-- `simulation.get_array(v, p)` without creating the holder (`none` = no value) -/
def readValue (sys : Sys) (x : Id) (v : Var) (p : Period) : HM (Option Vec) := do
  let decl ← varDecl sys v
  let so ← rdSim x
  let pid ← ofOption .value (alGet so.pops decl.entity)
  let po ← rdPop pid
  match alGet po.holders v with
  | some hid => do
    let ho ← rdHolder hid
    holderFind ho p
  | none => pure none

/-- `simulation.get_known_periods(v)` without creating the holder -/
def readKnown (sys : Sys) (x : Id) (v : Var) : HM (List Period) := do
  let decl ← varDecl sys v
  let so ← rdSim x
  let pid ← ofOption .value (alGet so.pops decl.entity)
  let po ← rdPop pid
  match alGet po.holders v with
  | some hid => do
    let ho ← rdHolder hid
    knownPeriods ho
  | none => pure []

/-- entity structure of one population: count, ids, memberships, which variables have a holder -/
def readStructure (x : Id) (ent : Nat) :
    HM (Nat × List Nat × List Nat × List Nat × List Nat × List Var) := do
  let so ← rdSim x
  let pid ← ofOption .value (alGet so.pops ent)
  let po ← rdPop pid
  pure (po.count, po.ids, po.membersEntityId, po.roles, po.positions, po.holders.map (fun e => e.1))

/-- the configuration a simulation calculates with: `opt_out_cache`, `max_spiral_loops`, `memory_config` -/
def readConfig (x : Id) : HM (Bool × Nat × Option MemConfig) := do
  let so ← rdSim x
  pure (so.optOut, so.msl, so.memConfig)

/-- `simulation.populations[ent].nb_persons(role=ROLE)` -/
def roleCount (x : Id) (ent : Nat) (role : List Nat) : HM Vec := do
  let so ← rdSim x
  let pid ← ofOption .value (alGet so.pops ent)
  let po ← rdPop pid
  pure (groupSum po.membersEntityId ((roleBits po.roles role).map (fun b => if b then 1 else 0)) po.count)

/-- `simulation.persons.has_role(ROLE)` for a role of the group entity `ent`: the person population goes
back to *its* simulation to find the group population -/
def personsHaveRole (x : Id) (ent : Nat) (role : List Nat) : HM (List Bool) := do
  let so ← rdSim x
  let po ← rdPop so.persons
  let so2 ← rdSim po.sim
  let gid ← ofOption .value (alGet so2.pops ent)
  let go ← rdPop gid
  pure (roleBits go.roles role)

/-! ## clone (repaired code) -/

/-- `Holder.clone(population)`: every attribute by reference except `population`, `simulation`
(read from the new population) and — repair C13 — a new `InMemoryStorage` holding a copy of the
dict.  This is the code path of a holder WITHOUT on-disk storage (`_disk_storage is None` is copied like any
attribute); `cloneHolderR` below adds the branch of repair C13-disk -/
def cloneHolder (rc : Nat) (newPop : Id) (hid : Id) : HM Id := do
  let ho ← rdHolder hid
  let np ← rdPop newPop
  let st ← rdStore ho.mem
  let mem ← new rc (.store ⟨st.eternal, st.arrays⟩)
  new rc (.holder { ho with pop := newPop, sim := np.sim, mem := mem })

def cloneHolders (rc : Nat) (newPop : Id) : List (Var × Id) → HM (List (Var × Id))
  | [] => pure []
  | (v, hid) :: rest => do
    let hid' ← cloneHolder rc newPop hid
    let rest' ← cloneHolders rc newPop rest
    pure ((v, hid') :: rest')

/-- `members` of a cloned group population: `simulation.persons` -/
def cloneMembers (newSim : Id) : Option Id → HM (Option Id)
  | none => pure none
  | some _ => do
    let ns ← rdSim newSim
    pure (some ns.persons)

/-- `Population.clone(simulation)` / `GroupPopulation.clone(simulation)`: a new population bound
to `simulation`, holders cloned for the *new* population, `members = simulation.persons`;
`count`, `ids`, `_members_entity_id`, `_members_role`, `_members_position` by reference — values here
(the derived `_ordered_members_map`, a function of `_members_entity_id` alone, is not modelled) -/
def clonePop (rc : Nat) (newSim : Id) (pid : Id) : HM Id := do
  let po ← rdPop pid
  let members ← cloneMembers newSim po.members
  let pid' ← new rc (.pop { po with sim := newSim, holders := [], members := members })
  let hs ← cloneHolders rc pid' po.holders
  let np ← rdPop pid'
  wr pid' (.pop { np with holders := hs })
  pure pid'

def cloneGroups (rc : Nat) (newSim : Id) : List (Nat × Id) → HM (List (Nat × Id))
  | [] => pure []
  | (k, pid) :: rest => do
    let pid' ← clonePop rc newSim pid
    let rest' ← cloneGroups rc newSim rest
    pure ((k, pid') :: rest')

/-- `Simulation.clone(trace=…)`: `empty_clone` + every attribute by reference except
`debug/trace/tracer` (so `opt_out_cache`, `max_spiral_loops`, `memory_config`, `_data_storage_dir` are
the original's); then `persons`, `populations` and the group populations are replaced by clones;
`new.debug = debug`, `new.trace = trace` installs a new tracer; repair C13c: a new `invalidated_caches` -/
def cloneSim (s : Id) (trace : Bool) (debug : Bool) : HM Id := do
  let so ← rdSim s
  let rc ← newRegion
  let c ← new rc (.sim so)
  let inv ← new rc (.inval [])
  let persons' ← clonePop rc c so.persons
  let ns ← rdSim c
  wr c (.sim { ns with persons := persons', inval := inv })
  let groups' ← cloneGroups rc c (so.pops.filter (fun e => e.1 ≠ 0))
  let tr ← new rc (.tracer ⟨trace, [], []⟩)
  let ns ← rdSim c
  wr c (.sim { ns with pops := (0, persons') :: groups', tracer := tr, trace := trace, debug := debug })
  pure c

/-! ## clone of any simulation (repair C13-disk): on-disk values are copied to a directory of the clone's own

`cloneSim` above is what the repaired code does for a simulation whose holders have no on-disk storage (and
that has made no temporary directory): the property theorems are proved about it.  `cloneSimR` is the
transcription for EVERY simulation; the two coincide on memory-backed simulations (`Holder.clone` takes the
`_disk_storage is None` branch for every holder and `new._data_storage_dir = None` changes nothing).  The
driver runs `cloneSimR` for every case, and cross-checks `cloneSim` against it on memory-backed ones. -/

/-- `shutil.copyfile` for every registered period file: the content is read in the source directory and
written under the same file name in the new one -/
def copyFiles (oldDir newDir : Id) (v : Var) : List Period → HM Unit
  | [] => pure ()
  | k :: rest => do
    let od ← rdDir oldDir
    let content ← ofOption .bad (alGet od.files (v, k))
    let nd ← rdDir newDir
    wrLeaf newDir (.dir ⟨alPut nd.files (v, k) content⟩)
    copyFiles oldDir newDir v rest

/-- the `_disk_storage` of a cloned holder: `new.create_disk_storage()` in the NEW simulation's temporary
directory (made on first use), the period files copied there and registered in the same order -/
def cloneDisk (rc : Nat) (newSim : Id) : Option Id → HM (Option Id)
  | none => pure none
  | some did => do
    let d ← rdDisk did
    let dirId ← dataStorageDir rc newSim
    let did' ← new rc (.disk ⟨d.eternal, d.var, dirId, []⟩)
    copyFiles d.dir dirId d.var d.files
    wrLeaf did' (.disk ⟨d.eternal, d.var, dirId, d.files⟩)
    pure (some did')

/-- `Holder.clone(population)` (repaired): a new `InMemoryStorage` with a copy of the dict, and a new
`OnDiskStorage` with copies of the files when the holder has one -/
def cloneHolderR (rc : Nat) (newPop : Id) (hid : Id) : HM Id := do
  let ho ← rdHolder hid
  let np ← rdPop newPop
  let st ← rdStore ho.mem
  let mem ← new rc (.store ⟨st.eternal, st.arrays⟩)
  let disk ← cloneDisk rc np.sim ho.disk
  new rc (.holder { ho with pop := newPop, sim := np.sim, mem := mem, disk := disk })

def cloneHoldersR (rc : Nat) (newPop : Id) : List (Var × Id) → HM (List (Var × Id))
  | [] => pure []
  | (v, hid) :: rest => do
    let hid' ← cloneHolderR rc newPop hid
    let rest' ← cloneHoldersR rc newPop rest
    pure ((v, hid') :: rest')

def clonePopR (rc : Nat) (newSim : Id) (pid : Id) : HM Id := do
  let po ← rdPop pid
  let members ← cloneMembers newSim po.members
  let pid' ← new rc (.pop { po with sim := newSim, holders := [], members := members })
  let hs ← cloneHoldersR rc pid' po.holders
  let np ← rdPop pid'
  wr pid' (.pop { np with holders := hs })
  pure pid'

def cloneGroupsR (rc : Nat) (newSim : Id) : List (Nat × Id) → HM (List (Nat × Id))
  | [] => pure []
  | (k, pid) :: rest => do
    let pid' ← clonePopR rc newSim pid
    let rest' ← cloneGroupsR rc newSim rest
    pure ((k, pid') :: rest')

/-- `Simulation.clone` (repaired): as `cloneSim`, with `new._data_storage_dir = None` before the populations
are cloned -/
def cloneSimR (s : Id) (trace : Bool) (debug : Bool) : HM Id := do
  let so ← rdSim s
  let rc ← newRegion
  let c ← new rc (.sim { so with dir := none })
  let inv ← new rc (.inval [])
  let persons' ← clonePopR rc c so.persons
  let ns ← rdSim c
  wr c (.sim { ns with persons := persons', inval := inv })
  let groups' ← cloneGroupsR rc c (so.pops.filter (fun e => e.1 ≠ 0))
  let tr ← new rc (.tracer ⟨trace, [], []⟩)
  let ns ← rdSim c
  wr c (.sim { ns with pops := (0, persons') :: groups', tracer := tr, trace := trace, debug := debug })
  pure c

/-! ## construction of a simulation from a description (driver and examples) -/

structure GroupSpec where
  entity : Nat
  count : Nat
  membersEntityId : List Nat
  roles : Option (List Nat)      -- `members_role` assigned at construction, or never
  positions : Option (List Nat) := none   -- `members_position` assigned at construction, or never
deriving Repr

structure SimSpec where
  persons : Nat
  groups : List GroupSpec
  memConfig : Option MemConfig
  optOut : Bool := false
  msl : Nat := Generated.maxSpiralLoops
deriving Repr

def buildGroups (r : Nat) (s persons : Id) : List GroupSpec → HM (List (Nat × Id))
  | [] => pure []
  | g :: rest => do
    let pid ← new r (.pop ⟨g.entity, s, [], g.count, List.range g.count, some persons, g.membersEntityId, g.roles, g.positions⟩)
    let rest' ← buildGroups r s persons rest
    pure ((g.entity, pid) :: rest')

/-- `Simulation(tax_benefit_system, populations)` followed by `simulation.memory_config = …` -/
def build (spec : SimSpec) : HM Id := do
  let r ← newRegion
  let self : Id := ⟨r, 0⟩
  let s ← new r (.sim ⟨self, [], self, self, false, spec.memConfig, none, false, spec.optOut, spec.msl⟩)
  let persons ← new r (.pop ⟨0, s, [], spec.persons, List.range spec.persons, none, [], none, none⟩)
  let groups ← buildGroups r s persons spec.groups
  let tr ← new r (.tracer ⟨false, [], []⟩)
  let inv ← new r (.inval [])
  wr s (.sim ⟨persons, (0, persons) :: groups, tr, inv, false, spec.memConfig, none, false, spec.optOut, spec.msl⟩)
  pure s

/-! ## interleaved histories -/

inductive Side where
  | orig | clone
deriving DecidableEq, Repr

/-- the heap after the operations of one simulation, in order (exceptions are caught by the caller
and leave their partial effects, as in Python) -/
def runSide (sys : Sys) (fuel : Nat) (x : Id) : List Op → Heap → Heap
  | [], h => h
  | op :: rest, h => runSide sys fuel x rest (step sys fuel x op h).2

def sideId (s c : Id) : Side → Id
  | .orig => s
  | .clone => c

/-- the heap after an interleaved history on the original `s` and the clone `c` -/
def runOps (sys : Sys) (fuel : Nat) (s c : Id) : List (Side × Op) → Heap → Heap
  | [], h => h
  | (sd, op) :: rest, h => runOps sys fuel s c rest (step sys fuel (sideId s c sd) op h).2

def onSide (sd : Side) (e : Side × Op) : Option Op := if e.1 = sd then some e.2 else none

/-- what the calls of one simulation, run alone, return -/
def resultsSide (sys : Sys) (fuel : Nat) (x : Id) : List Op → Heap → List (Except Err Out)
  | [], _ => []
  | op :: rest, h => (step sys fuel x op h).1 :: resultsSide sys fuel x rest (step sys fuel x op h).2

/-- what the calls made on side `sd` return in an interleaved history -/
def resultsOps (sys : Sys) (fuel : Nat) (s c : Id) (sd : Side) : List (Side × Op) → Heap → List (Except Err Out)
  | [], _ => []
  | (sd', op) :: rest, h =>
    if sd' = sd then
      (step sys fuel (sideId s c sd') op h).1 :: resultsOps sys fuel s c sd rest (step sys fuel (sideId s c sd') op h).2
    else resultsOps sys fuel s c sd rest (step sys fuel (sideId s c sd') op h).2

/-! ## families of simulations and histories with clones

The live simulations are kept in a list, in order of creation (the original first); an event designates a
simulation by its rank. -/

/-- the heap after calls on any of the simulations `sims` -/
def runCalls (sys : Sys) (fuel : Nat) (sims : List Id) : List (Nat × Op) → Heap → Heap
  | [], h => h
  | (i, op) :: rest, h =>
    match sims[i]? with
    | some x => runCalls sys fuel sims rest (step sys fuel x op h).2
    | none => runCalls sys fuel sims rest h

/-- what the calls made on the `j`-th simulation return -/
def resultsCalls (sys : Sys) (fuel : Nat) (sims : List Id) (j : Nat) : List (Nat × Op) → Heap → List (Except Err Out)
  | [], _ => []
  | (i, op) :: rest, h =>
    match sims[i]? with
    | some x =>
      if i = j then (step sys fuel x op h).1 :: resultsCalls sys fuel sims j rest (step sys fuel x op h).2
      else resultsCalls sys fuel sims j rest (step sys fuel x op h).2
    | none => resultsCalls sys fuel sims j rest h

def callsOf (j : Nat) (e : Nat × Op) : Option Op := if e.1 = j then some e.2 else none

/-- a step of a history: a call on a live simulation, or the cloning of one (the clone joins the list) -/
inductive Ev where
  | call (i : Nat) (op : Op)
  | clone (i : Nat) (trace debug : Bool)

/-- heap and live simulations after a history (a `clone()` that raises makes no simulation; what it had
allocated is unreachable and dropped) -/
def runEvs (sys : Sys) (fuel : Nat) : List Ev → Heap × List Id → Heap × List Id
  | [], st => st
  | .call i op :: rest, (h, sims) =>
    match sims[i]? with
    | some x => runEvs sys fuel rest ((step sys fuel x op h).2, sims)
    | none => runEvs sys fuel rest (h, sims)
  | .clone i t d :: rest, (h, sims) =>
    match sims[i]? with
    | some x =>
      match cloneSim x t d h with
      | (.ok c, h') => runEvs sys fuel rest (h', sims ++ [c])
      | (.error _, _) => runEvs sys fuel rest (h, sims)
    | none => runEvs sys fuel rest (h, sims)

/-! ## footprints -/

/-- the references an object holds -/
def Obj.refs : Obj → List Id
  | .sim o => o.persons :: o.tracer :: o.inval :: (o.pops.map (fun e => e.2) ++ o.dir.toList)
  | .pop o => o.sim :: (o.holders.map (fun e => e.2) ++ o.members.toList)
  | .holder o => o.pop :: o.sim :: o.mem :: o.disk.toList
  | .store _ => []
  | .disk o => [o.dir]
  | .dir _ => []
  | .tracer _ => []
  | .inval _ => []

def refsOf (h : Heap) (p : Id) : List Id :=
  match h.get? p with
  | some o => o.refs
  | none => []

/-- the ids reachable from `roots` by following at most `n` references -/
def reach (h : Heap) : Nat → List Id → List Id
  | 0, roots => roots
  | n + 1, roots => roots ++ reach h n (roots.flatMap (refsOf h))

end OFCore.Heap
