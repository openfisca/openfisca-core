import OFCore.Param
import OFCore.Calendar
/-!
# Every way of reading parameters (import-free model) — property C07

Python counterparts (the tree WITH the repairs F-C07, F-C07b, F-C07c, F-C07d):

* `TaxBenefitSystem.get_parameters_at_instant` (`functools.lru_cache`, keyed by `(self, instant)`,
  `maxsize = 128`, ONE cache for the whole process: a baseline and its reforms share it) ↦ `viewAt`
  on a `World` (`memo`, `memoTouch`, `cacheSize`)
* `TaxBenefitSystem.load_extension` (`cache_clear()`, own copy for a reform — repairs
  C14f/C14g —, then `ParameterNode.merge` IN PLACE) ↦ `Op.extend`
  (`mergeInto`); `_get_baseline_parameters_at_instant` ↦ `Read.baseView` (`rootOf`)
* `TaxBenefitSystem.load_parameters`                    ↦ `Op.reload`   (tree built, `preprocess_parameters`
  hook run, tree replaced, memo emptied — in that order)
* `Reform.__init__` (`self.parameters = baseline.parameters`) ↦ `Op.newReform`
* `Reform.modify_parameters` (deep copy of the reform's OWN current tree — successive modifiers
  accumulate, repair C14e —, modifier (a `ModProg`: it may read the process while it runs), `isinstance`
  test, replacement, and only then `cache_clear()`)                          ↦ `Op.modify`
* `parameters.a.b(instant)` / `get_at_instant`          ↦ `readTreeAt` (`pdescend`, then `atInstant`)
* `view.a.b`, `ParameterNodeAtInstant.__getattr__`      ↦ `sdescend`
* `Simulation._run_formula`: `parameters_at = trace_parameters_at_instant | get_parameters_at_instant`
  ↦ `Op.readFormula traced`; `TracingParameterNodeAtInstant.__getattr__/get_traced_child` ↦ `tracedDescend`,
  `__getitem__` on vectors ↦ `tracedVec`
* `VectorialParameterNodeAtInstant.check_node_vectorisable` ↦ `homog` (`checkNodes`, `checkNums`, `pool`)
* `VectorialParameterNodeAtInstant.build_from_node`     ↦ `buildVec plainLt` (`vectorise`, `sortFields`)
* `VectorialParameterNodeAtInstant.__getitem__` / `__getattr__` ↦ `vindex` / `vfield` (`KeyVec.strs` is the
  stringification of `Enum` object arrays, `EnumArray`s and integer arrays)
* `VectorialAsofDateParameterNodeAtInstant.build_from_node` / `__getitem__` ↦ `buildVec asofLt` / `asofIndex`

Abstractions. A numpy record array is a list of rows (`VRow`), a float array a list of leaf rows;
instants are proleptic ordinals (as in `Param.lean`); tree OBJECTS have an identity (`World.heap`):
a reform refers to its baseline's object until one of them replaces its tree (`modify_parameters`
installs a deep copy, `load_parameters` a new tree), and `load_extension` changes the object in place. Memo keys keep the *spelling* of the instant argument
(`"2018-01-01"`, `Instant`, `Period` … are different `lru_cache` keys) as an opaque code `form`.
-/
namespace OFCore.PView
open OFCore.Param

variable {V W α β : Type}

/-! ## Association lists (Python dicts: first match wins; real dicts have distinct keys) -/

def assoc (k : String) : List (String × α) → Option α
  | [] => none
  | (k', x) :: r => if k' = k then some x else assoc k r

mutual
/-- every node's child names are distinct (what a Python `dict` guarantees) -/
def treeWF : PNode V → Bool
  | .param _ => true
  | .scale _ _ => true
  | .node cs => wfAll cs
def wfAll : List (String × PNode V) → Bool
  | [] => true
  | (k, c) :: r => (assoc k r).isNone && treeWF c && wfAll r
end

/-! ## Navigation by attribute path -/

/-- `getattr(parameter_node, key)` -/
def pchild : PNode V → String → Except String (PNode V)
  | .node cs, k =>
    match assoc k cs with
    | some c => .ok c
    | none => .error "AttributeError"
  | .param _, _ => .error "AttributeError"
  | .scale _ _, _ => .error "AttributeError"

/-- `parameters.a.b` -/
def pdescend (t : PNode V) : List String → Except String (PNode V)
  | [] => .ok t
  | k :: p =>
    match pchild t k with
    | .ok c => pdescend c p
    | .error e => .error e

/-- `getattr(node_at_instant, key)`: `ParameterNotFoundError` for a missing child -/
def schild : Snap V → String → Except String (Snap V)
  | .node cs, k =>
    match assoc k cs with
    | some c => .ok c
    | none => .error "ParameterNotFoundError"
  | .val _, _ => .error "AttributeError"
  | .scale _, _ => .error "AttributeError"

/-- `view.a.b` -/
def sdescend (s : Snap V) : List String → Except String (Snap V)
  | [] => .ok s
  | k :: p =>
    match schild s k with
    | .ok c => sdescend c p
    | .error e => .error e

/-- the parameter object itself: `parameters.a.b(d)`; `ok none` is Python's `None` -/
def readTreeAt (t : PNode V) (path : List String) (d : Int) : Except String (Option (Snap V)) :=
  match pdescend t path with
  | .ok c => .ok (c.atInstant d)
  | .error e => .error e

/-- navigating what `get_parameters_at_instant` returned (`None` when the system has no tree) -/
def navView (root : Option (Snap V)) (path : List String) : Except String (Option (Snap V)) :=
  match root, path with
  | none, [] => .ok none
  | none, _ :: _ => .error "AttributeError"
  | some s, p =>
    match sdescend s p with
    | .ok x => .ok (some x)
    | .error e => .error e

/-! ## The tracing wrapper -/

/-- one `TraceNode(name, period, value)` appended by `record_parameter_access` -/
structure LogEntry (V : Type) where
  name  : String
  date  : Int
  value : V
deriving Repr, DecidableEq

/-- `helpers._compose_name(path, child_name)` -/
def composeName (path child : String) : String :=
  if path = "" then child else path ++ "." ++ child

/-- `TracingParameterNodeAtInstant.__getattr__` along a path. `name` is the wrapped node's `_name`.
    A sub-node is wrapped again; a value is recorded under `f"{name}.{key}"` and returned bare
    (whatever is navigated after it is navigated on the bare object); a tax scale is returned
    bare and not recorded. -/
def tracedDescend (d : Int) (name : String) (s : Snap V) (path : List String)
    (log : List (LogEntry V)) : Except String (Snap V) × List (LogEntry V) :=
  match path with
  | [] => (.ok s, log)
  | k :: p =>
    match schild s k with
    | .error e => (.error e, log)
    | .ok (.node cs) => tracedDescend d (composeName name k) (.node cs) p log
    | .ok (.val v) => (sdescend (Snap.val v) p, log ++ [⟨name ++ "." ++ k, d, v⟩])
    | .ok (.scale sc) => (sdescend (Snap.scale sc) p, log)

/-- what a formula sees through `parameters(period)` when tracing is on -/
def navTraced (d : Int) (root : Option (Snap V)) (path : List String) (log : List (LogEntry V)) :
    Except String (Option (Snap V)) × List (LogEntry V) :=
  match root, path with
  | none, [] => (.ok none, log)
  | none, _ :: _ => (.error "AttributeError", log)
  | some s, p =>
    match tracedDescend d "" s p log with
    | (.ok x, l) => (.ok (some x), l)
    | (.error e, l) => (.error e, l)

/-! ## The memoised at-instant view and the operations on systems -/

/-- a key of the process-wide `lru_cache`: the system object, the spelling of the instant argument
    (opaque code), the date it denotes -/
structure Key where
  sys  : Nat
  form : Nat
  date : Int
deriving DecidableEq, Repr

/-- a tax-benefit system as far as parameters go: a REFERENCE to its current tree object (`None` until
    loaded) and, for a reform, its baseline. `Reform.__init__` copies the reference
    (`self.parameters = baseline.parameters`): until one of them replaces its tree, a reform and its
    baseline hold the same object, and an in-place change (`load_extension`) is seen by both. -/
structure SysRec where
  tree     : Option Nat
  baseline : Option Nat

/-- the process: the tree objects ever built (index = identity), the systems alive (index = identity)
    and the one shared memo -/
structure World (V : Type) where
  heap    : List (PNode V)
  systems : List SysRec
  memo    : List (Key × Option (Snap V))

/-- `self.parameters.get_at_instant(key)`, `None` when `self.parameters is None` -/
def snapshot (t : Option (PNode V)) (d : Int) : Option (Snap V) :=
  match t with
  | none => none
  | some t => t.atInstant d

/-- `lru_cache(maxsize=128)` -/
def cacheSize : Nat := 128

def memoFind (k : Key) : List (Key × α) → Option α
  | [] => none
  | (k', x) :: r => if k' = k then some x else memoFind k r

def memoErase (k : Key) : List (Key × α) → List (Key × α)
  | [] => []
  | (k', x) :: r => if k' = k then memoErase k r else (k', x) :: memoErase k r

/-- most recently used first; the least recently used entries fall off -/
def memoTouch (k : Key) (x : α) (m : List (Key × α)) : List (Key × α) :=
  ((k, x) :: memoErase k m).take cacheSize

/-- `system.parameters`: the object the system refers to, as it is NOW -/
def World.treeOf (w : World V) (s : Nat) : Option (PNode V) :=
  match w.systems[s]? with
  | some r =>
    match r.tree with
    | some i => w.heap[i]?
    | none => none
  | none => none

/-- `system.get_parameters_at_instant(instant)`: a hit returns the memoised object, a miss evaluates
    the CURRENT tree and memoises the result. `none` = there is no system `s`. -/
def viewAt (w : World V) (s form : Nat) (d : Int) : Option (World V × Option (Snap V)) :=
  match w.systems[s]? with
  | none => none
  | some _ =>
    match memoFind ⟨s, form, d⟩ w.memo with
    | some v => some ({ w with memo := memoTouch ⟨s, form, d⟩ v w.memo }, v)
    | none =>
      let v := snapshot (w.treeOf s) d
      some ({ w with memo := memoTouch ⟨s, form, d⟩ v w.memo }, v)

def isNode : PNode V → Bool
  | .node _ => true
  | .param _ => false
  | .scale _ _ => false

/-- `system.parameters = new_tree` followed by `cache_clear()`: a NEW object, referred to by `s` only -/
def install (w : World V) (s : Nat) (t : PNode V) : World V :=
  { heap := w.heap ++ [t],
    systems := w.systems.modify s (fun r => { r with tree := some w.heap.length }),
    memo := [] }

/-- `_get_baseline_parameters_at_instant`: up the chain of baselines (`fuel` bounds the walk; a
    baseline is always older than its reform) -/
def rootOf (systems : List SysRec) : Nat → Nat → Nat
  | 0, s => s
  | fuel + 1, s =>
    match systems[s]? with
    | some r =>
      match r.baseline with
      | some b => rootOf systems fuel b
      | none => s
    | none => s

inductive Obs (V : Type) where
  /-- a read: the value (`ok none` = Python's `None`) and what the tracer recorded -/
  | value (r : Except String (Option (Snap V))) (log : List (LogEntry V))
  | created (id : Nat)
  | done
  | failed (msg : String)

/-- a read of some system of the process, through one of the routes -/
inductive Read where
  /-- `system.get_parameters_at_instant(instant).<path>` -/
  | view (s form : Nat) (d : Int) (path : List String)
  /-- `system.parameters.<path>(instant)` -/
  | tree (s : Nat) (path : List String) (d : Int)
  /-- inside a formula of a simulation on `s`: `parameters(<instant>).<path>` -/
  | formula (s : Nat) (traced : Bool) (form : Nat) (d : Int) (path : List String)
  /-- `system._get_baseline_parameters_at_instant(instant).<path>`: the view of the root baseline -/
  | baseView (s form : Nat) (d : Int) (path : List String)

/-- one view read (shared by `view` and `baseView`) -/
def readViewOf (w : World V) (s form : Nat) (d : Int) (path : List String) : World V × Obs V :=
  match viewAt w s form d with
  | none => (w, .failed "no such system")
  | some (w', root) => (w', .value (navView root path) [])

/-- one read: the state after it (only the memo can change) and what the caller observes -/
def doRead (w : World V) : Read → World V × Obs V
  | .view s form d path => readViewOf w s form d path
  | .baseView s form d path => readViewOf w (rootOf w.systems w.systems.length s) form d path
  | .tree s path d =>
    match w.systems[s]? with
    | none => (w, .failed "no such system")
    | some _ =>
      match w.treeOf s with
      | none => (w, .value (.error "TypeError: None") [])
      | some t => (w, .value (readTreeAt t path d) [])
  | .formula s traced form d path =>
    match viewAt w s form d with
    | none => (w, .failed "no such system")
    | some (w', root) =>
      if traced then
        let (r, log) := navTraced d root path []
        (w', .value r log)
      else (w', .value (navView root path) [])

/-- What a user function called in the middle of a modification (a reform's modifier function, the
    `preprocess_parameters` hook of `load_parameters`) can do to the process: read any system through
    any route, any number of times, each read chosen from what the earlier ones returned, and finally
    return a tree (or raise). The edits it makes to the tree it was handed are edits of a private copy:
    they are part of the result, not of the process state. -/
inductive ModProg (V : Type) where
  | ret (r : Except String (PNode V))
  | read (rd : Read) (k : Obs V → ModProg V)

/-- running such a function: its reads go through the memo of the process, in order -/
def runProg (w : World V) : ModProg V → World V × Except String (PNode V)
  | .ret r => (w, r)
  | .read rd k => runProg (doRead w rd).1 (k (doRead w rd).2)

/-- `ParameterNode.merge(other)`: `add_child` child by child, in `other`'s order; a name already present
    raises `ValueError`, and what was added before it STAYS (the flag is "completed") -/
def mergeInto (cs : List (String × PNode V)) : List (String × PNode V) → List (String × PNode V) × Bool
  | [] => (cs, true)
  | (k, c) :: r => if (assoc k cs).isSome then (cs, false) else mergeInto (cs ++ [(k, c)]) r

/-- `self.baseline is not None` -/
def isReform (r : SysRec) : Bool := r.baseline.isSome

/-- `self.parameters = copy.deepcopy(self.parameters)`: system `s` now refers to a new object, equal
    to object `i`; every other system keeps its reference -/
def ownCopy (w : World V) (s i : Nat) : World V × Nat :=
  match w.heap[i]? with
  | some t =>
    ({ w with heap := w.heap ++ [t],
              systems := w.systems.modify s (fun r => { r with tree := some w.heap.length }) }, w.heap.length)
  | none => (w, i)

inductive Op (V : Type) where
  /-- `system.get_parameters_at_instant(instant).<path>` -/
  | readView (s form : Nat) (d : Int) (path : List String)
  /-- `system.parameters.<path>(instant)` -/
  | readTree (s : Nat) (path : List String) (d : Int)
  /-- inside a formula of a simulation on `s`: `parameters(<instant>).<path>` -/
  | readFormula (s : Nat) (traced : Bool) (form : Nat) (d : Int) (path : List String)
  /-- any read (`Read.baseView` included) -/
  | read (rd : Read)
  /-- `SomeReform(baseline)` (the body of `apply()` is the operations that follow) -/
  | newReform (b : Nat)
  /-- `reform.modify_parameters(f)`: `f` receives the copy of the reform's tree, may read the process
      while it runs, may raise -/
  | modify (s : Nat) (f : PNode V → ModProg V)
  /-- `system.load_parameters(dir)` where `dir` holds the children `cs`; `hook` is the system's
      `preprocess_parameters` (the only user code that runs inside `load_parameters`; `noHook` when
      the attribute is `None`) -/
  | reload (s : Nat) (cs : List (String × PNode V)) (hook : PNode V → ModProg V)
  /-- `system.load_extension(package)` where the package's `parameters/` directory holds `ext`: the
      tree OBJECT is changed in place -/
  | extend (s : Nat) (ext : List (String × PNode V))
  /-- `system.clone()`: a new system (same baseline) whose tree is `self.parameters.clone()`, a new object -/
  | cloneSys (s : Nat)

/-- a modifier that reads nothing -/
def pureMod (f : PNode V → Except String (PNode V)) : PNode V → ModProg V := fun t => .ret (f t)

/-- `preprocess_parameters is None` -/
def noHook : PNode V → ModProg V := fun t => .ret (.ok t)

/-- One operation: the new state of the process and what the caller observes. `modify` and `reload`
    are the sub-steps the code performs, IN THE CODE'S ORDER: (1) take the input tree (deep copy of the
    reform's own tree / the tree built from the directory); (2) run the user function, whose reads hit
    the memo while the system still has its FORMER tree; (3) install the returned tree — a new object —
    and only then empty the memo. Emptying the memo before (2) would let a read made during (2)
    re-memoise a view of the former tree that survives the installation (`stepClearFirst` below shows
    it). `extend` empties the memo FIRST and then merges in place: no user code runs in between, and a
    merge that stops half-way (a name conflict) has already changed the object. -/
def step (w : World V) : Op V → World V × Obs V
  | .readView s form d path => doRead w (.view s form d path)
  | .readTree s path d => doRead w (.tree s path d)
  | .readFormula s traced form d path => doRead w (.formula s traced form d path)
  | .read rd => doRead w rd
  | .newReform b =>
    match w.systems[b]? with
    | none => (w, .failed "no such system")
    | some r => ({ w with systems := w.systems ++ [⟨r.tree, some b⟩] }, .created w.systems.length)
  | .modify s f =>
    match w.systems[s]? with
    | none => (w, .failed "no such system")
    | some r =>
      match r.baseline with
      | none => (w, .failed "AttributeError: not a reform")   -- only `Reform` has the method
      | some _ =>
        match w.treeOf s with
        | none => (w, .failed "no parameters")
        | some t =>                                   -- (1) `copy.deepcopy(self.parameters)`: modifiers accumulate
          match runProg w (f t) with                  -- (2) `modifier_function(copy)`, reads included
          | (w1, .error e) => (w1, .failed e)         -- the modifier raised: nothing replaced, nothing cleared
          | (w1, .ok t') =>
            if isNode t' then                         -- `isinstance(reform_parameters, ParameterNode)`
              (install w1 s t', .done)                -- (3) install, then clear
            else (w1, .done)                          -- `return ValueError(…)`: silently nothing
  | .reload s cs hook =>
    match w.systems[s]? with
    | none => (w, .failed "no such system")
    | some _ =>
      match runProg w (hook (.node cs)) with          -- `ParameterNode("", directory_path=…)`, then the hook
      | (w1, .error e) => (w1, .failed e)
      | (w1, .ok t') => (install w1 s t', .done)
  | .extend s ext =>
    match w.systems[s]? with
    | none => (w, .failed "no such system")
    | some r =>                                       -- `cache_clear()` first
      match r.tree with
      | none => ({ w with memo := [] }, .failed "AttributeError: None")
      | some i =>
        -- a reform ALWAYS gets a copy of its own first: it may share its tree with any system along its
        -- chain of baselines or with other reforms of them (repairs C14f, C14g)
        match (if isReform r then ownCopy w s i else (w, i)) with
        | (w1, j) =>
          match w1.heap[j]? with                      -- then `self.parameters.merge(…)`, in place
          | some (.node cs) =>
            ({ w1 with heap := w1.heap.set j (.node (mergeInto cs ext).1), memo := [] },
              if (mergeInto cs ext).2 then .done else .failed "ValueError: already a child")
          | some (.param _) => ({ w1 with memo := [] }, .failed "AttributeError")
          | some (.scale _ _) => ({ w1 with memo := [] }, .failed "AttributeError")
          | none => ({ w1 with memo := [] }, .failed "dangling reference")
  | .cloneSys s =>
    match w.systems[s]? with
    | none => (w, .failed "no such system")
    | some r =>
      match w.treeOf s with
      | none => (w, .failed "AttributeError: None")      -- `self.parameters.clone()` on `None`
      | some t =>
        -- the memo is keyed by the system OBJECT: nothing is memoised for the clone, nothing is lost
        ({ w with heap := w.heap ++ [t], systems := w.systems ++ [⟨some w.heap.length, r.baseline⟩] },
          .created w.systems.length)

/-- NOT the code's order (kept to show that the order matters): the memo is emptied BEFORE the
    modifier runs, and not after the tree is installed. -/
def stepClearFirst (w : World V) (s : Nat) (f : PNode V → ModProg V) : World V :=
  match w.treeOf s with
  | none => w
  | some t =>
    match runProg { w with memo := [] } (f t) with
    | (w1, .error _) => w1
    | (w1, .ok t') => if isNode t' then { install w1 s t' with memo := w1.memo } else w1

/-- a finite history -/
def run (w : World V) : List (Op V) → World V
  | [] => w
  | op :: ops => run (step w op).1 ops

/-- a fresh process: one system without parameters, nothing memoised -/
def World.init : World V := ⟨[], [⟨none, none⟩], []⟩

/-- a process whose systems 0 … n-1 were each given their own tree (system `i` refers to object `i`) -/
def World.ofTrees (ts : List (PNode V × Option Nat)) : World V :=
  ⟨ts.map (·.1), (List.range ts.length).zip (ts.map (·.2)) |>.map (fun p => ⟨some p.1, p.2⟩), []⟩

/-- the system an operation replaces the tree of -/
def Op.target : Op V → Option Nat
  | .modify s _ => some s
  | .reload s _ _ => some s
  | .extend s _ => some s
  | .readView .. => none
  | .readTree .. => none
  | .readFormula .. => none
  | .read _ => none
  | .newReform _ => none
  | .cloneSys _ => none

/-- Does the operation, run in state `w`, leave the tree of system `b` alone? A replacement of another
    system's tree does; an extension does when it is loaded on another system that is a reform (it gets its
    own copy first) or does not refer to `b`'s object. -/
def Op.spares (w : World V) (b : Nat) : Op V → Bool
  | .modify s _ => s != b
  | .reload s _ _ => s != b
  | .extend s _ =>
    s != b &&
    (match w.systems[s]?, w.systems[b]? with
     | some r, some rb => isReform r || r.tree != rb.tree
     | _, _ => true)
  | .readView .. => true
  | .readTree .. => true
  | .readFormula .. => true
  | .read _ => true
  | .newReform _ => true
  | .cloneSys _ => true

/-- every operation of the history, in the state it runs in, leaves the tree of `b` alone -/
def Spared (b : Nat) : World V → List (Op V) → Prop
  | _, [] => True
  | w, op :: ops => op.spares w b = true ∧ Spared b (step w op).1 ops

/-- does the operation change a tree OBJECT in place (so that every system referring to it is affected) -/
def Op.inPlace : Op V → Bool
  | .extend .. => true
  | .modify .. => false
  | .reload .. => false
  | .readView .. => false
  | .readTree .. => false
  | .readFormula .. => false
  | .read _ => false
  | .newReform _ => false
  | .cloneSys _ => false

/-! ## Vectorial nodes -/

/-- one row of a numpy record array: a float field or a nested record -/
inductive VRow (W : Type) where
  | leaf (w : W)
  | record (fs : List (String × VRow W))

/-- stable insertion before the first field that is not smaller -/
def insertField (lt : String → String → Bool) (x : String × α) : List (String × α) → List (String × α)
  | [] => [x]
  | y :: r => if lt y.1 x.1 then y :: insertField lt x r else x :: y :: r

/-- `sorted(names, key=…)` -/
def sortFields (lt : String → String → Bool) : List (String × α) → List (String × α)
  | [] => []
  | x :: r => insertField lt x (sortFields lt r)

/-- `sorted(node._children.keys())` -/
def plainLt (a b : String) : Bool := decide (a < b)

/-- `name.startswith("before")` -/
def isBefore (name : String) : Bool := "before".toList.isPrefixOf name.toList

/-- `sorted(…, key=lambda name: (not name.startswith("before"), name))` (the F-C07c repair) -/
def asofLt (a b : String) : Bool :=
  if isBefore a = isBefore b then decide (a < b) else isBefore a

mutual
/-- the record `build_from_node` makes of a node at an instant (fields in sorted order); `num` is the
    conversion to the `"float"` dtype -/
def vectorise (lt : String → String → Bool) (num : V → Option W) : Snap V → Except String (VRow W)
  | .val v =>
    match num v with
    | some w => .ok (.leaf w)
    | none => .error "TypeError"
  | .scale _ => .error "TypeError"
  | .node cs =>
    match vectoriseAll lt num cs with
    | .ok fs => .ok (.record (sortFields lt fs))
    | .error e => .error e
def vectoriseAll (lt : String → String → Bool) (num : V → Option W) :
    List (String × Snap V) → Except String (List (String × VRow W))
  | [] => .ok []
  | (k, c) :: r =>
    match vectorise lt num c with
    | .error e => .error e
    | .ok x =>
      match vectoriseAll lt num r with
      | .error e => .error e
      | .ok xs => .ok ((k, x) :: xs)
end

mutual
def snapSize : Snap V → Nat
  | .val _ => 1
  | .scale _ => 1
  | .node cs => 1 + sizeAll cs
def sizeAll : List (String × Snap V) → Nat
  | [] => 0
  | (_, c) :: r => snapSize c + sizeAll r
end

def totalSize : List (Snap V) → Nat
  | [] => 0
  | s :: r => snapSize s + totalSize r

/-- the values of `extract_named_children(node)` -/
def kids : Snap V → List (Snap V)
  | .node cs => cs.map (·.2)
  | .val _ => []
  | .scale _ => []

/-- `children.update(extract_named_children(node))` over all the nodes of one level -/
def pool : List (Snap V) → List (Snap V)
  | [] => []
  | s :: r => kids s ++ pool r

theorem totalSize_append (a b : List (Snap V)) : totalSize (a ++ b) = totalSize a + totalSize b := by
  induction a with
  | nil => simp [totalSize]
  | cons x r ih => simp only [List.cons_append, totalSize, ih]; omega

theorem totalSize_map_snd (cs : List (String × Snap V)) : totalSize (cs.map (·.2)) = sizeAll cs := by
  induction cs with
  | nil => simp [totalSize, sizeAll]
  | cons x r ih => obtain ⟨k, c⟩ := x; simp only [List.map_cons, totalSize, sizeAll, ih]

theorem totalSize_kids_lt (s : Snap V) : totalSize (kids s) < snapSize s := by
  cases s with
  | val v => simp [kids, totalSize, snapSize]
  | scale sc => simp [kids, totalSize, snapSize]
  | node cs => simp only [kids, snapSize, totalSize_map_snd]; omega

theorem totalSize_pool_lt (s : Snap V) (r : List (Snap V)) : totalSize (pool (s :: r)) < totalSize (s :: r) := by
  have hle : ∀ l : List (Snap V), totalSize (pool l) ≤ totalSize l := by
    intro l
    induction l with
    | nil => simp [pool, totalSize]
    | cons x l ih =>
      have := totalSize_kids_lt x
      simp only [pool, totalSize, totalSize_append]; omega
  have h1 := totalSize_kids_lt s
  have h2 := hle r
  simp only [pool, totalSize, totalSize_append]; omega

/-- the keys of two nodes are compared as sets (`dict_keys.__ne__`) -/
def sameKeys (a b : List String) : Bool := a.all (fun k => b.contains k) && b.all (fun k => a.contains k)

/-- the loop over the other nodes when the first one is a node -/
def checkNodes (keys0 : List String) : List (Snap V) → Except String Unit
  | [] => .ok ()
  | .node cs :: r =>
    if sameKeys keys0 (cs.map (·.1)) then checkNodes keys0 r else .error "ValueError: key inhomogeneity"
  | .val _ :: _ => .error "ValueError: type inhomogeneity"
  | .scale _ :: _ => .error "ValueError: type inhomogeneity"

/-- the loop over the other nodes when the first one is a number -/
def checkNums (num : V → Option W) : List (Snap V) → Except String Unit
  | [] => .ok ()
  | .val v :: r => if (num v).isSome then checkNums num r else .error "NotImplementedError"
  | .node _ :: _ => .error "ValueError: type inhomogeneity"
  | .scale _ :: _ => .error "NotImplementedError"

/-- `first_node._children.keys()` -/
def snapKeys : Snap V → List String
  | .node cs => cs.map (·.1)
  | .val _ => []
  | .scale _ => []

/-- `check_nodes_homogeneous(named_nodes)`: level by level, all the nodes of a level must be of one
    kind and, if nodes, carry the same key set; their children are pooled for the next level -/
def homog (num : V → Option W) (l : List (Snap V)) : Except String Unit :=
  match l with
  | [] => .error "IndexError"
  | .node cs :: rest =>
    match checkNodes (snapKeys (.node cs)) rest with
    | .error e => .error e
    | .ok () => homog num (pool (.node cs :: rest))
  | .val v :: rest => if (num v).isSome then checkNums num rest else .error "NotImplementedError"
  | .scale _ :: _ => .error "NotImplementedError"
termination_by totalSize l
decreasing_by exact totalSize_pool_lt _ _

/-- `build_from_node(node)`: `check_node_vectorisable`, then the record -/
def buildVec (lt : String → String → Bool) (num : V → Option W) : Snap V → Except String (VRow W)
  | .node cs =>
    match homog num (cs.map (·.2)) with
    | .error e => .error e
    | .ok () => vectorise lt num (.node cs)
  | .val _ => .error "TypeError"
  | .scale _ => .error "TypeError"

/-- `vector[name]` on one row -/
def fieldOf (k : String) : VRow W → Option (VRow W)
  | .record fs => assoc k fs
  | .leaf _ => none

/-- numpy broadcasting of the rows against the key vector -/
def broadcast (rows : List α) (ks : List β) : Option (List (α × β)) :=
  if rows.length = ks.length then some (rows.zip ks)
  else match rows, ks with
    | [r], _ => some (ks.map (fun k => (r, k)))
    | _, [k] => some (rows.map (fun r => (r, k)))
    | _, _ => none

/-- `numpy.select(conditions, values, default=nan)` row by row; `none` = a NaN came out -/
def pickAll : List (VRow W × String) → Option (List (VRow W))
  | [] => some []
  | (r, k) :: ps =>
    match fieldOf k r, pickAll ps with
    | some x, some xs => some (x :: xs)
    | _, _ => none

/-- `VectorialParameterNodeAtInstant.__getitem__(key)` for an (already stringified) key vector -/
def vindex (rows : List (VRow W)) (ks : List String) : Except String (List (VRow W)) :=
  match ks, rows with
  | [], _ => .error "IndexError"                       -- `key[0]`
  | _ :: _, [] => .error "IndexError"
  | k0 :: _, r0 :: _ =>
    if (fieldOf k0 r0).isNone then .error "ValueError: no field"   -- `self.vector[key[0]]`
    else match broadcast rows ks with
      | none => .error "ValueError: broadcast"
      | some ps =>
        match pickAll ps with
        | none => .error "ParameterNotFoundError"
        | some out => .ok out

/-- `VectorialParameterNodeAtInstant.__getattr__(name)` / `[name]` (the F-C07b repair: the result is
    wrapped again with the node's name and instant) -/
def vfield (rows : List (VRow W)) (k : String) : Except String (List (VRow W)) :=
  match rows with
  | [] => .ok []
  | r :: rest =>
    match fieldOf k r, vfield rest k with
    | some x, .ok xs => .ok (x :: xs)
    | none, _ => .error "AttributeError"
    | _, .error e => .error e

/-- the key vectors the code accepts -/
inductive KeyVec where
  | names (ks : List String)                          -- a string array
  | members (enumNames : List String) (is : List Nat) -- an object array of `Enum` members
  | codes (enumNames : List String) (is : List Nat)   -- an `EnumArray`
  | ints (is : List Int)                              -- anything else: `key.astype("str")`

/-- the stringification at the top of `__getitem__` (`numpy.select` defaults to `0`) -/
def KeyVec.strs : KeyVec → List String
  | .names ks => ks
  | .members ns is => is.map (fun i => ns.getD i "0")
  | .codes ns is => is.map (fun i => ns.getD i "0")
  | .ints is => is.map (fun i => toString i)

/-- `node_at_instant[keys]` -/
def fancy (num : V → Option W) (s : Snap V) (ks : List String) : Except String (List (VRow W)) :=
  match buildVec plainLt num s with
  | .error e => .error e
  | .ok row => vindex [row] ks

/-- is the result a plain float array (else a record array, wrapped again in a vectorial node) -/
def leafRows : List (VRow W) → Bool
  | .leaf _ :: _ => true
  | .record _ :: _ => false
  | [] => false

/-- what can follow a vector index -/
inductive VStep where
  | field (k : String)
  | index (ks : List String)
  | dates (ds : List Int)       -- a `datetime64` vector (chained as-of-date indexing)

/-! ## As-of-date nodes -/

def digitsVal (cs : List Char) : Option Nat :=
  if cs.all Char.isDigit then some (cs.foldl (fun n c => n * 10 + (c.toNat - '0'.toNat)) 0) else none

def splitUnderscore : List Char → List (List Char)
  | [] => [[]]
  | c :: cs =>
    if c = '_' then [] :: splitUnderscore cs
    else match splitUnderscore cs with
      | [] => [[c]]
      | w :: ws => (c :: w) :: ws

/-- `numpy.datetime64("-".join(name[len("after_"):].split("_")))` for the canonical spelling
    `after_YYYY_MM_DD` (the six leading characters are dropped whatever they are); `none` for
    anything else (numpy raises, or builds a month/year/`NaT` value: outside the claim domain) -/
def parseAfter (name : String) : Option Int :=
  match splitUnderscore (name.toList.drop 6) with
  | [y, m, d] =>
    if y.length = 4 ∧ m.length = 2 ∧ d.length = 2 then
      match digitsVal y, digitsVal m, digitsVal d with
      | some y, some m, some d =>
        let c : Date := ⟨y, m, d⟩
        if c.Valid then some (ord c) else none
      | _, _, _ => none
    else none
  | _ => none

/-- the dates of the fields that are not `before…`, in field order -/
def afterDates : List String → Option (List Int)
  | [] => some []
  | n :: r =>
    if isBefore n then afterDates r
    else match parseAfter n, afterDates r with
      | some d, some ds => some (d :: ds)
      | _, _ => none

/-- `sum([name <= key for name in names])` for one key -/
def countLE : List Int → Int → Nat
  | [], _ => 0
  | d :: r, t => (if d ≤ t then 1 else 0) + countLE r t

/-- `values[conditions]` -/
def asofPick (vals : List (VRow W)) (ads : List Int) : List Int → Except String (List (VRow W))
  | [] => .ok []
  | t :: r =>
    match vals[countLE ads t]?, asofPick vals ads r with
    | some x, .ok xs => .ok (x :: xs)
    | none, _ => .error "IndexError"
    | _, .error e => .error e

/-- `VectorialAsofDateParameterNodeAtInstant.__getitem__(dates)` on the one-row vector built from
    the node -/
def asofIndex : VRow W → List Int → Except String (List (VRow W))
  | .leaf _, _ => .error "TypeError"
  | .record fs, dates =>
    match afterDates (fs.map (·.1)) with
    | none => .error "ValueError: datetime"
    | some [] => .error "0-d result"                   -- `sum([])` is the integer 0: a scalar comes out
    | some (a :: ads) => asofPick (fs.map (·.2)) (a :: ads) dates

/-- one element of a date index: in the row `r`, the field number `#{after_ dates ≤ t}` -/
def asofOne : VRow W → Int → Except String (VRow W)
  | .leaf _, _ => .error "TypeError"
  | .record fs, t =>
    match afterDates (fs.map (·.1)) with
    | none => .error "ValueError: datetime"
    | some ads =>
      match (fs.map (·.2))[countLE ads t]? with
      | some x => .ok x
      | none => .error "IndexError"

def asofPairs : List (VRow W × Int) → Except String (List (VRow W))
  | [] => .ok []
  | (r, t) :: ps =>
    match asofOne r t, asofPairs ps with
    | .ok x, .ok xs => .ok (x :: xs)
    | .error e, _ => .error e
    | _, .error e => .error e

/-- `VectorialAsofDateParameterNodeAtInstant.__getitem__(dates)` on a vector of SEVERAL rows (what a previous
    date index returned; the F-C07d repair): `values[conditions, rows]` — row `i` with date `i`, numpy
    broadcasting a single row or a single date against the other -/
def asofRows (rows : List (VRow W)) (ds : List Int) : Except String (List (VRow W)) :=
  match broadcast rows ds with
  | none => .error "IndexError: shape mismatch"
  | some ps => asofPairs ps

/-- One step on a vectorial node. `cls = false`: a `VectorialParameterNodeAtInstant` (what a key vector
    returns); `cls = true`: a `VectorialAsofDateParameterNodeAtInstant` (what a date vector returns).
    Attribute access is the same for both (`__getattr__`, the F-C07b repair). A key vector on the as-of
    class fails its `assert`; a date vector on the plain class is stringified and names no field. A date
    vector on the as-of class: the one-row case is `asofIndex` (the vector `build_from_node` makes), several
    rows are indexed row by row (`asofRows`). -/
def vstep (cls : Bool) (rows : List (VRow W)) : VStep → Except String (List (VRow W))
  | .field k => if leafRows rows then .error "AttributeError" else vfield rows k
  | .index ks =>
    if leafRows rows then .error "IndexError"
    else if cls then .error "AssertionError" else vindex rows ks
  | .dates ds =>
    if leafRows rows then .error "IndexError"
    else if cls then
      match rows with
      | [r0] => asofIndex r0 ds
      | [] => .error "IndexError"
      | r0 :: r1 :: rest => asofRows (r0 :: r1 :: rest) ds
    else .error "ValueError: no field"

def vsteps (cls : Bool) (rows : List (VRow W)) : List VStep → Except String (List (VRow W))
  | [] => .ok rows
  | st :: r =>
    match vstep cls rows st with
    | .ok rows' => vsteps cls rows' r
    | .error e => .error e

/-- the tracing wrapper around a vectorial node: a record array is wrapped again, a float array is
    recorded under the NODE's name and returned bare -/
def tracedVec (cls : Bool) (d : Int) (name : String) (rows : List (VRow W)) (steps : List VStep)
    (log : List (LogEntry (List (VRow W)))) :
    Except String (List (VRow W)) × List (LogEntry (List (VRow W))) :=
  if leafRows rows then (vsteps cls rows steps, log ++ [⟨name, d, rows⟩])
  else match steps with
    | [] => (.ok rows, log)
    | st :: r =>
      match vstep cls rows st with
      | .ok rows' => tracedVec cls d name rows' r log
      | .error e => (.error e, log)

/-- `node_at_instant[dates]` for a `datetime64` vector -/
def asof (num : V → Option W) (s : Snap V) (dates : List Int) : Except String (List (VRow W)) :=
  match buildVec asofLt num s with
  | .error e => .error e
  | .ok row => asofIndex row dates

/-! ## Specification vocabulary (used by the theorems of `Props/C07.lean`) -/

mutual
/-- the float values of a row, in field order (to display concrete results) -/
def rowLeaves : VRow W → List W
  | .leaf w => [w]
  | .record fs => fieldLeaves fs
def fieldLeaves : List (String × VRow W) → List W
  | [] => []
  | (_, r) :: t => rowLeaves r ++ fieldLeaves t
end

/-- the rows of a successful vector read, flattened; `none` when it raised -/
def shownRows (r : Except String (List (VRow W))) : Option (List (List W)) :=
  match r with
  | .ok rows => some (rows.map rowLeaves)
  | .error _ => none

/-- the date an `after_…` name stands for (0 when it does not parse) -/
def dateOf (n : String) : Int := (parseAfter n).getD 0

/-- Claim domain of as-of-date indexing, on the child names of the group: distinct names (a `dict`),
    exactly one `before…` child and at least one other child, every other name parses as
    `after_YYYY_MM_DD`, distinct dates, and the names order (as strings, which is how the code sorts
    them) like their dates — true of the zero-padded spelling. -/
def AsofWF (names : List String) : Prop :=
  names.Nodup ∧ (names.filter isBefore).length = 1 ∧ 2 ≤ names.length ∧
  (∀ a ∈ names, isBefore a = false → (parseAfter a).isSome = true) ∧
  (∀ a ∈ names, ∀ b ∈ names, isBefore a = false → isBefore b = false → dateOf a < dateOf b → a < b) ∧
  (∀ a ∈ names, ∀ b ∈ names, isBefore a = false → isBefore b = false → dateOf a = dateOf b → a = b)

instance (names : List String) : Decidable (AsofWF names) := by unfold AsofWF; infer_instance

/-- child `k` is the one in force at date `t`: the `before…` child when `t` precedes every `after_`
    date, else the `after_` child with the greatest date `≤ t` -/
def InForce (names : List String) (t : Int) (k : String) : Prop :=
  k ∈ names ∧
  ((isBefore k = true ∧ ∀ a ∈ names, isBefore a = false → t < dateOf a) ∨
   (isBefore k = false ∧ dateOf k ≤ t ∧ ∀ a ∈ names, isBefore a = false → dateOf a ≤ t → dateOf a ≤ dateOf k))

end OFCore.PView
