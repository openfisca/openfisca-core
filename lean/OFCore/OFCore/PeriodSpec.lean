import OFCore.Period
/-!
# Specification vocabulary for periods (import-free)

The *denotation* of a dated period is the closed interval of proleptic ordinals
`[p.lo, p.hi]` (`Period.lo`, `Period.hi` in `Period.lean`): the days from its start through
`size` units later minus one day.
-/
deriving instance DecidableEq for Except

namespace OFCore

/-- a dated period of the claim domain: real unit, valid start date, positive size -/
def Period.WF (p : Period) : Prop := p.unit ≠ .eternity ∧ p.start.Valid ∧ 1 ≤ p.size

instance (p : Period) : Decidable p.WF := by unfold Period.WF; infer_instance

/-- `qs` are consecutive, non-overlapping, non-empty intervals whose union is exactly `[lo, hi]` -/
def Tiles : List Period → Int → Int → Prop
  | [], lo, hi => lo = hi + 1
  | q :: qs, lo, hi => q.lo = lo ∧ q.lo ≤ q.hi ∧ Tiles qs (q.hi + 1) hi

/-- calendar family: day ⊂ month ⊂ year, weekday ⊂ week -/
def DUnit.family : DUnit → Nat
  | .day => 0 | .month => 0 | .year => 0 | .weekday => 1 | .week => 1 | .eternity => 2

/-- rank inside the family -/
def DUnit.rank : DUnit → Nat
  | .day => 0 | .month => 1 | .year => 2 | .weekday => 0 | .week => 1 | .eternity => 3

/-- start aligned to unit `u`: first of month (month), 1 January (year), Monday (week) -/
def AlignedTo (c : Date) : DUnit → Prop
  | .year => c.m = 1 ∧ c.d = 1
  | .month => c.d = 1
  | .week => weekday0 (ord c) = 0
  | _ => True

/-- `c` moved by `k` units (pendulum's rule) -/
def shiftDate (c : Date) (k : Int) : DUnit → Date
  | .year => addMonths c (12 * k)
  | .month => addMonths c k
  | .week => addDays c (7 * k)
  | .day => addDays c k
  | .weekday => addDays c k
  | .eternity => addDays c k   -- filler: no dated period has this unit

/-- `dss` lists, piece by piece, something related by `R` to each element of `qs` (same length) -/
def Piecewise (R : Period → List Period → Prop) : List Period → List (List Period) → Prop
  | [], [] => True
  | [], _ :: _ => False
  | _ :: _, [] => False
  | q :: qs, ds :: dss => R q ds ∧ Piecewise R qs dss

end OFCore
