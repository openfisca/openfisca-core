import OFCore.Param
/-!
# Web API (`/calculate`, `/trace`, listings) and YAML rule tests — property C20

Python counterparts (repaired tree: fixes C20a, C20b, C20c):

* `openfisca_web_api/handlers.py: calculate`      ↦ `calculateH` (`nullPaths`, `slotValue`, `fillAt`)
* `openfisca_web_api/handlers.py: trace`          ↦ `traceH` (`nullSlots`, `traceEntries`)
* `FlatTrace.serialize`                           ↦ `serializeVec`
* `app.create_app` (routes over one shared, read-only system) ↦ `respond`, `serveAll`
* `loader/parameters.py: build_api_values_history`, `get_value` ↦ `servedHistory`, `apiGetValue`
* `loader/parameters.py: build_api_scale`                       ↦ `buildApiScale` (`scaleRow`, `servedScale`), `apiScaleAt`
* `loader/variables.py: build_formulas` + the `end` entry      ↦ `servedFormulas`, `apiFormulaAt`
  (`Variable.get_formula` ↦ `engineFormulaAt`)
* `tools/test_runner.py: YamlItem.runtest / check_output / check_variable` ↦ `verdict`,
  `expectations` (`expectationsOfKey`, `flattenVar`), `checkExpectation`
* `tools/__init__.py: assert_near` (+ `assert_enum_equals`, `assert_datetime_equals`,
  `assert_text_equals`)                           ↦ `assertNear` (`cmpMode`, `pairUp`, `cmp1`, `near`)
* `test_runner.ErrorMargin.__getitem__`           ↦ `marginFor`

**The engine is abstract.** The situation builder and the simulation engine are other properties'
business (C12, C01): here a *built simulation* is a record `Sim` of functions — what
`tax_benefit_system.get_variable`, `simulation.calculate`, `population.get_index`,
`periods.period` and `simulation.describe_entities` answer — and a *system* is a function
`J → Except String Sim` (`SimulationBuilder().build_from_entities`). The handlers are functions of
these and of the request only.

JSON: objects are association lists in document order, numbers are `int` (an integer literal)
or `num` (any other number, an exact rational: the `float32` the engine holds). The handler's
`float(str(x))` prints the shortest decimal of that `float32`; the correspondence reads it back
through `numpy.float32`, so the exact rational is what is compared.

`dpath.search(input, "*/*/*/*", afilter = is None)` is modelled on objects only: an array is a
leaf for the walk. (dpath also numbers the elements of arrays, but the builder refuses every
document in which an array within reach of the glob holds `null`: role lists must hold strings,
variable values must be objects. `axes` are outside the modelled requests.)
-/
namespace OFCore.Api

/-! ## JSON trees -/

inductive J where
  | null
  | bool (b : Bool)
  | int (n : Int)
  | num (q : Rat)
  | str (s : String)
  | arr (xs : List J)
  | obj (kvs : List (String × J))
deriving Repr, Inhabited

/-- a leaf of the tree walk: anything but an object or an array -/
def J.isLeaf : J → Bool
  | .null => true | .bool _ => true | .int _ => true | .num _ => true | .str _ => true
  | .arr _ => false | .obj _ => false

def J.isNull : J → Bool
  | .null => true | .bool _ => false | .int _ => false | .num _ => false | .str _ => false
  | .arr _ => false | .obj _ => false

/-- first value under key `k` (what `d[k]` reads after JSON parsing keeps one value per key) -/
def lookupKV (k : String) : List (String × J) → Option J
  | [] => none
  | (k', v) :: r => if k' = k then some v else lookupKV k r

/-- the sub-tree at a path of keys -/
def getPath : List String → J → Option J
  | [], j => some j
  | k :: p, .obj kvs =>
    match lookupKV k kvs with
    | some v => getPath p v
    | none => none
  | _ :: _, .null => none
  | _ :: _, .bool _ => none
  | _ :: _, .int _ => none
  | _ :: _, .num _ => none
  | _ :: _, .str _ => none
  | _ :: _, .arr _ => none

mutual
/-- the key structure: every leaf replaced by `null`, keys, order and array lengths kept -/
def J.shape : J → J
  | .arr xs => .arr (shapeL xs)
  | .obj kvs => .obj (shapeO kvs)
  | .null => .null
  | .bool _ => .null
  | .int _ => .null
  | .num _ => .null
  | .str _ => .null
def shapeL : List J → List J
  | [] => []
  | x :: xs => x.shape :: shapeL xs
def shapeO : List (String × J) → List (String × J)
  | [] => []
  | (k, v) :: r => (k, v.shape) :: shapeO r
end

/-! ## Values and their rendering -/

inductive VType where
  | int | float | bool | str | date | enum
deriving DecidableEq, Repr

structure YMD where
  y : Nat
  m : Nat
  d : Nat
deriving DecidableEq, Repr

def padNat (w n : Nat) : String :=
  let s := toString n
  String.ofList (List.replicate (w - s.length) '0') ++ s

/-- `datetime.date.isoformat` -/
def YMD.iso (d : YMD) : String := padNat 4 d.y ++ "-" ++ padNat 2 d.m ++ "-" ++ padNat 2 d.d

/-- one element of a calculated vector -/
inductive Val where
  | int (n : Int)
  | num (q : Rat)
  | bool (b : Bool)
  | str (s : String)          -- decoded text (`bytes` of a `max_length` variable are decoded)
  | date (d : YMD)
  | enum (name : String)      -- the *name* of the member the index designates
deriving DecidableEq, Repr

def Val.family : Val → VType
  | .int _ => .int | .num _ => .float | .bool _ => .bool | .str _ => .str | .date _ => .date
  | .enum _ => .enum

/-- the JSON value the handler writes for an element -/
def renderVal : Val → J
  | .enum name => .str name       -- `result.decode()[i].name`
  | .num q => .num q              -- `float(str(result[i]))`
  | .str s => .str s              -- `str(item.decode() if bytes else item)`
  | .int n => .int n              -- `result.tolist()[i]`
  | .bool b => .bool b
  | .date d => .str d.iso         -- a `datetime.date`, which the JSON layer prints as text

/-- `handlers.calculate` dispatches on `variable.value_type`; an element of another family than the
declared one is outside the engine's contract (C01_result_type) and is an error here. -/
def render (t : VType) (v : Val) : Except String J :=
  if v.family = t then .ok (renderVal v) else .error "value of another type family"

/-- the JSON kind each value type is rendered in -/
def jsonKind : VType → J → Bool
  | .int, .int _ => true
  | .float, .num _ => true
  | .bool, .bool _ => true
  | .str, .str _ => true
  | .date, .str _ => true
  | .enum, .str _ => true
  | _, _ => false

/-! ## The abstract engine -/

/-- what a built simulation answers -/
structure Sim where
  /-- `tax_benefit_system.get_variable(name)` : its value type, `none` = no such variable -/
  vtype : String → Option VType
  /-- `simulation.calculate(variable, period text)` : the whole vector -/
  calcv : String → String → Except String (List Val)
  /-- `simulation.get_population(plural).get_index(id)` -/
  index : String → String → Option Nat
  /-- `str(periods.period(text))` -/
  canon : String → String
  /-- `simulation.describe_entities()` -/
  entities : List (String × List String)
  /-- `key in simulation.populations` (entity singular) -/
  singular : String → Bool
  /-- `simulation.get_population(plural = key) is not None` -/
  plural : String → Bool

/-- `SimulationBuilder().build_from_entities(system, request)` (error: the situation is refused) -/
abbrev System := J → Except String Sim

structure Slot where
  plural : String
  id : String
  var : String
  period : String
deriving DecidableEq, Repr

def Slot.path (s : Slot) : List String := [s.plural, s.id, s.var, s.period]

def slotOfPath : List String → Option Slot
  | [a, b, c, d] => some ⟨a, b, c, d⟩
  | _ => none

def optE {α : Type} (msg : String) : Option α → Except String α
  | some a => .ok a
  | none => .error msg

/-- **the engine's value for a slot**: that entity instance, variable and period -/
def engineAt (w : Sim) (s : Slot) : Except String Val :=
  match w.calcv s.var s.period with
  | .error e => .error e
  | .ok vec =>
    match w.index s.plural s.id with
    | none => .error "unknown instance"
    | some i => optE "index out of range" vec[i]?

/-- the loop body of `handlers.calculate` for one slot -/
def slotValue (w : Sim) (s : Slot) : Except String J :=
  match w.vtype s.var with
  | none => .error "variable not found"
  | some t =>
    match engineAt w s with
    | .error e => .error e
    | .ok v => render t v

def pathValue (w : Sim) (p : List String) : Except String J :=
  match slotOfPath p with
  | some s => slotValue w s
  | none => .error "not a slot"

/-! ## `/calculate` -/

mutual
/-- the `null` leaves exactly `d` keys below, in document order, with their full path
(`path` is the reversed path walked so far) -/
def nullPaths : Nat → List String → J → List (List String)
  | 0, path, .null => [path.reverse]
  | 0, _, .bool _ => []
  | 0, _, .int _ => []
  | 0, _, .num _ => []
  | 0, _, .str _ => []
  | 0, _, .arr _ => []
  | 0, _, .obj _ => []
  | d + 1, path, .obj kvs => nullPathsKV d path kvs
  | _ + 1, _, .null => []
  | _ + 1, _, .bool _ => []
  | _ + 1, _, .int _ => []
  | _ + 1, _, .num _ => []
  | _ + 1, _, .str _ => []
  | _ + 1, _, .arr _ => []
def nullPathsKV : Nat → List String → List (String × J) → List (List String)
  | _, _, [] => []
  | d, path, (k, v) :: r => nullPaths d (k :: path) v ++ nullPathsKV d path r
end

mutual
/-- `dpath.merge(input, results)`: every `null` exactly `d` keys below becomes `f path`;
everything else is kept; an error of `f` aborts (the handler raises before merging) -/
def fillAt (f : List String → Except String J) : Nat → List String → J → Except String J
  | 0, path, .null => f path.reverse
  | 0, _, .bool b => .ok (.bool b)
  | 0, _, .int n => .ok (.int n)
  | 0, _, .num q => .ok (.num q)
  | 0, _, .str s => .ok (.str s)
  | 0, _, .arr xs => .ok (.arr xs)
  | 0, _, .obj kvs => .ok (.obj kvs)
  | d + 1, path, .obj kvs =>
    match fillKV f d path kvs with
    | .ok r => .ok (.obj r)
    | .error e => .error e
  | _ + 1, _, .null => .ok .null
  | _ + 1, _, .bool b => .ok (.bool b)
  | _ + 1, _, .int n => .ok (.int n)
  | _ + 1, _, .num q => .ok (.num q)
  | _ + 1, _, .str s => .ok (.str s)
  | _ + 1, _, .arr xs => .ok (.arr xs)
def fillKV (f : List String → Except String J) : Nat → List String → List (String × J) →
    Except String (List (String × J))
  | _, _, [] => .ok []
  | d, path, (k, v) :: r =>
    match fillAt f d (k :: path) v with
    | .error e => .error e
    | .ok v' =>
      match fillKV f d path r with
      | .error e => .error e
      | .ok r' => .ok ((k, v') :: r')
end

/-- the requested slots of a document, in document order -/
def nullSlots (req : J) : List Slot := (nullPaths 4 [] req).filterMap slotOfPath

def fill (w : Sim) (req : J) : Except String J := fillAt (pathValue w) 4 [] req

/-- `handlers.calculate` -/
def calculateH (sys : System) (req : J) : Except String J :=
  match sys req with
  | .error e => .error e
  | .ok w => fill w req

/-! ## `/trace` -/

/-- `FlatTrace.serialize` of a vector: enum names, decoded text, `tolist()` -/
def serializeVec (t : VType) : List Val → Except String (List J)
  | [] => .ok []
  | v :: r =>
    match render t v with
    | .error e => .error e
    | .ok j =>
      match serializeVec t r with
      | .error e => .error e
      | .ok js => .ok (j :: js)

/-- a trace key `variable<canonical period>`; kept as a pair, printed by the driver -/
abbrev TKey := String × String

def lookupT (k : TKey) : List (TKey × List J) → Option (List J)
  | [] => none
  | (k', v) :: r => if k' = k then some v else lookupT k r

/-- `FlatTrace.get_trace`: a later node never overwrites an earlier one -/
def insertNew (k : TKey) (v : List J) (l : List (TKey × List J)) : List (TKey × List J) :=
  match lookupT k l with
  | some _ => l
  | none => l ++ [(k, v)]

/-- the `value` entries of the flat trace for the requested calculations (their dependencies'
entries are not modelled: the engine is abstract) -/
def traceEntries (w : Sim) : List Slot → List (TKey × List J) → Except String (List (TKey × List J))
  | [], acc => .ok acc
  | s :: r, acc =>
    match w.calcv s.var s.period with
    | .error e => .error e
    | .ok vec =>
      match w.vtype s.var with
      | none => .error "variable not found"
      | some t =>
        match serializeVec t vec with
        | .error e => .error e
        | .ok js => traceEntries w r (insertNew (s.var, w.canon s.period) js acc)

structure TraceAnswer where
  trace : List (TKey × List J)
  entitiesDescription : List (String × List String)
  /-- `f"{variable}<{period}>"` with the caller's spelling of the period -/
  requestedCalculations : List (String × String)

/-- `handlers.trace` -/
def traceH (sys : System) (req : J) : Except String TraceAnswer :=
  match sys req with
  | .error e => .error e
  | .ok w =>
    match traceEntries w (nullSlots req) [] with
    | .error e => .error e
    | .ok tr => .ok ⟨tr, w.entities, (nullSlots req).map fun s => (s.var, s.period)⟩

/-! ## One application serving a sequence of requests -/

inductive Req where
  | calculate (doc : J)
  | trace (doc : J)

inductive Resp where
  | calculate (r : Except String J)
  | trace (r : Except String TraceAnswer)

/-- the route functions of `create_app`: they close over the system and nothing else -/
def respond (sys : System) : Req → Resp
  | .calculate doc => .calculate (calculateH sys doc)
  | .trace doc => .trace (traceH sys doc)

/-- the application has no mutable state in the model: serving is a map -/
def serveAll (sys : System) (rs : List Req) : List Resp := rs.map (respond sys)

/-! ## Listings -/

section Listings
variable {V : Type}

/-- `build_api_values_history`: `{instant_str: value}` in the order of `values_list` -/
def servedHistory (l : List (Param.Entry V)) : List (Int × Option V) := l.map fun e => (e.date, e.val)

/-- `loader.parameters.get_value`: the candidate with the greatest start date `≤ d` -/
def apiBest (d : Int) : List (Int × Option V) → Option (Int × Option V)
  | [] => none
  | (k, v) :: r =>
    match apiBest d r with
    | some (k', v') => if k ≤ d ∧ k' < k then some (k, v) else some (k', v')
    | none => if k ≤ d then some (k, v) else none

def apiGetValue (d : Int) (kvs : List (Int × Option V)) : Option V :=
  match apiBest d kvs with
  | some (_, v) => v
  | none => none

/-- `d[k] = v` on a `dict`: an equal key is overwritten where it stands, a new key is appended -/
def setKey (k : Int) (v : Option V) : List (Int × Option V) → List (Int × Option V)
  | [] => [(k, v)]
  | (k', v') :: r => if k' = k then (k, v) :: r else (k', v') :: setKey k v r

/-- `build_variable`: the formulas by start date (ascending, a `SortedDict`), then
`result["formulas"][end + 1 day] = None` (an assignment: `setKey`) -/
def servedFormulas (formulas : List (Int × V)) (stop : Option Int) : List (Int × Option V) :=
  let base := formulas.map fun (s, f) => (s, some f)
  match stop with
  | some e => setKey (e + 1) none base
  | none => base

/-- what a reader of `/variable/<id>` takes to be in force on day `d` -/
def apiFormulaAt (d : Int) (served : List (Int × Option V)) : Option V := apiGetValue d served

/-- `Variable.get_formula`: nothing past `end`; else the latest formula started on or before `d`
(`formulas` ascending, scanned in reverse) -/
def latestStarted (d : Int) : List (Int × V) → Option V
  | [] => none
  | (s, f) :: r =>
    match latestStarted d r with
    | some g => some g
    | none => if s ≤ d then some f else none

def engineFormulaAt (formulas : List (Int × V)) (stop : Option Int) (d : Int) : Option V :=
  match stop with
  | some e => if e < d then none else latestStarted d formulas
  | none => latestStarted d formulas

end Listings

/-! ### scales (`build_api_scale`) -/

/-- a bracket of a scale as `build_api_scale` reads it: the served histories (`build_api_values_history`)
of its threshold and of its rate / amount -/
structure ApiBracket where
  thresholds : List (Int × Option Rat)
  values : List (Int × Option Rat)
deriving Repr

/-- `dates`: every date at which something changes in the scale (with repetitions; Python makes a set) -/
def bracketDates (brs : List ApiBracket) : List Int :=
  brs.flatMap (fun b => b.thresholds.map (·.1) ++ b.values.map (·.1))

/-- `api_scale[date][threshold] = value` : a `dict` assignment -/
def rowSet (t : Rat) (v : Option Rat) : List (Rat × Option Rat) → List (Rat × Option Rat)
  | [] => [(t, v)]
  | (t', v') :: r => if t' = t then (t, v) :: r else (t', v') :: rowSet t v r

/-- the row for date `d`: `{threshold at d: value at d}` over the brackets whose threshold is not null at `d` -/
def scaleRow (d : Int) (brs : List ApiBracket) : List (Rat × Option Rat) :=
  brs.foldl (fun row b => match apiGetValue d b.thresholds with
    | some t => rowSet t (apiGetValue d b.values) row
    | none => row) []

def dedupDates : List Int → List Int
  | [] => []
  | x :: xs => x :: (dedupDates xs).filter (· ≠ x)

/-- the loop over `dates`: a date at which no bracket has a threshold gets no entry (`none` = JSON null) -/
def servedScale (brs : List ApiBracket) : List (Int × Option (List (Rat × Option Rat))) :=
  (dedupDates (bracketDates brs)).filterMap (fun d =>
    if (scaleRow d brs).isEmpty then none else some (d, some (scaleRow d brs)))

/-- `max(brackets[0]["thresholds"].keys())` with its value -/
def latestEntry : List (Int × Option Rat) → Option (Int × Option Rat)
  | [] => none
  | (k, v) :: r =>
    match latestEntry r with
    | some (k', v') => if k' < k then some (k, v) else some (k', v')
    | none => some (k, v)

/-- `build_api_scale`: the rows, then "a parameter is stopped if its first bracket is stopped":
`api_scale[latest date of the first threshold] = None` when that threshold is null -/
def buildApiScale (brs : List ApiBracket) : List (Int × Option (List (Rat × Option Rat))) :=
  match brs with
  | [] => servedScale brs
  | b0 :: _ =>
    match latestEntry b0.thresholds with
    | some (d, none) => setKey d none (servedScale brs)
    | some (_, some _) => servedScale brs
    | none => servedScale brs

/-- what a reader of `/parameter/<scale>` takes to be in force on day `d`: the row of the latest date
on or before `d` (`none` = no row or a stopped scale), without the brackets whose value is null -/
def apiScaleAt (d : Int) (served : List (Int × Option (List (Rat × Option Rat)))) : Option (List (Rat × Rat)) :=
  (apiGetValue d served).map (fun row => row.filterMap (fun tv => tv.2.map (fun v => (tv.1, v))))

mutual
/-- `/parameters`: the ids (dotted) of the descendants that are not nodes, in `get_descendants`
order; a node is an object, anything else is a parameter or a scale -/
def listedParameters (pre : String) : J → List String
  | .obj kvs => listedParametersKV pre kvs
  | .null => [pre]
  | .bool _ => [pre]
  | .int _ => [pre]
  | .num _ => [pre]
  | .str _ => [pre]
  | .arr _ => [pre]
def listedParametersKV (pre : String) : List (String × J) → List String
  | [] => []
  | (k, v) :: r => listedParameters (if pre = "" then k else pre ++ "." ++ k) v ++ listedParametersKV pre r
end

/-! ## YAML rule tests -/

/-- a scalar of the `output` section as the YAML loader types it -/
inductive Exp where
  | int (n : Int)
  | num (q : Rat)
  | bool (b : Bool)
  | str (s : String)
  | date (d : YMD)
deriving DecidableEq, Repr

/-- an expected value: one scalar (broadcast) or a list (element-wise) -/
inductive Target where
  | scalar (e : Exp)
  | list (es : List Exp)
deriving DecidableEq, Repr

/-- a node of the `output` section -/
inductive Y where
  | leaf (e : Exp)
  | list (es : List Exp)
  | map (kvs : List (String × Y))
deriving Repr, Inhabited

/-- `absolute_error_margin` / `relative_error_margin` after `build_test`: a `{variable: margin}`
table with an optional `default` entry (`none` = no such key); a margin may be `None` -/
structure Margins where
  default : Option (Option Rat)
  per : List (String × Option Rat)
deriving Repr

def lookupM (k : String) : List (String × Option Rat) → Option (Option Rat)
  | [] => none
  | (k', v) :: r => if k' = k then some v else lookupM k r

/-- `ErrorMargin.__getitem__` (`KeyError` when neither the variable nor `default` is there) -/
def marginFor (m : Margins) (var : String) : Except String (Option Rat) :=
  match lookupM var m.per with
  | some x => .ok x
  | none => optE "KeyError: 'default'" m.default

structure YTest where
  period : Option String
  absM : Margins
  relM : Margins
  output : Option (List (String × Y))
  /-- the runner's option `only_variables` (`none` = not given) -/
  only : Option (List String) := none
  /-- the runner's option `ignore_variables` -/
  ignore : Option (List String) := none

/-- `YamlItem.should_ignore_variable` -/
def shouldIgnore (t : YTest) (var : String) : Bool :=
  (match t.ignore with
   | some l => l.contains var
   | none => false) ||
  (match t.only with
   | some l => !l.contains var
   | none => false)

/-- one comparison the test performs -/
structure Expectation where
  /-- the key of the layout: `none` by variable, an entity singular or plural otherwise -/
  entity : Option String
  /-- by entity instance: the instance id -/
  inst : Option String
  var : String
  period : Option String
  expected : Target
deriving DecidableEq, Repr

mutual
/-- `check_variable`: a mapping is `{period: expected}` (recursively), anything else is compared -/
def flattenVar (ent inst : Option String) (var : String) : Option String → Y → List Expectation
  | per, .leaf e => [⟨ent, inst, var, per, .scalar e⟩]
  | per, .list es => [⟨ent, inst, var, per, .list es⟩]
  | _, .map kvs => flattenPeriods ent inst var kvs
def flattenPeriods (ent inst : Option String) (var : String) : List (String × Y) → List Expectation
  | [] => []
  | (p, y) :: r => flattenVar ent inst var (some p) y ++ flattenPeriods ent inst var r
end

/-- by entity: `{variable: expected}` -/
def flattenVars (ent inst : Option String) (per : Option String) : List (String × Y) → List Expectation
  | [] => []
  | (var, y) :: r => flattenVar ent inst var per y ++ flattenVars ent inst per r

/-- by entity instance: `{instance: {variable: expected}}` (`.items()` of a non-mapping raises) -/
def flattenInstances (ent : String) (per : Option String) : List (String × Y) → Except String (List Expectation)
  | [] => .ok []
  | (id, .map kvs) :: r =>
    match flattenInstances ent per r with
    | .error e => .error e
    | .ok xs => .ok (flattenVars (some ent) (some id) per kvs ++ xs)
  | (_, .leaf _) :: _ => .error "not a mapping"
  | (_, .list _) :: _ => .error "not a mapping"

/-- one key of `output` in `check_output`: a variable, else an entity singular, else an entity
plural, else `VariableNotFound` -/
def expectationsOfKey (w : Sim) (per : Option String) (key : String) (y : Y) : Except String (List Expectation) :=
  if (w.vtype key).isSome then .ok (flattenVar none none key per y)
  else if w.singular key then
    match y with
    | .map kvs => .ok (flattenVars (some key) none per kvs)
    | .leaf _ => .error "not a mapping"
    | .list _ => .error "not a mapping"
  else if w.plural key then
    match y with
    | .map kvs => flattenInstances key per kvs
    | .leaf _ => .error "not a mapping"
    | .list _ => .error "not a mapping"
  else .error "VariableNotFound"

def expectationsOfOutput (w : Sim) (per : Option String) : List (String × Y) → Except String (List Expectation)
  | [] => .ok []
  | (key, y) :: r =>
    match expectationsOfKey w per key y with
    | .error e => .error e
    | .ok xs =>
      match expectationsOfOutput w per r with
      | .error e => .error e
      | .ok ys => .ok (xs ++ ys)

/-- every comparison of a test, whatever the layout (`output` missing: `ValueError`) -/
def expectations (w : Sim) (t : YTest) : Except String (List Expectation) :=
  match t.output with
  | none => .error "Missing key 'output'"
  | some out => expectationsOfOutput w t.period out

/-! ### `assert_near` -/

def absQ (q : Rat) : Rat := if q < 0 then -q else q

/-- the numeric decision of `assert_near` on one element: no margin at all means absolute margin
0; each given margin is asserted with `<=` (absolute: `diff <= margin`; relative:
`diff <= abs(margin * target)`) -/
def near (abs rel : Option Rat) (e a : Rat) : Bool :=
  let abs' := if abs.isNone && rel.isNone then some 0 else abs
  (match abs' with
   | some m => decide (absQ (e - a) ≤ m)
   | none => true) &&
  (match rel with
   | some r => decide (absQ (e - a) ≤ absQ (r * e))
   | none => true)

inductive Mode where
  | enum | date | text | numeric
deriving DecidableEq, Repr

/-- `_is_number` on a scalar (repair C20c); text that Python's `float()` accepts is outside the
claim domain and counted as text -/
def Exp.isNum : Exp → Bool
  | .int _ => true | .num _ => true | .bool _ => true | .str _ => false | .date _ => false

def Target.isNum : Target → Bool
  | .scalar e => e.isNum
  | .list es => es.all Exp.isNum

/-- which comparison `assert_near` performs, from the dtype family of the calculated array and
(for text) the expected value as a whole -/
def cmpMode : VType → Target → Mode
  | .enum, _ => .enum
  | .date, _ => .date
  | .str, tg => if tg.isNum then .numeric else .text
  | .int, _ => .numeric
  | .float, _ => .numeric
  | .bool, _ => .numeric

def single? {α : Type} : List α → Option α
  | [] => none
  | [a] => some a
  | _ :: _ :: _ => none

/-- numpy broadcasting of the calculated vector against the expected value -/
def pairUp (vs : List Val) : Target → Except String (List (Val × Exp))
  | .scalar e => .ok (vs.map fun v => (v, e))
  | .list es =>
    if vs.length = es.length then .ok (vs.zip es)
    else
      match single? es with
      | some e => .ok (vs.map fun v => (v, e))
      | none =>
        match single? vs with
        | some v => .ok (es.map fun e => (v, e))
        | none => .error "operands could not be broadcast together"

/-- `astype(float32)` of a calculated element -/
def Val.toNum : Val → Except String Rat
  | .int n => .ok n
  | .num q => .ok q
  | .bool b => .ok (if b then 1 else 0)
  | .str _ => .error "could not convert string to float"
  | .date _ => .error "not numeric"
  | .enum _ => .error "not numeric"

/-- `numpy.array(target).astype(float32)` of an expected scalar (text: `eval_expression` left it
as it is, claim domain) -/
def Exp.toNum : Exp → Except String Rat
  | .int n => .ok n
  | .num q => .ok q
  | .bool b => .ok (if b then 1 else 0)
  | .str _ => .error "could not convert string to float"
  | .date _ => .error "float() argument must be a string or a real number"

def parseNat? (cs : List Char) : Option Nat :=
  if cs.isEmpty then none
  else cs.foldl (fun acc c => match acc with
    | some n => if c.isDigit then some (n * 10 + (c.toNat - '0'.toNat)) else none
    | none => none) (some 0)

/-- `numpy.array(text, dtype='datetime64[D]')` on the full ISO form `YYYY-MM-DD` -/
def parseIso (s : String) : Option YMD :=
  match s.toList with
  | [y1, y2, y3, y4, '-', m1, m2, '-', d1, d2] =>
    match parseNat? [y1, y2, y3, y4], parseNat? [m1, m2], parseNat? [d1, d2] with
    | some y, some m, some d => some ⟨y, m, d⟩
    | _, _, _ => none
  | _ => none

/-- the expected scalar as a day, for a date variable -/
def Exp.toDate : Exp → Except String YMD
  | .date d => .ok d
  | .str s => optE "not a date" (parseIso s)
  | .int _ => .error "claim domain: a number expected of a date"
  | .num _ => .error "claim domain: a number expected of a date"
  | .bool _ => .error "claim domain: a number expected of a date"

/-- `numpy.array(target).astype(str)` of an expected scalar, for a text variable -/
def Exp.toText : Exp → Except String String
  | .str s => .ok s
  | .date d => .ok d.iso
  | .int _ => .error "claim domain: mixed list"
  | .num _ => .error "claim domain: mixed list"
  | .bool _ => .error "claim domain: mixed list"

/-- the comparison of one calculated element with one expected scalar -/
def cmp1 (mode : Mode) (abs rel : Option Rat) (v : Val) (e : Exp) : Except String Bool :=
  match mode with
  | .enum =>                                   -- assert_enum_equals: names compared
    match v, e with
    | .enum name, .str s => .ok (decide (name = s))
    | .enum _, .int _ => .ok false
    | .enum _, .num _ => .ok false
    | .enum _, .bool _ => .ok false
    | .enum _, .date _ => .ok false
    | .int _, _ => .error "not an enum"
    | .num _, _ => .error "not an enum"
    | .bool _, _ => .error "not an enum"
    | .str _, _ => .error "not an enum"
    | .date _, _ => .error "not an enum"
  | .date =>                                   -- assert_datetime_equals, then the numeric tail on diff 0
    match v with
    | .date d =>
      match e.toDate with
      | .error x => .error x
      | .ok d' => .ok (decide (d = d') && near abs rel 0 0)
    | .int _ => .error "not a date"
    | .num _ => .error "not a date"
    | .bool _ => .error "not a date"
    | .str _ => .error "not a date"
    | .enum _ => .error "not a date"
  | .text =>                                   -- assert_text_equals (repair C20c)
    match v with
    | .str s =>
      match e.toText with
      | .error x => .error x
      | .ok s' => .ok (decide (s = s'))
    | .int _ => .error "not text"
    | .num _ => .error "not text"
    | .bool _ => .error "not text"
    | .date _ => .error "not text"
    | .enum _ => .error "not text"
  | .numeric =>
    match v.toNum with
    | .error x => .error x
    | .ok a =>
      match e.toNum with
      | .error x => .error x
      | .ok t => .ok (near abs rel t a)

/-- an assertion that holds (a raise or a failed assertion both abort the test) -/
def holds1 (mode : Mode) (abs rel : Option Rat) (p : Val × Exp) : Bool :=
  match cmp1 mode abs rel p.1 p.2 with
  | .ok b => b
  | .error _ => false

/-- `assert_near(value, target, abs, message, rel)` does not raise -/
def assertNear (t : VType) (vs : List Val) (tg : Target) (abs rel : Option Rat) : Bool :=
  match pairUp vs tg with
  | .error _ => false
  | .ok ps => ps.all (holds1 (cmpMode t tg) abs rel)

/-- the vector `check_variable` compares: the whole one, or `actual[[index]]` (repair C20a) -/
def selectInst (w : Sim) (x : Expectation) (vec : List Val) : Except String (List Val) :=
  match x.inst with
  | none => .ok vec
  | some id =>
    match w.index (x.entity.getD "") id with
    | none => .error "not in list"
    | some i =>
      match vec[i]? with
      | some v => .ok [v]
      | none => .error "index out of bounds"

/-- `population.get_index(instance_id)` in `check_output`, before `check_variable` is entered -/
def instKnown (w : Sim) (x : Expectation) : Bool :=
  match x.inst with
  | none => true
  | some id => (w.index (x.entity.getD "") id).isSome

/-- `check_variable` on one leaf, options set aside -/
def checkValue (w : Sim) (t : YTest) (x : Expectation) : Bool :=
  match x.period with
  | none => false                                   -- calculate(variable, None) raises
  | some per =>
    match w.vtype x.var with
    | none => false                                 -- VariableNotFoundError
    | some ty =>
      match w.calcv x.var per with
      | .error _ => false
      | .ok vec =>
        match selectInst w x vec with
        | .error _ => false
        | .ok vs =>
          match marginFor t.absM x.var, marginFor t.relM x.var with
          | .ok a, .ok r => assertNear ty vs x.expected a r
          | .ok _, .error _ => false
          | .error _, _ => false

/-- one leaf of the `output` section does not raise: the instance is looked up first (an unknown
one raises whatever the options), an ignored variable is skipped, anything else is compared -/
def checkExpectation (w : Sim) (t : YTest) (x : Expectation) : Bool :=
  if instKnown w x = false then false
  else if shouldIgnore t x.var = true then true
  else checkValue w t x

/-- the verdict of `YamlItem.runtest` on a built simulation: `true` = the test passes -/
def verdictSim (w : Sim) (t : YTest) : Bool :=
  match expectations w t with
  | .error _ => false
  | .ok xs => xs.all (checkExpectation w t)

/-- … and when building the simulation from `input` may itself fail -/
def verdict (built : Except String Sim) (t : YTest) : Bool :=
  match built with
  | .error _ => false
  | .ok w => verdictSim w t

end OFCore.Api
