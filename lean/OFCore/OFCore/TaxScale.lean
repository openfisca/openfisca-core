/-!
# Tax scales (model of `openfisca_core/taxscales/*.py`, repaired tree)

Exact rationals (`Rat`, core Lean, no import).  A scale is the list of its brackets
`(threshold, rate-or-amount)` in the order of the two parallel Python lists
`self.thresholds` / `self.rates` (`self.amounts`).

What is mirrored, function by function:

* `RateTaxScaleLike.add_bracket`, `AmountTaxScaleLike.add_bracket`  → `addBracket`
  (`threshold in thresholds` ⇒ `rates[index] += rate`, else `bisect_left` + `insert`);
* `MarginalRateTaxScale.calc`                                         → `calcMR` / `calcMRVec`
  (thresholds multiplied by `factor + ε`, optional `numpy.round`, clip, dot with the rates);
* `RateTaxScaleLike.bracket_indices`, `marginal_rates`, `threshold_from_tax_base`,
  `rate_from_tax_base`                                               → `bracketIndex`, …;
* `MarginalAmountTaxScale.calc`, `SingleAmountTaxScale.calc`, `LinearAverageRateTaxScale.calc`
                                                                      → `calcMA`, `calcSA`, `calcLA`;
* `add_tax_scale` / `combine_bracket` (also with its defaults: `combineBracketD`), `inverse`,
  `multiply_thresholds`, `multiply_rates`, `scale_tax_scales`, `to_average`, `to_marginal`, `copy`,
  `helpers.combine_tax_scales`;
* `to_dict` → `toDict` (dict semantics: thresholds made equal by a rounding scaling collapse);
* `SingleAmountTaxScale.calc` as written, with its guard bins / guard amounts and bases `±inf`
  → `calcSAE` (`calcSA` is its restriction to finite bases: `Lemmas`, `calcSAE_fin`);
* the descriptive attributes `name` / `option` / `unit` through every operation → `Meta`, `meta*`;
* `commons.formulas.apply_thresholds`, `switch`, `commons.rates.average_rate`, `marginal_rate`
  → `applyThresholds`, `switchSel`, `averageRate`, `marginalRateFD` (`nan` is `none`).

`ε` is the perturbation `numpy.finfo(float64).eps` that the code adds to `factor`; it is a
parameter here (`ε = 0` is the textbook reading).  `bisect_left/right`, `list.index`,
`numpy.digitize` are modelled by the linear scans that return the same index on the sorted
lists which reach them (every scale built with `add_bracket` is strictly sorted:
`Lemmas/TaxScale.lean`).  Not modelled: IEEE rounding, `nan` produced by `0 * inf` when
`factor + ε = 0`.
-/
namespace OFCore.Sca

/-- brackets `(threshold, rate)` or `(threshold, amount)` -/
abbrev Scale := List (Rat × Rat)

def thresholds (s : Scale) : List Rat := s.map (·.1)
def rates (s : Scale) : List Rat := s.map (·.2)

/-! ## `add_bracket` -/

/-- `threshold in self.thresholds` -/
def hasT (s : Scale) (t : Rat) : Bool := s.any (fun b => decide (b.1 = t))

/-- `self.thresholds.index(threshold)` (first occurrence; the length when absent) -/
def indexT : Scale → Rat → Nat
  | [], _ => 0
  | b :: rest, t => if b.1 = t then 0 else indexT rest t + 1

/-- `self.rates[i] += rate` -/
def bumpAt : Scale → Nat → Rat → Scale
  | [], _, _ => []
  | (t, r) :: rest, 0, d => (t, r + d) :: rest
  | b :: rest, i + 1, d => b :: bumpAt rest i d

/-- `bisect.bisect_left(self.thresholds, threshold)` on a sorted list -/
def bisectLeft : Scale → Rat → Nat
  | [], _ => 0
  | b :: rest, t => if b.1 < t then bisectLeft rest t + 1 else 0

/-- `bisect.bisect_right(self.thresholds, threshold)` on a sorted list -/
def bisectRight : Scale → Rat → Nat
  | [], _ => 0
  | b :: rest, t => if b.1 ≤ t then bisectRight rest t + 1 else 0

/-- `list.insert(i, x)` on both parallel lists -/
def insertAt : Scale → Nat → Rat × Rat → Scale
  | s, 0, x => x :: s
  | [], _ + 1, x => [x]
  | b :: rest, i + 1, x => b :: insertAt rest i x

/-- `add_bracket(threshold, rate)` of the rate-like and amount-like scales -/
def addBracket (s : Scale) (t r : Rat) : Scale :=
  if hasT s t then bumpAt s (indexT s t) r
  else insertAt s (bisectLeft s t) (t, r)

/-- a scale built by successive `add_bracket` calls -/
def build (ins : List (Rat × Rat)) : Scale := ins.foldl (fun s b => addBracket s b.1 b.2) []

/-! ## rounding (`numpy.round(x, decimals)`: scale, round half to even, unscale) -/

def roundHalfEven (q : Rat) : Int :=
  let f := q.floor
  let d := q - (f : Rat)
  if d < 1/2 then f else if 1/2 < d then f + 1 else if f % 2 = 0 then f else f + 1

def roundDec (d : Nat) (q : Rat) : Rat := ((roundHalfEven (q * (10 : Rat) ^ d) : Int) : Rat) / (10 : Rat) ^ d

/-- `numpy.round(·, decimals)` when `decimals is not None` -/
def rnd (rd : Option Nat) (q : Rat) : Rat :=
  match rd with
  | none => q
  | some d => roundDec d q

/-! ## `MarginalRateTaxScale.calc` -/

/-- one entry of `thresholds1`: `(factor + ε) * threshold`, rounded if asked -/
def thrMap (ε f : Rat) (rd : Option Nat) (t : Rat) : Rat := rnd rd ((f + ε) * t)

/-- contribution of one bracket: `rate * a`, or `round(rate * round(a))` -/
def brTerm (rd : Option Nat) (r a : Rat) : Rat :=
  match rd with
  | none => r * a
  | some d => roundDec d (r * roundDec d a)

/-- `Σ rate_i * max(min(base, τ_{i+1}) - τ_i, 0)` on already transformed thresholds; the last
bracket is bounded by `(factor + ε) * inf`, which is `+inf` when `opn` and `-inf` otherwise -/
def clipSum (rd : Option Nat) (opn : Bool) : Scale → Rat → Rat
  | [], _ => 0
  | [(t, r)], x => if opn then brTerm rd r (max (x - t) 0) else brTerm rd r 0
  | (t, r) :: (t', r') :: rest, x =>
    brTerm rd r (max (min x t' - t) 0) + clipSum rd opn ((t', r') :: rest) x

def mapT (τ : Rat → Rat) (s : Scale) : Scale := s.map (fun b => (τ b.1, b.2))

/-- `MarginalRateTaxScale.calc` for one base -/
def calcMR (ε f : Rat) (rd : Option Nat) (s : Scale) (x : Rat) : Rat :=
  clipSum rd (decide (0 < f + ε)) (mapT (thrMap ε f rd) s) x

/-- the same computation organised like the code: one column of clipped amounts per bracket
(a vector over the bases), the columns being summed (`numpy.dot` / `.sum(axis=1)`) -/
def clipSumVec (rd : Option Nat) (opn : Bool) : Scale → List Rat → List Rat
  | [], xs => xs.map (fun _ => 0)
  | [(t, r)], xs => xs.map (fun x => if opn then brTerm rd r (max (x - t) 0) else brTerm rd r 0)
  | (t, r) :: (t', r') :: rest, xs =>
    List.zipWith (· + ·) (xs.map (fun x => brTerm rd r (max (min x t' - t) 0)))
      (clipSumVec rd opn ((t', r') :: rest) xs)

/-- `MarginalRateTaxScale.calc` on a vector of bases -/
def calcMRVec (ε f : Rat) (rd : Option Nat) (s : Scale) (xs : List Rat) : List Rat :=
  clipSumVec rd (decide (0 < f + ε)) (mapT (thrMap ε f rd) s) xs

/-! ## `bracket_indices`, `marginal_rates`, `threshold_from_tax_base`, `rate_from_tax_base` -/

/-- `(base - thresholds1 >= 0).sum() - 1` -/
def bracketIndex (ε f : Rat) (rd : Option Nat) (s : Scale) (x : Rat) : Int :=
  (s.countP (fun b => decide (0 ≤ x - thrMap ε f rd b.1)) : Int) - 1

/-- `bracket_indices` on a vector, with its two `EmptyArgumentError`s -/
def bracketIndices (ε f : Rat) (rd : Option Nat) (s : Scale) (xs : List Rat) : Except String (List Int) :=
  if s.isEmpty then .error "EmptyArgumentError: thresholds"
  else if xs.isEmpty then .error "EmptyArgumentError: tax_base"
  else .ok (xs.map (bracketIndex ε f rd s))

/-- `numpy.array(l)[i]` for one integer index: negative indices count from the end -/
def pyIndex (l : List Rat) (i : Int) : Except String Rat :=
  let n : Int := l.length
  if 0 ≤ i ∧ i < n then .ok (l.getD i.toNat 0)
  else if -n ≤ i ∧ i < 0 then .ok (l.getD (n + i).toNat 0)
  else .error "IndexError"

/-- `marginal_rates` for one base -/
def marginalRate (ε f : Rat) (rd : Option Nat) (s : Scale) (x : Rat) : Except String Rat :=
  pyIndex (rates s) (bracketIndex ε f rd s x)

/-- `marginal_rates(tax_base, factor, round_base_decimals)` -/
def marginalRates (ε f : Rat) (rd : Option Nat) (s : Scale) (xs : List Rat) : Except String (List Rat) := do
  let idx ← bracketIndices ε f rd s xs
  idx.mapM (pyIndex (rates s))

/-- `threshold_from_tax_base(tax_base)` -/
def thresholdFromTaxBase (ε : Rat) (s : Scale) (xs : List Rat) : Except String (List Rat) := do
  let idx ← bracketIndices ε 1 none s xs
  idx.mapM (pyIndex (thresholds s))

/-- `rate_from_bracket_indice(bracket_indice)` (`.max()` of an empty array raises) -/
def rateFromBracketIndice (s : Scale) (idx : List Int) : Except String (List Rat) :=
  if idx.isEmpty then .error "ValueError: zero-size array"
  else if idx.any (fun i => decide (i > (s.length : Int) - 1)) then .error "IndexError"
  else idx.mapM (pyIndex (rates s))

/-- `rate_from_tax_base(tax_base)` -/
def rateFromTaxBase (ε : Rat) (s : Scale) (xs : List Rat) : Except String (List Rat) := do
  let idx ← bracketIndices ε 1 none s xs
  rateFromBracketIndice s idx

/-! ### an array of factors (`numpy.ones(len(tax_base)) * factor`): row `j` of `thresholds1` is
scaled by `factor[j] + ε_j`, so element `j` is the scalar computation with its own factor -/

def calcMRVecF (efs : List (Rat × Rat)) (rd : Option Nat) (s : Scale) (xs : List Rat) : Except String (List Rat) :=
  if efs.length ≠ xs.length then .error "ValueError: operands could not be broadcast together"
  else .ok (List.zipWith (fun ef x => calcMR ef.1 ef.2 rd s x) efs xs)

def bracketIndicesF (efs : List (Rat × Rat)) (rd : Option Nat) (s : Scale) (xs : List Rat) : Except String (List Int) :=
  if s.isEmpty then .error "EmptyArgumentError: thresholds"
  else if xs.isEmpty then .error "EmptyArgumentError: tax_base"
  else if efs.length ≠ xs.length then .error "ValueError: operands could not be broadcast together"
  else .ok (List.zipWith (fun ef x => bracketIndex ef.1 ef.2 rd s x) efs xs)

def marginalRatesF (efs : List (Rat × Rat)) (rd : Option Nat) (s : Scale) (xs : List Rat) : Except String (List Rat) := do
  let idx ← bracketIndicesF efs rd s xs
  idx.mapM (pyIndex (rates s))

/-! ## amount scales and the linear average-rate scale -/

/-- `MarginalAmountTaxScale.calc`: `dot(amounts, a > 0)` with the same clipped amounts `a` -/
def calcMA : Scale → Rat → Rat
  | [], _ => 0
  | [(t, a)], x => if 0 < max (x - t) 0 then a else 0
  | (t, a) :: (t', a') :: rest, x =>
    (if 0 < max (min x t' - t) 0 then a else 0) + calcMA ((t', a') :: rest) x

/-- `numpy.digitize(base, [-inf, *thresholds, inf], right) - 1` on increasing thresholds:
the number of thresholds `<= base` (`< base` when `right`) -/
def digitize (right : Bool) (s : Scale) (x : Rat) : Nat :=
  s.countP (fun b => if right then decide (b.1 < x) else decide (b.1 ≤ x))

/-- `SingleAmountTaxScale.calc`: `[0, *amounts, 0][digitize - 1]` -/
def calcSA (right : Bool) (s : Scale) (x : Rat) : Rat :=
  match digitize right s x with
  | 0 => 0
  | k + 1 => (s.getD k (0, 0)).2

/-- the three dot products of `LinearAverageRateTaxScale.calc` with the 0/1 row
`bracket_dummy`: (slope, start rate, bracket threshold) -/
def laSums : Scale → Rat → Rat × Rat × Rat
  | (t, r) :: (t', r') :: rest, x =>
    let d : Rat := if t ≤ x ∧ x < t' then 1 else 0
    let (sl, st, th) := laSums ((t', r') :: rest) x
    (d * ((r' - r) / (t' - t)) + sl, d * r + st, d * t + th)
  | _, _ => (0, 0, 0)

/-- `LinearAverageRateTaxScale.calc` for one base -/
def calcLA (s : Scale) (x : Rat) : Except String Rat :=
  match s with
  | [] => .error "ValueError: negative dimensions are not allowed"
  | [(_, r)] => .ok (x * r)
  | _ =>
    let (sl, st, th) := laSums s x
    .ok (x * (st + (x - th) * sl))

/-! ## transformations of marginal-rate scales -/

/-- `self.rates[index] if index >= 0 else 0` with `index = bisect_right(thresholds, t) - 1`
(repair F-C09a: nothing is due below the first threshold) -/
def rateBelow (s : Scale) (t : Rat) : Rat :=
  match bisectRight s t with
  | 0 => 0
  | k + 1 => (s.getD k (0, 0)).2

/-- "insert the threshold without modifying rates" (write `splitAt s t`: `s.splitAt t` is `List.splitAt`) -/
def splitAt (s : Scale) (t : Rat) : Scale :=
  if hasT s t then s else addBracket s t (rateBelow s t)

/-- `while i <= j: self.add_bracket(self.thresholds[i], rate); i += 1` (`n = j - i + 1`) -/
def bumpLoop (rate : Rat) : Nat → Nat → Scale → Scale
  | 0, _, s => s
  | n + 1, i, s => bumpLoop rate n (i + 1) (addBracket s (s.getD i (0, 0)).1 rate)

/-- `combine_bracket(rate, threshold_low, threshold_high)`; `hi = none` is the default
`False`, and an upper threshold equal to 0 is falsy as well -/
def combineBracket (s : Scale) (rate lo : Rat) (hi : Option Rat) : Scale :=
  let s1 := splitAt s lo
  let hi' := hi.filter (fun h => h ≠ 0)
  let s2 := match hi' with
    | some h => splitAt s1 h
    | none => s1
  let i := indexT s2 lo
  let j1 := match hi' with
    | some h => indexT s2 h
    | none => s2.length
  bumpLoop rate (j1 - i) i s2

/-- the loop of `add_tax_scale` over `zip(thresholds[:-1], thresholds[1:], rates)` followed by
the call for the last threshold -/
def addTaxScaleGo : Scale → Scale → Scale
  | s, [] => s
  | s, [(t, r)] => combineBracket s r t none
  | s, (t, r) :: (t', r') :: rest => addTaxScaleGo (combineBracket s r t (some t')) ((t', r') :: rest)

/-- `self.add_tax_scale(tax_scale)` (the receiver after the call) -/
def addTaxScale (s other : Scale) : Scale := addTaxScaleGo s other

/-- one child of the node: added when it is a marginal-rate scale, skipped (`none`) otherwise -/
def addChild (acc : Scale) : Option Scale → Scale
  | some b => addTaxScale acc b
  | none => acc

/-- `helpers.combine_tax_scales(node, combined)`: children that are not marginal-rate scales
(`none`) are skipped; an empty node returns `combined` unchanged -/
def combineTaxScales (children : List (Option Scale)) (combined : Option Scale) : Option Scale :=
  match children with
  | [] => combined
  | _ =>
    let start := match combined with
      | some c => c
      | none => addBracket [] 0 0
    some (children.foldl addChild start)

/-- the loop of `inverse`; the state is `(previous_rate, theta)` once bound -/
def inverseGo : Option (Rat × Rat) → Scale → Scale → Except String Scale
  | _, [], acc => .ok acc
  | st, (t, r) :: rest, acc =>
    let st' := if t = 0 then some (0, 0) else st
    match st' with
    | none => .error "UnboundLocalError: previous_rate"
    | some (prev, theta) =>
      if r = 1 then .error "ZeroDivisionError"
      else
        let net := (1 - prev) * t + theta
        inverseGo (some (r, (r - prev) * t + theta)) rest (addBracket acc net (1 / (1 - r)))

/-- `MarginalRateTaxScale.inverse()` -/
def inverse (s : Scale) : Except String Scale := inverseGo none s []

/-- `multiply_thresholds(factor, decimals)` (in place or not: same brackets) -/
def multiplyThresholds (s : Scale) (k : Rat) (decimals : Option Nat) : Scale :=
  s.map (fun b => (rnd decimals (b.1 * k), b.2))

/-- `multiply_rates(factor)` -/
def multiplyRates (s : Scale) (k : Rat) : Scale := s.map (fun b => (b.1, b.2 * k))

/-- `TaxScaleLike.copy()` (deep copy: same brackets) -/
def copy (s : Scale) : Scale := s

/-- `scale_tax_scales(factor)` = `copy().multiply_thresholds(factor)` -/
def scaleTaxScales (s : Scale) (k : Rat) : Scale := multiplyThresholds (copy s) k none

/-- a linear average-rate scale produced by `to_average`: finite brackets and, when present,
the rate attached to the threshold `float("Inf")` (always last) -/
structure AvgScale where
  fin : Scale
  top : Option Rat
deriving Repr, DecidableEq

/-- the `for` loop of `to_average`: `i`, `previous_threshold`, `previous_rate`, scale so far -/
def toAverageGo : Scale → Rat → Rat → Rat → Scale → Except String AvgScale
  | [], _, _, pr, a => .ok ⟨a, some pr⟩
  | (t, r) :: rest, i, pt, pr, a =>
    let i' := i + pr * (t - pt)
    if t = 0 then .error "ZeroDivisionError"
    else toAverageGo rest i' t r (addBracket a t (i' / t))

/-- `MarginalRateTaxScale.to_average()` (repairs F-C09b, F-C09c) -/
def toAverage (s : Scale) : Except String AvgScale :=
  let a0 := addBracket [] 0 0
  match s with
  | [] => .ok ⟨a0, none⟩
  | (t0, r0) :: rest =>
    let a1 := if 0 < t0 then addBracket a0 t0 0 else a0
    toAverageGo rest 0 t0 r0 a1

/-- the `for` loop of `to_marginal` over the finite brackets after the first one:
`previous_i`, `previous_threshold`, last `rate` seen, scale so far -/
def toMarginalGo : Scale → Rat → Rat → Option Rat → Scale → Except String (Rat × Option Rat × Scale)
  | [], _, pt, last, m => .ok (pt, last, m)
  | (t, r) :: rest, pi, pt, _, m =>
    let i := r * t
    if t - pt = 0 then .error "ZeroDivisionError"
    else toMarginalGo rest i t (some r) (addBracket m pt ((i - pi) / (t - pt)))

/-- `LinearAverageRateTaxScale.to_marginal()`; the `Inf` bracket is skipped by the loop but,
being last, it is the one whose rate is still bound to `rate` after the loop -/
def toMarginal (a : AvgScale) : Except String Scale :=
  match a.fin with
  | [] => .error "UnboundLocalError: rate"
  | _ :: tl =>
    match toMarginalGo tl 0 0 none [] with
    | .error e => .error e
    | .ok (pt, last, m) =>
      match (match a.top with | some r => some r | none => last) with
      | none => .error "UnboundLocalError: rate"
      | some r => .ok (addBracket m pt r)

/-! ## `combine_bracket` called directly: defaults `threshold_low = 0`, `threshold_high = False` -/

/-- `combine_bracket(rate, threshold_low=0, threshold_high=False)` with either argument left out -/
def combineBracketD (s : Scale) (rate : Rat) (lo hi : Option Rat) : Scale :=
  combineBracket s rate (match lo with | some l => l | none => 0) hi

/-! ## `to_dict`: `{str(threshold): rate}` — a Python dict keeps the position of the first
insertion of a key and the value of the last one (thresholds made equal by a rounding
`multiply_thresholds` collapse) -/

def dictSet : List (Rat × Rat) → Rat → Rat → List (Rat × Rat)
  | [], k, v => [(k, v)]
  | (k', v') :: rest, k, v => if k' = k then (k', v) :: rest else (k', v') :: dictSet rest k v

def toDict (s : Scale) : List (Rat × Rat) := s.foldl (fun d b => dictSet d b.1 b.2) []

/-! ## `SingleAmountTaxScale.calc` with its guards: the bins are `[-inf, *thresholds, inf]`, the
amounts `[0, *amounts, 0]`; a base may be `±inf` -/

inductive EBase where
  | negInf
  | fin (q : Rat)
  | posInf
deriving Repr, DecidableEq

def EBase.ltB : EBase → EBase → Bool
  | .negInf, .negInf => false
  | .negInf, .fin _ => true
  | .negInf, .posInf => true
  | .fin _, .negInf => false
  | .fin a, .fin b => decide (a < b)
  | .fin _, .posInf => true
  | .posInf, .negInf => false
  | .posInf, .fin _ => false
  | .posInf, .posInf => false

def EBase.leB : EBase → EBase → Bool
  | .negInf, .negInf => true
  | .negInf, .fin _ => true
  | .negInf, .posInf => true
  | .fin _, .negInf => false
  | .fin a, .fin b => decide (a ≤ b)
  | .fin _, .posInf => true
  | .posInf, .negInf => false
  | .posInf, .fin _ => false
  | .posInf, .posInf => true

/-- `numpy.digitize(x, bins, right)` on increasing bins: the `i` with `bins[i-1] <= x < bins[i]`
(`bins[i-1] < x <= bins[i]` when `right`), i.e. the number of bins `<= x` (`< x`) -/
def digitizeE (right : Bool) (bins : List EBase) (x : EBase) : Nat :=
  bins.countP (fun b => if right then b.ltB x else b.leB x)

def guardedBins (s : Scale) : List EBase := EBase.negInf :: (s.map (fun b => EBase.fin b.1) ++ [EBase.posInf])
def guardedAmounts (s : Scale) : List Rat := (0 : Rat) :: (s.map (·.2) ++ [0])

/-- `guarded_amounts[numpy.digitize(tax_base, guarded_thresholds, right) - 1]` -/
def calcSAE (right : Bool) (s : Scale) (x : EBase) : Except String Rat :=
  pyIndex (guardedAmounts s) ((digitizeE right (guardedBins s) x : Int) - 1)

/-! ## descriptive attributes `name`, `option`, `unit` of a scale and what each operation makes of them -/

structure Meta where
  name : String
  option : Option String
  unit : Option String
deriving Repr, DecidableEq

/-- Python's `a or b` for an optional string: `None` and `""` are falsy -/
def strOr (a : Option String) (b : String) : String :=
  match a with
  | none => b
  | some t => if t = "" then b else t

/-- `TaxScaleLike.__init__(name, option, unit)`: `self.name = name or "Untitled TaxScale"` -/
def metaInit (name option unit : Option String) : Meta := ⟨strOr name "Untitled TaxScale", option, unit⟩

/-- `multiply_rates` / `multiply_thresholds`: in place `assert new_name is None; return self`, else
`self.__class__(new_name or self.name, option=self.option, unit=self.unit)` -/
def metaMultiply (m : Meta) (inplace : Bool) (newName : Option String) : Except String Meta :=
  if inplace then
    match newName with
    | none => .ok m
    | some _ => .error "AssertionError"
  else .ok (metaInit (some (strOr newName m.name)) m.option m.unit)

/-- `inverse()`: `name=str(self.name) + "'"` -/
def metaInverse (m : Meta) : Meta := metaInit (some (m.name ++ "'")) m.option m.unit

/-- `to_average()`, `to_marginal()`: `name=self.name, option=self.option, unit=self.unit` -/
def metaConvert (m : Meta) : Meta := metaInit (some m.name) m.option m.unit

/-- `copy()` (deep copy of `__dict__`) -/
def metaCopy (m : Meta) : Meta := m

/-- `scale_tax_scales(factor)` = `copy().multiply_thresholds(factor)` (in place on the copy) -/
def metaScaleTaxScales (m : Meta) : Except String Meta := metaMultiply (metaCopy m) true none

/-- `combine_tax_scales(node, combined)`: `name = next(iter(node or []), None)`; a new accumulator is
`MarginalRateTaxScale(name=name)` -/
def metaCombine (firstChild : Option String) (combined : Option Meta) : Option Meta :=
  match firstChild with
  | none => combined
  | some n =>
    match combined with
    | some c => some c
    | none => some (metaInit (some n) none none)

/-! ## `commons.formulas` / `commons.rates`: the small pure functions used with scales in formulas -/

/-- `numpy.select(condlist, choicelist)` for one element: the choice of the first condition
that holds, 0 when none does -/
def selectFirst : List (Bool × Rat) → Rat
  | [] => 0
  | (c, v) :: rest => if c then v else selectFirst rest

/-- `apply_thresholds(input, thresholds, choices)` for one input -/
def applyThresholds (x : Rat) (ths choices : List Rat) : Except String Rat :=
  let conds := ths.map (fun t => decide (x ≤ t))
  let conds := if conds.length + 1 = choices.length then conds ++ [true] else conds
  if conds.length ≠ choices.length then .error "AssertionError"
  else if conds.isEmpty then .error "ValueError: select with an empty condition list is not possible"
  else .ok (selectFirst (conds.zip choices))

/-- `switch(conditions, value_by_condition)` for one element -/
def switchSel (c : Rat) (table : List (Rat × Rat)) : Except String Rat :=
  if table.isEmpty then .error "AssertionError"
  else .ok (selectFirst (table.map (fun kv => (decide (c = kv.1), kv.2))))

/-- the two `numpy.where` of `average_rate` / `marginal_rate`: outside `[min(trim), max(trim)]`
the value becomes `nan` (`none`) -/
def trimRate (trim : Option (Rat × Rat)) (r : Rat) : Option Rat :=
  match trim with
  | none => some r
  | some (a, b) => if r ≤ max a b ∧ min a b ≤ r then some r else none

/-- `average_rate(target, varying, trim)` for one element; `varying = 0` is the code's `ZeroDivision` -/
def averageRate (trim : Option (Rat × Rat)) (target varying : Rat) : Except String (Option Rat) :=
  if varying = 0 then .error "ZeroDivision" else .ok (trimRate trim (1 - target / varying))

/-- `marginal_rate(target, varying, trim)`: one value per pair of consecutive elements -/
def marginalRateFD (trim : Option (Rat × Rat)) : List Rat → List Rat → Except String (List (Option Rat))
  | t0 :: t1 :: ts, v0 :: v1 :: vs =>
    if v0 - v1 = 0 then .error "ZeroDivision"
    else
      match marginalRateFD trim (t1 :: ts) (v1 :: vs) with
      | .error e => .error e
      | .ok rest => .ok (trimRate trim (1 - (t0 - t1) / (v0 - v1)) :: rest)
  | [_], [_] => .ok []
  | [], [] => .ok []
  | _, _ => .error "ValueError: operands could not be broadcast together"

end OFCore.Sca
