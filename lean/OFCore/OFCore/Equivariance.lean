import OFCore.RuleSys
import OFCore.Group
/-!
# Vocabulary of C11: selections, restriction of a declaration to a part, permutation
(definitions only, over the models `RuleSys` and `Group`)

A declaration `d : Decl` describes ONE population: `nP` persons, `nG` groups, the group of each
person (`mem`), the variables and the input vectors.  "Two unrelated situations simulated together"
is a declaration in which the persons (and the groups) of the situations appear in some interleaved
order; each situation is then a **closed selection** of it:

* a *selection* is a pair of index lists `sel` (persons kept, in the order they have in the part)
  and `gsel` (groups kept, in the order they have in the part);
* it is *closed* when the kept groups contain exactly the kept persons: a person is kept iff its
  group is kept (nobody in the part belongs to a household outside the part and conversely);
* `restrict d sel gsel` is the part **simulated alone**: `sel.length` persons, `gsel.length`
  groups, every kept person attached to the position its group has in `gsel` with the role it
  has, the same variables, and every input vector read at the kept indices (`reindex`).

An order-preserving selection (`sel`, `gsel` increasing) is one situation of a merged population;
a selection that lists *all* persons and *all* groups in another order is a permutation of the
population (`IsPerm`); both are closed selections, and so is a permuted part.

Python counterparts: the index assignment of `SimulationBuilder.add_person_entity /
add_group_entity` (position of an id in the document = index in every array),
`add_variable_value` (input arrays filled per entity index), `GroupPopulation.members_entity_id`.
-/
namespace OFCore.Equivariance
open OFCore OFCore.Engine OFCore.RuleSys

/-- the vector `x` read at the indices `l` (in the order of `l`) -/
def reindex (l : List Nat) (x : Val) : Val := l.map (fun i => x.getD i 0)

/-- a transformation of value vectors applied to a result (errors are kept as they are) -/
def mapRes (f : Val → Val) : Res → Res
  | .ok x => .ok (f x)
  | .error e => .error e

/-- position of `g` in `l` (`l.length` when absent) -/
def posIn : List Nat → Nat → Nat
  | [], _ => 0
  | a :: r, g => if a = g then 0 else posIn r g + 1

/-- the index list that applies to an entity: persons (`0`) or groups (anything else) -/
def idxFor (sel gsel : List Nat) (ent : Nat) : List Nat := if ent = 0 then sel else gsel

/-- what happens to a vector of variable `v` under the selection (unknown variable: nothing) -/
def selVar (d : Decl) (sel gsel : List Nat) (v : Nat) (x : Val) : Val :=
  match d.vars[v]? with
  | none => x
  | some vv => reindex (idxFor sel gsel vv.entity) x

/-- the part of `d` made of the persons `sel` and the groups `gsel`, simulated alone -/
def restrict (d : Decl) (sel gsel : List Nat) : Decl where
  nP := sel.length
  nG := gsel.length
  mem := sel.map (fun i => posIn gsel (d.mem.getD i 0))
  msl := d.msl
  vars := d.vars
  inputs := d.inputs.map (fun i => (i.1, i.2.1, selVar d sel gsel i.1 i.2.2))
  roles := sel.map (fun i => d.roles.getD i 0)

/-- closed selection: valid, duplicate-free indices; a person is kept iff its group is kept -/
def Closed (d : Decl) (sel gsel : List Nat) : Prop :=
  (∀ i ∈ sel, i < d.nP) ∧ (∀ g ∈ gsel, g < d.nG) ∧ sel.Nodup ∧ gsel.Nodup ∧
  ∀ i, i < d.nP → (i ∈ sel ↔ d.mem.getD i 0 ∈ gsel)

instance (d : Decl) (sel gsel : List Nat) : Decidable (Closed d sel gsel) := by
  unfold Closed; infer_instance

/-- order-preserving selection: the part keeps the relative order the merged population has -/
def Increasing (l : List Nat) : Prop := l.Pairwise (· < ·)

instance (l : List Nat) : Decidable (Increasing l) := by unfold Increasing; infer_instance

/-- `sel` lists all persons and `gsel` all groups, each exactly once, in any order -/
def IsPerm (d : Decl) (sel gsel : List Nat) : Prop :=
  sel.Perm (List.range d.nP) ∧ gsel.Perm (List.range d.nG)

instance (d : Decl) (sel gsel : List Nat) : Decidable (IsPerm d sel gsel) := by
  unfold IsPerm; infer_instance

/-- the declaration with persons and groups listed in the order `sel` / `gsel` -/
abbrev permute (d : Decl) (sel gsel : List Nat) : Decl := restrict d sel gsel

/-- entity discipline of a formula expression living on entity `ent`: a sum over members
    (`op1 1`) and the role operations (`op1 10..79`: role-filtered sum, value of the unique-role
    member, number of role holders, any, max, min, all) yield a group vector from a person vector, a projection
    (`op1 2`, and `op1 80..89` with a role filter) a person vector from a group vector; every other operation stays on its entity.  (Real formulas that break
    this discipline raise a numpy shape error or broadcast.) -/
def WT : Nat → DExpr → Bool
  | _, .const _ => true
  | _, .var _ _ _ => true
  | ent, .op1 o a =>
    if o = 1 ∨ isRoleOp o = true then (ent != 0) && WT 0 a
    else if o = 2 ∨ isProjOp o = true then (ent == 0) && WT 1 a else WT ent a
  | ent, .op2 _ a b => WT ent a && WT ent b
  | ent, .fail _ a => WT ent a

/-- well-formed declaration: one group index per person, all below `nG`; every formula respects
    the entity discipline; every input vector has its entity's size -/
def WF (d : Decl) : Prop :=
  d.mem.length = d.nP ∧ (∀ g ∈ d.mem, g < d.nG) ∧
  (∀ vv ∈ d.vars, ∀ f ∈ vv.formulas, WT vv.entity f.2 = true) ∧
  (∀ i ∈ d.inputs, ∀ vv ∈ d.vars[i.1]?, i.2.2.length = d.size vv.entity)

instance (d : Decl) : Decidable (WF d) := by unfold WF; infer_instance

/-! ## The tie between the two models of the group operations

`RuleSys.f1` states the group operations of the expression language over index sets; `Group.lean`
transcribes the code of `GroupPopulation` (bincount, position loop, masks) and is tied to the real
code by C10's correspondence.  `declPop` is the population of a declaration as `GroupPopulation`
holds it; `C11_group_ops_are_the_group_model` says the two agree. -/

/-- the population of a declaration as `GroupPopulation` holds it: one `(group, role)` per person -/
def declPop (d : Decl) : Grp.Pop :=
  ⟨d.nG, (List.range d.mem.length).map fun i => ⟨d.mem.getD i 0, d.roles.getD i 0⟩⟩

/-- the `role` argument a role digit of the expression language stands for: 9 = no role,
    8 = the first role with its two sub-roles, otherwise the flattened role of that index.
    `1000000` is an id no member carries: a role with sub-roles is never held directly (see
    `Grp.Role`) -/
def roleOfDigit (r : Nat) : Option Grp.Role :=
  if r = 9 then none else if r = 8 then some ⟨1000000, [0, 1], some 2⟩ else some ⟨r, [], some 1⟩

/-- `±inf` (a group without holder) read as 0: `numpy.where(nb_persons > 0, reduction, 0)` -/
def eint0 : Grp.EInt → Int
  | .fin v => v
  | .negInf => 0
  | .posInf => 0

/-! ## Parts of a group population (the order-dependent operations)

`value_nth_person`, `value_from_first_person` and `get_rank` are defined by the storage order of
the persons: they are outside the expression language and outside the permutation clause, but the
MERGE clause covers them — a situation keeps its internal person order inside a merged population.
`restrictPop p sel gsel` is the part made of the persons `sel` (increasing: merged order) and the
groups `gsel`, as a population of its own. -/

/-- the part of a group population, simulated alone -/
def restrictPop (p : Grp.Pop) (sel gsel : List Nat) : Grp.Pop :=
  ⟨gsel.length, sel.map fun i => ⟨posIn gsel (p.ms.getD i default).group, (p.ms.getD i default).role⟩⟩

/-- closed, person-order-preserving selection of a group population -/
def ClosedPop (p : Grp.Pop) (sel gsel : List Nat) : Prop :=
  (∀ i ∈ sel, i < p.ms.length) ∧ (∀ g ∈ gsel, g < p.n) ∧ sel.Pairwise (· < ·) ∧ gsel.Nodup ∧
  ∀ i, i < p.ms.length → (i ∈ sel ↔ (p.ms.getD i default).group ∈ gsel)

instance (p : Grp.Pop) (sel gsel : List Nat) : Decidable (ClosedPop p sel gsel) := by
  unfold ClosedPop; infer_instance

/-- a person-level array read at the persons of the part -/
def selArr {α} (l : List Nat) (a : List α) (d : α) : List α := l.map fun i => a.getD i d

/-- the complement of a selection, in population order -/
def complement (n : Nat) (l : List Nat) : List Nat := (List.range n).filter (fun i => !l.contains i)

end OFCore.Equivariance
