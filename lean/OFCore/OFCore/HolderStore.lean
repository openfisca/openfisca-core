/-!
# The two-tier value store of a holder (import-free)

`Holder` keeps the arrays of one variable in an in-memory store and, under a memory configuration,
in an on-disk store.  Transcription of `Holder.get_array`, `_set`, `delete_arrays`,
`get_known_periods` and of the key canonicalisation of `InMemoryStorage` / `OnDiskStorage`
(`is_eternal` ⇒ every period is the ETERNITY key):

* `get`: the memory store first, then (when the holder has a disk store) the disk store;
* `set p x pressure`: to disk iff the holder is disk-storable, the memory store has NO value for the
  key, and memory occupation is at or above the configured threshold (`pressure`, decided by the
  environment at each write); otherwise to memory — so a value already in memory is replaced there;
* `delete none` empties both stores, `delete (some p)` removes the key from both;
* `known`: the keys of the memory store, then (when the holder is disk-storable) those of the disk store.

`K` is the type of storage keys, `key : P → K` the canonicalisation (identity, or constant for an
eternal variable).  The specification is a plain finite map.
-/
namespace OFCore.HolderStore

abbrev Tbl (K V : Type) := List (K × V)

def tget {K V : Type} [DecidableEq K] : Tbl K V → K → Option V
  | [], _ => none
  | (k', x) :: r, k => if k' = k then some x else tget r k

/-- `del dict[k]` (absent key: nothing) -/
def tdel {K V : Type} [DecidableEq K] : Tbl K V → K → Tbl K V
  | [], _ => []
  | (a, x) :: r, k => if a = k then tdel r k else (a, x) :: tdel r k

/-- `dict[k] = x` -/
def tput {K V : Type} [DecidableEq K] (t : Tbl K V) (k : K) (x : V) : Tbl K V :=
  (k, x) :: tdel t k

structure Holder (K V : Type) where
  diskable : Bool            -- `_on_disk_storable` (memory configuration present, not a priority variable)
  mem : Tbl K V
  disk : Tbl K V

variable {P K V : Type} [DecidableEq K]

def Holder.get (key : P → K) (h : Holder K V) (p : P) : Option V :=
  match tget h.mem (key p) with
  | some x => some x
  | none => if h.diskable then tget h.disk (key p) else none

def Holder.set (key : P → K) (h : Holder K V) (p : P) (x : V) (pressure : Bool) : Holder K V :=
  if h.diskable ∧ tget h.mem (key p) = none ∧ pressure = true
  then { h with disk := tput h.disk (key p) x }
  else { h with mem := tput h.mem (key p) x }

def Holder.delete (key : P → K) (h : Holder K V) : Option P → Holder K V
  | none => { h with mem := [], disk := [] }
  | some p => { h with mem := tdel h.mem (key p), disk := tdel h.disk (key p) }

/-- `get_known_periods`: keys of the memory store, then keys of the disk store -/
def Holder.known (h : Holder K V) : List K :=
  h.mem.map (·.1) ++ (if h.diskable then h.disk.map (·.1) else [])

/-- operations of a history; every write carries the pressure the environment shows at that moment -/
inductive Op (P V : Type) where
  | set (p : P) (x : V) (pressure : Bool)
  | del (p : Option P)

def Holder.step (key : P → K) (h : Holder K V) : Op P V → Holder K V
  | .set p x b => h.set key p x b
  | .del p => h.delete key p

def Holder.run (key : P → K) (h : Holder K V) (ops : List (Op P V)) : Holder K V :=
  ops.foldl (Holder.step key) h

/-! ## specification: one finite map, no tiers, no pressure -/

def specStep (key : P → K) (m : K → Option V) : Op P V → (K → Option V)
  | .set p x _ => fun k => if k = key p then some x else m k
  | .del none => fun _ => none
  | .del (some p) => fun k => if k = key p then none else m k

def specRun (key : P → K) (m : K → Option V) (ops : List (Op P V)) : K → Option V :=
  ops.foldl (specStep key) m

/-- what a holder shows: the value read for a key -/
def Holder.view (h : Holder K V) (k : K) : Option V :=
  match tget h.mem k with
  | some x => some x
  | none => if h.diskable then tget h.disk k else none

end OFCore.HolderStore
