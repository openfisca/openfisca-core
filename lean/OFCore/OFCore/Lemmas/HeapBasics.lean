import OFCore.Heap
namespace OFCore.Heap
open HM

theorem get?_def (h : Heap) (p : Id) : h.get? p = (h[p.reg]?).bind (fun r => r[p.idx]?) := rfl

theorem get?_congr {h1 h2 : Heap} {p : Id} (e : h1[p.reg]? = h2[p.reg]?) : h1.get? p = h2.get? p := by
  simp only [get?_def, e]

theorem get?_eq_some {h : Heap} {p : Id} {o : Obj} :
    h.get? p = some o ↔ ∃ l, h[p.reg]? = some l ∧ l[p.idx]? = some o := Option.bind_eq_some_iff

theorem put_other (h : Heap) (p : Id) (o : Obj) (r : Nat) (hr : r ≠ p.reg) : (h.put p o)[r]? = h[r]? :=
  List.getElem?_modify_ne _ h (Ne.symm hr)

theorem put_same (h : Heap) (p : Id) (o : Obj) : (h.put p o)[p.reg]? = (h[p.reg]?).map (fun l => l.set p.idx o) :=
  List.getElem?_modify_eq _ p.reg h

theorem push_other (h : Heap) (r : Nat) (o : Obj) (r' : Nat) (hr : r' ≠ r) : (h.push r o)[r']? = h[r']? :=
  List.getElem?_modify_ne _ h (Ne.symm hr)

theorem push_same (h : Heap) (r : Nat) (o : Obj) : (h.push r o)[r]? = (h[r]?).map (fun l => l ++ [o]) :=
  List.getElem?_modify_eq _ r h

theorem get?_put_same (h : Heap) (p : Id) (o : Obj) : (h.put p o).get? p = (h.get? p).map (fun _ => o) := by
  simp only [get?_def, put_same]
  cases h[p.reg]? with
  | none => rfl
  | some l =>
    simp only [Option.map_some, Option.bind_some, List.getElem?_set]
    by_cases hlt : p.idx < l.length
    · simp [hlt]
    · simp [hlt]

theorem get?_put_self (h : Heap) (p : Id) (o o' : Obj) (hp : h.get? p = some o') : (h.put p o).get? p = some o := by
  rw [get?_put_same, hp]; rfl

theorem get?_put_ne (h : Heap) (p q : Id) (o : Obj) (hq : q ≠ p) : (h.put p o).get? q = h.get? q := by
  by_cases hr : q.reg = p.reg
  · simp only [get?_def, hr, put_same]
    cases h[p.reg]? with
    | none => rfl
    | some l =>
      simp only [Option.map_some, Option.bind_some]
      have : p.idx ≠ q.idx := by
        intro e
        apply hq
        cases p; cases q; simp_all
      simp [this]
  · exact get?_congr (put_other h p o q.reg hr)

theorem get?_put {h : Heap} {p q : Id} {o y : Obj} (hq : (h.put p o).get? q = some y) :
    (q = p ∧ y = o) ∨ (q ≠ p ∧ h.get? q = some y) := by
  by_cases e : q = p
  · subst e
    rw [get?_put_same] at hq
    cases hg : h.get? q with
    | none => rw [hg] at hq; cases hq
    | some old => rw [hg] at hq; cases hq; exact Or.inl ⟨rfl, rfl⟩
  · rw [get?_put_ne h p q o e] at hq
    exact Or.inr ⟨e, hq⟩

theorem get?_push_old (h : Heap) (r : Nat) (o : Obj) (q : Id) (x : Obj) (hq : h.get? q = some x) :
    (h.push r o).get? q = some x := by
  by_cases hr : q.reg = r
  · subst hr
    obtain ⟨l, hl, hi⟩ := get?_eq_some.mp hq
    rw [get?_def, push_same, hl]
    simp only [Option.map_some, Option.bind_some]
    rw [List.getElem?_append_left (List.getElem?_eq_some_iff.mp hi).1]; exact hi
  · rw [get?_congr (push_other h r o q.reg hr)]; exact hq

theorem get?_push {h : Heap} {r : Nat} {o x : Obj} {q : Id} (hq : (h.push r o).get? q = some x) :
    h.get? q = some x ∨ ∃ l, h[r]? = some l ∧ q = ⟨r, l.length⟩ ∧ x = o := by
  obtain ⟨qr, qi⟩ := q
  by_cases hr : qr = r
  · subst hr
    simp only [get?_def, push_same] at hq ⊢
    cases hl : h[qr]? with
    | none => rw [hl] at hq; cases hq
    | some l =>
      rw [hl] at hq
      simp only [Option.map_some, Option.bind_some] at hq ⊢
      by_cases hlt : qi < l.length
      · rw [List.getElem?_append_left hlt] at hq; exact Or.inl hq
      · rw [List.getElem?_append_right (Nat.le_of_not_lt hlt)] at hq
        obtain ⟨hi, hx⟩ := List.getElem?_eq_some_iff.mp hq
        have e : qi = l.length := by simp only [List.length_singleton] at hi; omega
        subst e
        exact Or.inr ⟨l, rfl, rfl, by simpa using hx.symm⟩
  · exact Or.inl (by rw [← get?_congr (p := ⟨qr, qi⟩) (push_other h r o qr hr)]; exact hq)

theorem get?_push_new (h : Heap) (r : Nat) (o : Obj) (l : List Obj) (hl : h[r]? = some l) :
    (h.push r o).get? ⟨r, l.length⟩ = some o := by
  simp [get?_def, push_same, hl]

theorem get?_fresh (h : Heap) (r : Nat) (l : List Obj) (hl : h[r]? = some l) : h.get? ⟨r, l.length⟩ = none := by
  simp [get?_def, hl]

theorem reg_lt_of_get? {h : Heap} {p : Id} {o : Obj} (e : h.get? p = some o) : p.reg < h.length := by
  obtain ⟨l, hl, _⟩ := get?_eq_some.mp e
  exact (List.getElem?_eq_some_iff.mp hl).1

theorem lt_size_of_get? {h : Heap} {r i : Nat} {o : Obj} (e : h.get? ⟨r, i⟩ = some o) : i < h.size r := by
  obtain ⟨l, hl, hi⟩ := get?_eq_some.mp e
  unfold Heap.size
  rw [hl]
  exact (List.getElem?_eq_some_iff.mp hi).1

theorem alGet_cons_self {κ β : Type} [DecidableEq κ] (k : κ) (v : β) (r : List (κ × β)) :
    alGet ((k, v) :: r) k = some v := by
  rw [alGet, if_pos rfl]

theorem alGet_cons_ne {κ β : Type} [DecidableEq κ] {k' k : κ} (h : k' ≠ k) (v : β) (r : List (κ × β)) :
    alGet ((k', v) :: r) k = alGet r k := by
  rw [alGet, if_neg h]

theorem alGet_mem {κ β : Type} [DecidableEq κ] {l : List (κ × β)} {k : κ} {v : β} (e : alGet l k = some v) :
    (k, v) ∈ l := by
  induction l with
  | nil => cases e
  | cons x t ih =>
    obtain ⟨k', v'⟩ := x
    unfold alGet at e
    split at e
    · cases e; subst_vars; exact List.mem_cons_self ..
    · exact List.mem_cons_of_mem _ (ih e)

theorem Obj.sim?_eq_some {o : Obj} {a : SimObj} : o.sim? = some a ↔ o = .sim a := by cases o <;> simp [Obj.sim?]
theorem Obj.pop?_eq_some {o : Obj} {a : PopObj} : o.pop? = some a ↔ o = .pop a := by cases o <;> simp [Obj.pop?]
theorem Obj.holder?_eq_some {o : Obj} {a : HolderObj} : o.holder? = some a ↔ o = .holder a := by
  cases o <;> simp [Obj.holder?]
theorem Obj.store?_eq_some {o : Obj} {a : StoreObj} : o.store? = some a ↔ o = .store a := by
  cases o <;> simp [Obj.store?]
theorem Obj.disk?_eq_some {o : Obj} {a : DiskObj} : o.disk? = some a ↔ o = .disk a := by cases o <;> simp [Obj.disk?]

theorem bind_apply {α β : Type} (m : HM α) (f : α → HM β) (h : Heap) :
    (m >>= f) h = match m h with
      | (.ok a, h1) => f a h1
      | (.error e, h1) => (.error e, h1) := rfl

theorem bind_of_ok {α β : Type} {m : HM α} {f : α → HM β} {h h1 : Heap} {a : α} (e : m h = (.ok a, h1)) :
    (m >>= f) h = f a h1 := by rw [bind_apply, e]

theorem bind_of_fst_ok {α β : Type} {m : HM α} {f : α → HM β} {h : Heap} {a : α} (e : (m h).1 = .ok a) :
    (m >>= f) h = f a (m h).2 := bind_of_ok (Prod.ext e rfl)

theorem bind_of_error {α β : Type} {m : HM α} {f : α → HM β} {h h1 : Heap} {er : Err} (e : m h = (.error er, h1)) :
    (m >>= f) h = (.error er, h1) := by rw [bind_apply, e]

theorem bind_of_fst_error {α β : Type} {m : HM α} {f : α → HM β} {h : Heap} {er : Err} (e : (m h).1 = .error er) :
    (m >>= f) h = (.error er, (m h).2) := bind_of_error (Prod.ext e rfl)

theorem pure_apply {α : Type} (a : α) (h : Heap) : (pure a : HM α) h = (.ok a, h) := rfl
theorem fail_apply {α : Type} (e : Err) (h : Heap) : (fail e : HM α) h = (.error e, h) := rfl
theorem ofOption_some {α : Type} (e : Err) (a : α) : ofOption e (some a) = pure a := rfl
theorem ofOption_none {α : Type} (e : Err) : ofOption e (none : Option α) = fail e := rfl
theorem pure_bind' {α β : Type} (a : α) (f : α → HM β) : (pure a >>= f) = f a := by funext h; rfl
theorem fail_bind' {α β : Type} (e : Err) (f : α → HM β) : (fail e >>= f) = fail e := by funext h; rfl

theorem tryFinally_snd {α : Type} (m : HM α) (fin : HM Unit) (h : Heap) :
    (tryFinally m fin h).2 = (fin (m h).2).2 := by
  unfold HM.tryFinally
  cases fin (m h).2 with
  | mk res h2 => cases res <;> rfl

theorem tryFinally_fst {α : Type} (m : HM α) (fin : HM Unit) (h : Heap) :
    (tryFinally m fin h).1 = match (fin (m h).2).1 with
      | .ok _ => (m h).1
      | .error e => .error e := by
  unfold HM.tryFinally
  cases fin (m h).2 with
  | mk res h2 => cases res <;> rfl

theorem tryFinally_ok {α : Type} {m : HM α} {fin : HM Unit} {h : Heap} {a : α}
    (e : (tryFinally m fin h).1 = .ok a) : (m h).1 = .ok a := by
  rw [tryFinally_fst] at e
  split at e
  · exact e
  · cases e

theorem catchSpiral_spiral {α : Type} {m handler : HM α} {h : Heap} (e : (m h).1 = .error .spiral) :
    catchSpiral m handler h = handler (m h).2 := by
  unfold HM.catchSpiral
  cases hm : m h with
  | mk res h1 => rw [hm] at e; subst e; rfl

theorem catchSpiral_other {α : Type} {m handler : HM α} {h : Heap} (e : (m h).1 ≠ .error .spiral) :
    catchSpiral m handler h = m h := by
  unfold HM.catchSpiral
  cases hm : m h with
  | mk res h1 =>
    rw [hm] at e
    cases res with
    | ok a => rfl
    | error er =>
      cases er with
      | spiral => exact absurd rfl e
      | _ => rfl

theorem bind_ok {α β : Type} {m : HM α} {f : α → HM β} {h h' : Heap} {b : β}
    (e : (m >>= f) h = (.ok b, h')) : ∃ a h1, m h = (.ok a, h1) ∧ f a h1 = (.ok b, h') := by
  cases hr : (m h).1 with
  | error er => rw [bind_of_fst_error hr] at e; cases e
  | ok a => rw [bind_of_fst_ok hr] at e; exact ⟨a, _, Prod.ext hr rfl, e⟩

theorem pure_ok {α : Type} {a b : α} {h h' : Heap} (e : (pure a : HM α) h = (.ok b, h')) : b = a ∧ h = h' := by
  cases (show (Except.ok a, h) = (Except.ok b, h') from e)
  exact ⟨rfl, rfl⟩

theorem new_ok {r : Nat} {o : Obj} {h h' : Heap} {p : Id} (e : new r o h = (.ok p, h')) :
    ∃ l, h[r]? = some l ∧ p = ⟨r, l.length⟩ ∧ h' = h.push r o := by
  unfold new at e
  cases hg : h[r]? with
  | none => rw [hg] at e; cases e
  | some l =>
    rw [hg] at e
    simp only [Prod.mk.injEq, Except.ok.injEq] at e
    exact ⟨l, rfl, e.1.symm, e.2.symm⟩

/-- what `rd`, `wr`, `wrLeaf`, the typed reads and `updSim` / `updPop` have in common (`new` is the one primitive not of
this kind) -/
structure Access {α : Type} (p : Id) (m : HM α) (res : Obj → Except Err α) (upd : Obj → Option Obj) : Prop where
  absent : ∀ h, h.get? p = none → m h = (.error .bad, h)
  present : ∀ h old, h.get? p = some old → m h = (res old, match upd old with | none => h | some o => h.put p o)

theorem Access.ok {α : Type} {p : Id} {m : HM α} {res : Obj → Except Err α} {upd : Obj → Option Obj}
    (a : Access p m res upd) {h h' : Heap} {b : α} (e : m h = (.ok b, h')) :
    ∃ old, h.get? p = some old ∧ res old = .ok b ∧ h' = match upd old with | none => h | some o => h.put p o := by
  cases hg : h.get? p with
  | none => rw [a.absent h hg] at e; cases e
  | some old =>
    rw [a.present h old hg, Prod.mk.injEq] at e
    exact ⟨old, rfl, e.1, e.2.symm⟩

theorem rd_access (p : Id) : Access p (rd p) .ok (fun _ => none) :=
  ⟨fun h hg => by unfold rd; rw [hg], fun h old hg => by unfold rd; rw [hg]⟩

theorem wr_access (p : Id) (o : Obj) : Access p (wr p o) (fun _ => .ok ()) (fun _ => some o) :=
  ⟨fun h hg => by unfold wr; rw [hg], fun h old hg => by unfold wr; rw [hg]⟩

theorem wrLeaf_access (p : Id) (o : Obj) :
    Access p (wrLeaf p o) (fun old => if old.leafKind = o.leafKind ∧ o.leafKind ≠ 0 then .ok () else .error .bad)
      (fun old => if old.leafKind = o.leafKind ∧ o.leafKind ≠ 0 then some o else none) :=
  ⟨fun h hg => by unfold wrLeaf; rw [hg], fun h old hg => by unfold wrLeaf; rw [hg]; simp only; split <;> rfl⟩

/-- the typed reads `rdSim` … `rdInval` -/
theorem rdAs_access {α : Type} (proj : Obj → Option α) (p : Id) :
    Access p (do ofOption .bad (proj (← rd p)) : HM α) (fun old => (proj old).elim (.error .bad) .ok) (fun _ => none) := by
  refine ⟨fun h hg => ?_, fun h old hg => ?_⟩
  · rw [bind_apply, (rd_access p).absent h hg]
  · rw [bind_apply, (rd_access p).present h old hg]
    show ofOption .bad (proj old) h = _
    cases proj old <;> rfl

theorem updAs_access {α : Type} (proj : Obj → Option α) (mk : α → Obj) (p : Id) (f : α → α) :
    Access p (do let a ← (do ofOption .bad (proj (← rd p)) : HM α); wr p (mk (f a)))
      (fun old => if (proj old).isSome then .ok () else .error .bad) (fun old => (proj old).map fun a => mk (f a)) := by
  refine ⟨fun h hg => ?_, fun h old hg => ?_⟩
  · rw [bind_apply, (rdAs_access proj p).absent h hg]
  · rw [bind_apply, (rdAs_access proj p).present h old hg]
    cases proj old with
    | none => rfl
    | some a => exact (wr_access p _).present h old hg

theorem updSim_access (x : Id) (f : SimObj → SimObj) :
    Access x (updSim x f) (fun old => if old.sim?.isSome then .ok () else .error .bad)
      (fun old => old.sim?.map fun a => .sim (f a)) := updAs_access Obj.sim? .sim x f

theorem updPop_access (p : Id) (f : PopObj → PopObj) :
    Access p (updPop p f) (fun old => if old.pop?.isSome then .ok () else .error .bad)
      (fun old => old.pop?.map fun a => .pop (f a)) := updAs_access Obj.pop? .pop p f

theorem rdAs_bind_ok {α β : Type} {proj : Obj → Option α} {mk : α → Obj} (hpm : ∀ {o a}, proj o = some a ↔ o = mk a)
    {p : Id} {f : α → HM β} {h h' : Heap} {b : β}
    (e : ((do ofOption .bad (proj (← rd p)) : HM α) >>= f) h = (.ok b, h')) :
    ∃ a, h.get? p = some (mk a) ∧ f a h = (.ok b, h') := by
  obtain ⟨a, h1, e1, k⟩ := bind_ok e
  obtain ⟨o, hg, hr, hh⟩ := (rdAs_access proj p).ok e1
  have hh : h1 = h := hh
  subst hh
  cases hp : proj o with
  | none => rw [hp] at hr; cases hr
  | some a' => rw [hp] at hr; cases hr; exact ⟨a, hpm.mp hp ▸ hg, k⟩

theorem rdSim_bind_ok {β : Type} {p : Id} {f : SimObj → HM β} {h h' : Heap} {b : β}
    (e : (rdSim p >>= f) h = (.ok b, h')) : ∃ o, h.get? p = some (.sim o) ∧ f o h = (.ok b, h') :=
  rdAs_bind_ok Obj.sim?_eq_some e

theorem rdPop_bind_ok {β : Type} {p : Id} {f : PopObj → HM β} {h h' : Heap} {b : β}
    (e : (rdPop p >>= f) h = (.ok b, h')) : ∃ o, h.get? p = some (.pop o) ∧ f o h = (.ok b, h') :=
  rdAs_bind_ok Obj.pop?_eq_some e

theorem rdHolder_bind_ok {β : Type} {p : Id} {f : HolderObj → HM β} {h h' : Heap} {b : β}
    (e : (rdHolder p >>= f) h = (.ok b, h')) : ∃ o, h.get? p = some (.holder o) ∧ f o h = (.ok b, h') :=
  rdAs_bind_ok Obj.holder?_eq_some e

theorem rdStore_bind_ok {β : Type} {p : Id} {f : StoreObj → HM β} {h h' : Heap} {b : β}
    (e : (rdStore p >>= f) h = (.ok b, h')) : ∃ o, h.get? p = some (.store o) ∧ f o h = (.ok b, h') :=
  rdAs_bind_ok Obj.store?_eq_some e

theorem rdSim_bind_eq {β : Type} {p : Id} {f : SimObj → HM β} {h : Heap} {o : SimObj} (e : h.get? p = some (.sim o)) :
    (rdSim p >>= f) h = f o h := bind_of_ok ((rdAs_access Obj.sim? p).present h _ e)

theorem rdPop_bind_eq {β : Type} {p : Id} {f : PopObj → HM β} {h : Heap} {o : PopObj} (e : h.get? p = some (.pop o)) :
    (rdPop p >>= f) h = f o h := bind_of_ok ((rdAs_access Obj.pop? p).present h _ e)

theorem rdHolder_bind_eq {β : Type} {p : Id} {f : HolderObj → HM β} {h : Heap} {o : HolderObj}
    (e : h.get? p = some (.holder o)) : (rdHolder p >>= f) h = f o h :=
  bind_of_ok ((rdAs_access Obj.holder? p).present h _ e)

theorem rdStore_bind_eq {β : Type} {p : Id} {f : StoreObj → HM β} {h : Heap} {o : StoreObj}
    (e : h.get? p = some (.store o)) : (rdStore p >>= f) h = f o h :=
  bind_of_ok ((rdAs_access Obj.store? p).present h _ e)

/-- every reference the object holds designates region `r` -/
def InReg (r : Nat) : Obj → Prop
  | .sim o => o.persons.reg = r ∧ (∀ e ∈ o.pops, e.2.reg = r) ∧ o.tracer.reg = r ∧ o.inval.reg = r
      ∧ (∀ d, o.dir = some d → d.reg = r)
  | .pop o => o.sim.reg = r ∧ (∀ e ∈ o.holders, e.2.reg = r) ∧ (∀ m, o.members = some m → m.reg = r)
  | .holder o => o.pop.reg = r ∧ o.sim.reg = r ∧ o.mem.reg = r ∧ (∀ d, o.disk = some d → d.reg = r)
  | .store _ => True
  | .disk o => o.dir.reg = r
  | .dir _ => True
  | .tracer _ => True
  | .inval _ => True

theorem InReg.persons {r : Nat} {o : SimObj} (h : InReg r (.sim o)) : o.persons.reg = r := h.1
theorem InReg.pops {r : Nat} {o : SimObj} (h : InReg r (.sim o)) : ∀ e ∈ o.pops, e.2.reg = r := h.2.1
theorem InReg.tracer {r : Nat} {o : SimObj} (h : InReg r (.sim o)) : o.tracer.reg = r := h.2.2.1
theorem InReg.inval {r : Nat} {o : SimObj} (h : InReg r (.sim o)) : o.inval.reg = r := h.2.2.2.1
theorem InReg.dir {r : Nat} {o : SimObj} (h : InReg r (.sim o)) : ∀ d, o.dir = some d → d.reg = r := h.2.2.2.2
theorem InReg.popSim {r : Nat} {o : PopObj} (h : InReg r (.pop o)) : o.sim.reg = r := h.1
theorem InReg.holders {r : Nat} {o : PopObj} (h : InReg r (.pop o)) : ∀ e ∈ o.holders, e.2.reg = r := h.2.1
theorem InReg.members {r : Nat} {o : PopObj} (h : InReg r (.pop o)) : ∀ m, o.members = some m → m.reg = r := h.2.2
theorem InReg.pop {r : Nat} {o : HolderObj} (h : InReg r (.holder o)) : o.pop.reg = r := h.1
theorem InReg.holderSim {r : Nat} {o : HolderObj} (h : InReg r (.holder o)) : o.sim.reg = r := h.2.1
theorem InReg.mem {r : Nat} {o : HolderObj} (h : InReg r (.holder o)) : o.mem.reg = r := h.2.2.1
theorem InReg.disk {r : Nat} {o : HolderObj} (h : InReg r (.holder o)) : ∀ d, o.disk = some d → d.reg = r := h.2.2.2

def Closed (r : Nat) (h : Heap) : Prop := ∀ i o, h.get? ⟨r, i⟩ = some o → InReg r o

theorem Closed.congr {r : Nat} {h1 h2 : Heap} (c : Closed r h1) (e : h1[r]? = h2[r]?) : Closed r h2 := by
  intro i o hg
  exact c i o (by rw [get?_congr (p := ⟨r, i⟩) e]; exact hg)

theorem Closed.get {r : Nat} {h : Heap} (c : Closed r h) {p : Id} {o : Obj} (hp : p.reg = r)
    (hg : h.get? p = some o) : InReg r o := by
  cases p with
  | mk pr pi => simp only at hp; subst hp; exact c pi o hg

theorem Closed.put {r : Nat} {h : Heap} (c : Closed r h) (p : Id) (o : Obj) (ho : p.reg = r → InReg r o) :
    Closed r (h.put p o) := by
  intro i x hg
  rcases get?_put hg with ⟨e, rfl⟩ | ⟨_, hg⟩
  · exact ho (e ▸ rfl)
  · exact c i x hg

theorem Closed.push {r : Nat} {h : Heap} (c : Closed r h) (r' : Nat) (o : Obj) (ho : r' = r → InReg r o) :
    Closed r (h.push r' o) := by
  intro i x hg
  rcases get?_push hg with hg | ⟨l, _, hq, rfl⟩
  · exact c i x hg
  · exact ho (by cases hq; rfl)

end OFCore.Heap
