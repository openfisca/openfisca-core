import OFCore.Lemmas.Calendar
namespace OFCore

theorem ord_addDays (c : Date) (n : Int) : ord (addDays c n) = ord c + n := ord_ofOrd_any _

theorem addDays_valid (c : Date) (n : Int) (h : 1 ≤ ord c + n) : (addDays c n).Valid :=
  ofOrd_valid _ h

theorem addDays_add (c : Date) (a b : Int) : addDays (addDays c a) b = addDays c (a + b) := by
  rw [addDays, ord_addDays, Int.add_assoc]; rfl

theorem addDays_zero (c : Date) (hv : c.Valid) : addDays c 0 = c := by
  rw [addDays, Int.add_zero]; exact ofOrd_ord c hv

theorem addDays_diff (s a : Date) (ha : a.Valid) (h : ord s ≤ ord a) :
    addDays s ((ord a - ord s).toNat : Nat) = a := by
  rw [addDays, show ord s + ((ord a - ord s).toNat : Nat) = ord a by omega, ofOrd_ord a ha]

theorem addDays_of_year_pos (c : Date) (n : Int) (h : 1 ≤ (addDays c n).y) :
    (addDays c n).Valid ∧ ord (addDays c n) = ord c + n :=
  ⟨addDays_valid _ _ ((ofOrd_year_pos _).1 h), ord_addDays _ _⟩

theorem year_mono (a b : Date) (ha : a.Valid) (hb : b.Valid) (h : ord a ≤ ord b) : a.y ≤ b.y := by
  refine Int.not_lt.1 fun hn => ?_
  have := ord_lt_of_lex b a hb ha (Or.inl hn)
  omega

theorem ym_mono (a b : Date) (ha : a.Valid) (hb : b.Valid) (h : ord a ≤ ord b) :
    a.y * 12 + a.m ≤ b.y * 12 + b.m := by
  refine Int.not_lt.1 fun hn => ?_
  have := ha.2.1; have := ha.2.2.1; have := hb.2.1; have := hb.2.2.1
  have := ord_lt_of_lex b a hb ha (by omega)
  omega

theorem lt_iff_ord_lt (a b : Date) (ha : a.Valid) (hb : b.Valid) : a.lt b ↔ ord a < ord b := by
  refine ⟨ord_lt_of_lex a b ha hb, fun h => ?_⟩
  rcases Date.lt_trichotomy a b with hl | rfl | hl
  · exact hl
  · omega
  · have := ord_lt_of_lex b a hb ha hl; omega

theorem le_iff_ord_le (a b : Date) (ha : a.Valid) (hb : b.Valid) : a.le b ↔ ord a ≤ ord b := by
  unfold Date.le
  constructor
  · rintro (h | h)
    · subst h; omega
    · have := (lt_iff_ord_lt a b ha hb).1 h; omega
  · intro h
    by_cases he : ord a = ord b
    · left; exact ord_inj a b ha hb he
    · right; exact (lt_iff_ord_lt a b ha hb).2 (by omega)

theorem dim_ge (y m : Int) : 28 ≤ dim y m := by
  unfold dim; split <;> split <;> omega

theorem dim_le (y m : Int) : dim y m ≤ 31 := by
  unfold dim; split <;> split <;> omega

theorem valid_first (y m : Int) (hy : 1 ≤ y) (hm1 : 1 ≤ m) (hm12 : m ≤ 12) : (Date.mk y m 1).Valid :=
  ⟨hy, hm1, hm12, by simp only; omega, by have := dim_ge y m; simp only; omega⟩

theorem valid_dec31 (y : Int) (hy : 1 ≤ y) : (Date.mk y 12 31).Valid := by
  refine ⟨hy, ?_, ?_, ?_, ?_⟩ <;> simp [dim]

theorem addMonths_ym (c : Date) (n : Int) :
    (addMonths c n).y * 12 + ((addMonths c n).m - 1) = c.y * 12 + (c.m - 1) + n ∧
    1 ≤ (addMonths c n).m ∧ (addMonths c n).m ≤ 12 := by
  simp only [addMonths]; omega

theorem addMonths_valid (c : Date) (n : Int) (hv : c.Valid) (hy : 1 ≤ (addMonths c n).y) :
    (addMonths c n).Valid := by
  obtain ⟨_, _, _, hd1, _⟩ := hv
  have h := addMonths_ym c n
  refine ⟨hy, h.2.1, h.2.2, ?_, ?_⟩
  · simp only [addMonths]; have := dim_ge ((c.y * 12 + (c.m - 1) + n) / 12) ((c.y * 12 + (c.m - 1) + n) % 12 + 1); omega
  · simp only [addMonths]; omega

theorem addMonths_first (c : Date) (n : Int) (hd : c.d = 1) :
    addMonths c n = ⟨(c.y * 12 + (c.m - 1) + n) / 12, (c.y * 12 + (c.m - 1) + n) % 12 + 1, 1⟩ := by
  simp only [addMonths, hd]
  have := dim_ge ((c.y * 12 + (c.m - 1) + n) / 12) ((c.y * 12 + (c.m - 1) + n) % 12 + 1)
  congr 1; omega

theorem addMonths_jan1 (y k : Int) : addMonths ⟨y, 1, 1⟩ (12 * k) = ⟨y + k, 1, 1⟩ := by
  rw [addMonths_first _ _ rfl]; simp only [Date.mk.injEq, and_true]; omega

theorem addMonths_zero (c : Date) (hv : c.Valid) : addMonths c 0 = c := by
  obtain ⟨_, hm1, hm12, hd1, hdd⟩ := hv
  simp only [addMonths]
  have e1 : (c.y * 12 + (c.m - 1) + 0) / 12 = c.y := by omega
  have e2 : (c.y * 12 + (c.m - 1) + 0) % 12 + 1 = c.m := by omega
  rw [e1, e2]
  cases c; simp only [Date.mk.injEq, true_and]; simp only at hdd; omega

theorem addMonths_congr {c c' : Date} {n n' : Int}
    (ht : c.y * 12 + (c.m - 1) + n = c'.y * 12 + (c'.m - 1) + n') (hd : c.d = c'.d) :
    addMonths c n = addMonths c' n' := by
  simp only [addMonths, ht, hd]

theorem addMonths_day (c : Date) (n : Int) (h : c.d ≤ 28) : (addMonths c n).d = c.d := by
  simp only [addMonths]
  have := dim_ge ((c.y * 12 + (c.m - 1) + n) / 12) ((c.y * 12 + (c.m - 1) + n) % 12 + 1)
  omega

theorem addMonths_add (c : Date) (hd : c.d ≤ 28) (a b : Int) :
    addMonths (addMonths c a) b = addMonths c (a + b) :=
  addMonths_congr (by have := (addMonths_ym c a).1; omega) (addMonths_day c a hd)

theorem addMonths_year (c : Date) (n : Int) : (addMonths c n).y = (c.y * 12 + (c.m - 1) + n) / 12 := rfl

theorem addMonths_year_pos (c : Date) (n : Int) (hv : c.Valid) (hn : 0 ≤ n) : 1 ≤ (addMonths c n).y := by
  have := hv.1; have := hv.2.1
  rw [addMonths_year]; omega

theorem addMonths_lt (c : Date) (n : Int) (hv : c.Valid) (hn : 1 ≤ n) : ord c < ord (addMonths c n) := by
  have h := addMonths_ym c n
  have hy : 1 ≤ (addMonths c n).y := by have := hv.1; have := hv.2.1; have := hv.2.2.1; omega
  apply ord_lt_of_lex c _ hv (addMonths_valid c n hv hy)
  have := hv.2.1; have := hv.2.2.1
  omega

theorem ord_month_day (c : Date) : ord c = ord ⟨c.y, c.m, 1⟩ + (c.d - 1) := by
  simp only [ord]; omega

theorem ord_jan1_succ (y : Int) : ord ⟨y + 1, 1, 1⟩ = ord ⟨y, 12, 31⟩ + 1 := by
  rw [ord_jan, ord_dec31]

theorem ord_year_bounds (c : Date) (hv : c.Valid) :
    ord ⟨c.y, 1, 1⟩ ≤ ord c ∧ ord c ≤ ord ⟨c.y, 12, 31⟩ := by
  rw [ord_jan, ord_dec31]
  exact ⟨(ord_bounds c hv).1, ord_le_dby_succ c hv⟩

theorem ord_addMonths_one (c : Date) (hv : c.Valid) (hd : c.d = 1) :
    ord (addMonths c 1) = ord c + dim c.y c.m := by
  obtain ⟨_, hm1, hm12, _, _⟩ := hv
  have hm := month_end (isLeap c.y) c.m hm1 hm12
  rw [addMonths_first c 1 hd, dim_eq]
  by_cases h12 : c.m = 12
  · have e1 : (c.y * 12 + (c.m - 1) + 1) / 12 = c.y + 1 := by omega
    have e2 : (c.y * 12 + (c.m - 1) + 1) % 12 + 1 = 1 := by omega
    rw [if_pos h12] at hm
    rw [e1, e2, ord_jan, dby_succ]
    simp only [ord, hd]; omega
  · have e1 : (c.y * 12 + (c.m - 1) + 1) / 12 = c.y := by omega
    have e2 : (c.y * 12 + (c.m - 1) + 1) % 12 + 1 = c.m + 1 := by omega
    rw [if_neg h12] at hm
    rw [e1, e2]
    simp only [ord, hd]; omega

theorem ord_endOfMonth (c : Date) :
    ord (endOfMonth c) = ord ⟨c.y, c.m, 1⟩ + dim c.y c.m - 1 := by
  simp only [endOfMonth, ord]; omega

theorem endOfMonth_valid (c : Date) (hv : c.Valid) : (endOfMonth c).Valid :=
  ⟨hv.1, hv.2.1, hv.2.2.1, by have := dim_ge c.y c.m; simp only [endOfMonth]; omega, Int.le_refl _⟩

theorem weekday0_range (o : Int) : 0 ≤ weekday0 o ∧ weekday0 o ≤ 6 := by
  unfold weekday0; omega

theorem ord_startOfWeek (c : Date) : ord (startOfWeek c) = ord c - weekday0 (ord c) := ord_ofOrd_any _

theorem ord_endOfWeek (c : Date) : ord (endOfWeek c) = ord c - weekday0 (ord c) + 6 := ord_ofOrd_any _

theorem endOfWeek_idem (c : Date) (h : 1 ≤ ord c - weekday0 (ord c)) : endOfWeek (endOfWeek c) = endOfWeek c := by
  have hoe := ord_endOfWeek c
  have hwd : weekday0 (ord (endOfWeek c)) = 6 := by rw [hoe]; unfold weekday0; omega
  show ofOrd (ord (endOfWeek c) - weekday0 (ord (endOfWeek c)) + 6) = _
  rw [hwd, Int.sub_add_cancel]; exact ofOrd_ord _ (ofOrd_valid _ (by omega))

theorem startOfWeek_monday (c : Date) (hv : c.Valid) (h : weekday0 (ord c) = 0) : startOfWeek c = c := by
  unfold startOfWeek; rw [h, Int.sub_zero]; exact ofOrd_ord _ hv

theorem weekday0_startOfWeek (c : Date) : weekday0 (ord (startOfWeek c)) = 0 := by
  rw [ord_startOfWeek c]; unfold weekday0; omega

end OFCore
