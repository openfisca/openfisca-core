import OFCore.Lemmas.TextForms
/-! # Parsing what the printer prints: the two shapes (plain ISO spelling, `unit:ISO[:size]`); what an accepted text must have been -/
namespace OFCore

theorem lexIso_first_digit (cs : List Char) (t : Tok) (h : lexIso cs = some t) :
    ∃ c rest, cs = c :: rest ∧ IsDig c := by
  unfold lexIso at h
  split at h
  · rename_i a b c d rest
    refine ⟨a, _, rfl, ?_⟩
    cases ha : digitVal a with
    | some k => exact digitVal_some_isDig a k ha
    | none =>
      exfalso
      have : digitsVal [a, b, c, d] = none := by
        simp only [digitsVal, List.foldl, ha]
      rw [this] at h; cases h
  · cases h

theorem lexIso_of_nondigit (c : Char) (cs : List Char) (h : digitVal c = none) :
    lexIso (c :: cs) = none := by
  cases hl : lexIso (c :: cs) with
  | none => rfl
  | some t =>
    obtain ⟨c', _, e, hd⟩ := lexIso_first_digit _ t hl
    cases e
    obtain ⟨_, _, hv, _⟩ := hd.val
    rw [h] at hv; cases hv

theorem lexIso_unit_prefix (u : DUnit) (hu : u ≠ .eternity) (rest : List Char) :
    lexIso (u.name.toList ++ ':' :: rest) = none ∧
    (∃ c cs, u.name.toList ++ ':' :: rest = c :: cs ∧ c.toLower ≠ 'e') ∧
    ':' ∉ u.name.toList ∧ unitOfName? (String.ofList u.name.toList) = some u := by
  cases u
  case eternity => exact absurd rfl hu
  case weekday | week =>
    exact ⟨lexIso_of_nondigit 'w' _ (by decide), ⟨'w', _, rfl, by decide⟩, by decide, by decide⟩
  case day =>
    exact ⟨lexIso_of_nondigit 'd' _ (by decide), ⟨'d', _, rfl, by decide⟩, by decide, by decide⟩
  case month =>
    exact ⟨lexIso_of_nondigit 'm' _ (by decide), ⟨'m', _, rfl, by decide⟩, by decide, by decide⟩
  case year =>
    exact ⟨lexIso_of_nondigit 'y' _ (by decide), ⟨'y', _, rfl, by decide⟩, by decide, by decide⟩

theorem parse_plain (cs : List Char) (tok : Tok) (hlex : lexIso cs = some tok) :
    parsePeriod cs = parseIsoPeriod cs := by
  obtain ⟨c, rest, rfl, hc⟩ := lexIso_first_digit cs tok hlex
  unfold parsePeriod
  rw [if_neg (lower_ne_eternity c rest hc.lower_ne_e), if_pos (by rw [hlex]; rfl)]

theorem parse_prefixed (u : DUnit) (hu : u ≠ .eternity) (r iso : List Char) (rest : List (List Char))
    (hs : splitOn ':' r = iso :: rest) (tok : Tok) (hlex : lexIso iso = some tok) (base : Period)
    (hbase : parseIsoPeriod iso = .ok base) (hw : finerThanDate u base.unit = false) (n : Int)
    (hn : sizeField rest = .ok n) :
    parsePeriod (u.name.toList ++ ':' :: r) = .ok ⟨u, base.start, n⟩ := by
  obtain ⟨h1, ⟨c, cs, hcs, hc⟩, h3, h4⟩ := lexIso_unit_prefix u hu r
  unfold parsePeriod
  rw [if_neg (by rw [hcs]; exact lower_ne_eternity c cs hc), if_neg (by rw [h1]; simp),
    splitOn_append ':' _ _ h3, hs]
  simp only [parseUnitForm, hlex, Option.isNone_some, Bool.false_eq_true, if_false, h4, hbase, hn]
  cases u
  case eternity => exact absurd rfl hu
  all_goals simp only [hw, Bool.false_eq_true, if_false]

theorem parseInstant_of_iso {cs : List Char} {p : Period} (h : parseIsoPeriod cs = .ok p) :
    parseInstant cs = .ok p.start := by
  unfold parseIsoPeriod at h
  unfold parseInstant
  cases hl : lexIso cs with
  | none => simp only [hl] at h; cases h
  | some t =>
    simp only [hl] at h ⊢
    cases hd : tokDate t with
    | none => simp only [hd] at h; cases h
    | some c =>
      cases hu : tokUnit t with
      | none => simp only [hd, hu] at h; cases h
      | some u => simp only [hd, hu] at h; cases h; rfl

theorem parseUnitForm_ok_inv {u mid : List Char} {rest : List (List Char)} {p : Period}
    (h : parseUnitForm u mid rest = .ok p) :
    lexIso mid ≠ none ∧ ∃ unit base n, unitOfName? (String.ofList u) = some unit ∧
      unit ≠ .eternity ∧ parseIsoPeriod mid = .ok base ∧ sizeField rest = .ok n ∧
      finerThanDate unit base.unit = false ∧ p = ⟨unit, base.start, n⟩ := by
  unfold parseUnitForm at h
  split at h
  · cases h
  rename_i hl
  split at h
  · cases h
  · cases h
  rename_i unit hne hu
  split at h
  · cases h
  rename_i base hb
  split at h
  · cases h
  rename_i n hn
  split at h
  · cases h
  rename_i hf
  cases h
  exact ⟨by simpa using hl, unit, base, n, hu, hne, hb, hn, by simpa using hf, rfl⟩

end OFCore
