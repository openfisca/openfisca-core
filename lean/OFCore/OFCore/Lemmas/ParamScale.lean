import OFCore.Param
import OFCore.Lemmas.AddBracket
/-!
Tax-scale rows at an instant (C06): on strictly sorted rows `scaleAdd` is the one-walk insertion `Sca.ins` of the tax-scale
model, so what `scaleAdd` and `addAll` do to the thresholds and to the value of each row is what `ins` does (`Lemmas/AddBracket`).
-/
namespace OFCore.Param
open OFCore.Sca (StrictSorted strictSorted_nil strictSorted_cons hasT hasT_eq_false_of_lt ins rateOf rateOf_eq_zero foldl_ins_spec)

variable {V : Type}

theorem mem_keys_iff (rows : List (Rat × Rat)) (t : Rat) : t ∈ rows.map (·.1) ↔ hasT rows t = true := by
  simp only [hasT, List.any_eq_true, List.mem_map, decide_eq_true_eq]

theorem insertRow_eq_ins (rows : List (Rat × Rat)) (t r : Rat) (hn : t ∉ rows.map (·.1)) :
    insertRow rows t r = ins rows t r := by
  induction rows with
  | nil => rfl
  | cons p rest ih =>
    obtain ⟨t', r'⟩ := p
    simp only [List.map_cons, List.mem_cons, not_or] at hn
    rw [insertRow, ins, if_neg hn.1, ih hn.2]
    by_cases h : t ≤ t'
    · rw [if_pos h, if_pos (Rat.lt_of_le_of_ne h hn.1)]
    · rw [if_neg h, if_neg (fun c => h (Rat.le_of_lt c))]

/-- on sorted rows the first row with threshold `t` is met before any larger threshold -/
theorem bumpRow_eq_ins (rows : List (Rat × Rat)) (t r : Rat) (h : StrictSorted rows) (hm : t ∈ rows.map (·.1)) :
    bumpRow rows t r = ins rows t r := by
  induction rows with
  | nil => cases hm
  | cons p rest ih =>
    obtain ⟨t', r'⟩ := p
    rw [strictSorted_cons] at h
    rw [bumpRow, ins]
    by_cases e : t' = t
    · rw [if_pos e, if_pos e.symm]
    · have hr : t ∈ rest.map (·.1) := (List.mem_cons.mp hm).resolve_left (fun c => e c.symm)
      obtain ⟨c, hc, ec⟩ := List.mem_map.mp hr
      have hlt : t' < t := ec ▸ h.1 c hc
      rw [if_neg e, if_neg (fun c => e c.symm), if_neg (Rat.not_lt.mpr (Rat.le_of_lt hlt)), ih h.2 hr]

theorem scaleAdd_eq_ins (rows : List (Rat × Rat)) (t r : Rat) (h : StrictSorted rows) :
    scaleAdd rows t r = ins rows t r := by
  unfold scaleAdd
  split
  · rename_i hm
    exact bumpRow_eq_ins rows t r h ((mem_keys_iff rows t).mpr hm)
  · rename_i hn
    exact insertRow_eq_ins rows t r (fun c => hn ((mem_keys_iff rows t).mp c))

/-- with distinct thresholds the first row of a threshold is its only one -/
theorem rowVal_eq_rateOf (rows : List (Rat × Rat)) (h : StrictSorted rows) (u : Rat) : rowVal rows u = rateOf rows u := by
  induction rows with
  | nil => rfl
  | cons p rest ih =>
    obtain ⟨t', r'⟩ := p
    rw [strictSorted_cons] at h
    rw [rowVal, rateOf]
    by_cases e : t' = u
    · rw [if_pos e, if_pos e, rateOf_eq_zero (hasT_eq_false_of_lt (e ▸ h.1)), Rat.add_zero]
    · rw [if_neg e, if_neg e, ih h.2, Rat.zero_add]

theorem bracketPair_eq_some (k : ScaleKind) (d : Int) (b : Bracket) (t x : Rat) :
    bracketPair k d b = some (t, x) ↔ pget b.threshold d = some t ∧ pget (b.field k) d = some x := by
  unfold bracketPair
  cases h1 : pget (b.field k) d <;> cases h2 : pget b.threshold d <;> simp

theorem addAll_eq_foldl (k : ScaleKind) (d : Int) (bs : List Bracket) (rows : List (Rat × Rat)) :
    addAll k d bs rows = (bs.filterMap (bracketPair k d)).foldl (fun s p => scaleAdd s p.1 p.2) rows := by
  induction bs generalizing rows with
  | nil => rfl
  | cons b bs ih =>
    rw [addAll]
    cases hp : bracketPair k d b with
    | none => rw [List.filterMap_cons_none hp]; exact ih rows
    | some p => rw [List.filterMap_cons_some hp]; exact ih _

theorem addAll_spec (k : ScaleKind) (d : Int) (bs : List Bracket) (rows : List (Rat × Rat)) (h : StrictSorted rows) :
    StrictSorted (addAll k d bs rows) ∧
    ∀ u, hasT (addAll k d bs rows) u = (hasT rows u || hasT (bs.filterMap (bracketPair k d)) u) ∧
      rateOf (addAll k d bs rows) u = rateOf rows u + rateOf (bs.filterMap (bracketPair k d)) u := by
  rw [addAll_eq_foldl]
  exact foldl_ins_spec scaleAdd scaleAdd_eq_ins _ rows h

theorem contribSum_eq_rateOf (k : ScaleKind) (d : Int) (bs : List Bracket) (u : Rat) :
    contribSum k d bs u = rateOf (bs.filterMap (bracketPair k d)) u := by
  induction bs with
  | nil => rfl
  | cons b bs ih =>
    rw [contribSum, ih]
    cases hp : bracketPair k d b with
    | none => rw [List.filterMap_cons_none hp]; exact Rat.zero_add _
    | some p => rw [List.filterMap_cons_some hp]; rfl

theorem sorted_addAll (k : ScaleKind) (d : Int) (bs : List Bracket) :
    ((addAll k d bs []).map (·.1)).Pairwise (· < ·) :=
  List.pairwise_map.mpr (addAll_spec k d bs [] strictSorted_nil).1

theorem mem_keys_addAll (k : ScaleKind) (d : Int) (bs : List Bracket) (u : Rat) :
    u ∈ (addAll k d bs []).map (·.1) ↔
      ∃ b ∈ bs, pget b.threshold d = some u ∧ ∃ x, pget (b.field k) d = some x := by
  rw [mem_keys_iff, ((addAll_spec k d bs [] strictSorted_nil).2 u).1, show hasT [] u = false from rfl, Bool.false_or,
    Sca.hasT_iff]
  constructor
  · rintro ⟨⟨t, x⟩, hc, rfl⟩
    obtain ⟨b, hb, e⟩ := List.mem_filterMap.mp hc
    obtain ⟨h1, h2⟩ := (bracketPair_eq_some k d b t x).mp e
    exact ⟨b, hb, h1, x, h2⟩
  · rintro ⟨b, hb, h1, x, h2⟩
    exact ⟨(u, x), List.mem_filterMap.mpr ⟨b, hb, (bracketPair_eq_some k d b u x).mpr ⟨h1, h2⟩⟩, rfl⟩

theorem rowVal_addAll (k : ScaleKind) (d : Int) (bs : List Bracket) (u : Rat) :
    rowVal (addAll k d bs []) u = contribSum k d bs u := by
  obtain ⟨h1, h2⟩ := addAll_spec k d bs [] strictSorted_nil
  rw [rowVal_eq_rateOf _ h1, (h2 u).2, contribSum_eq_rateOf]
  exact Rat.zero_add _

end OFCore.Param
