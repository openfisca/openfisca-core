import OFCore.Lemmas.Builder
/-!
An accepted group kind: the replay of its membership writes (`applyM`: the last write to a person wins), and
`GroupBuilt` — the ids, who is listed, who is left out, what the memberships replay — read off a successful
`add_group_entity` once (`addGroupEntity_built`).
-/

namespace OFCore.Bld

variable {α β γ : Type} {sys : Sys} {dp : Option String}

theorem applyM_length (n : Nat) (mws : List MWrite) :
    (applyM n mws).1.length = n ∧ (applyM n mws).2.length = n := by
  unfold applyM
  refine foldl_inv _ (fun (acc : List Nat × List String) => acc.1.length = n ∧ acc.2.length = n) mws _ ?_
    ⟨List.length_replicate .., List.length_replicate ..⟩
  intro acc w _ h
  exact ⟨by rw [List.length_set]; exact h.1, by rw [List.length_set]; exact h.2⟩

theorem applyM_last (n : Nat) {w : MWrite} {mws : List MWrite} (hl : Behind (fun w' => w'.pidx ≠ w.pidx) w mws)
    (hi : w.pidx < n) :
    (applyM n mws).1[w.pidx]? = some w.gidx ∧ (applyM n mws).2[w.pidx]? = some w.role := by
  obtain ⟨pre, post, rfl, hno⟩ := hl
  have hl := applyM_length n pre
  unfold applyM at hl ⊢
  rw [List.foldl_append, List.foldl_cons]
  refine foldl_inv _ (fun (acc : List Nat × List String) => acc.1[w.pidx]? = some w.gidx ∧ acc.2[w.pidx]? = some w.role) post _ ?_ ?_
  · intro acc w' hw' h
    have hne := hno w' hw'
    exact ⟨by rw [List.getElem?_set_ne hne]; exact h.1, by rw [List.getElem?_set_ne hne]; exact h.2⟩
  · exact ⟨List.getElem?_set_self (by rw [hl.1]; exact hi), List.getElem?_set_self (by rw [hl.2]; exact hi)⟩

theorem map_zipIdx_map (l : List α) (F : α × Nat → β) (p : β → γ) (g : α → γ)
    (h : ∀ x, p (F x) = g x.1) : ((List.zipIdx l).map F).map p = l.map g := by
  rw [List.map_map, show p ∘ F = g ∘ Prod.fst from funext h, ← List.map_map, List.zipIdx_map_fst]

theorem loopMWrites_pidx (g : GroupKind) (personsIds gids : List String) (kvs : List (DKey × Doc)) :
    (kvs.flatMap (instMWrites g personsIds gids)).map (·.pidx)
      = (kvs.flatMap (instListed g)).map (fun p => personsIds.idxOf p) := by
  rw [List.map_flatMap, List.map_flatMap]
  congr 1
  funext kv
  unfold instMWrites instListed listedIn
  rw [List.map_flatMap, List.map_flatMap]
  congr 1
  funext rd
  exact map_zipIdx_map _ _ _ _ (fun _ => rfl)

theorem nodup_map_idxOf {personsIds : List String} {L : List String} (hn : L.Nodup)
    (hm : ∀ p ∈ L, p ∈ personsIds) : (L.map (fun p => personsIds.idxOf p)).Nodup :=
  List.pairwise_map.mpr (hn.imp_of_mem fun ha hb hne e => hne (idxOf_inj_of_mem (hm _ ha) (hm _ hb) e))

theorem mem_roleMWrites {personsIds : List String} {gidx : Nat} {rd : Role × Doc} {t : Nat} {pid : String}
    (h : rd.2.strs[t]? = some pid) :
    (⟨personsIds.idxOf pid, gidx, rd.1.roleAt t⟩ : MWrite) ∈ roleMWrites personsIds gidx rd := by
  unfold roleMWrites
  apply List.mem_map.mpr
  exact ⟨(pid, t), List.mem_zipIdx_iff_getElem?.mpr h, rfl⟩

/-- the membership writes for the persons left out of a group kind: each gets a group of its own, after the declared ones -/
def ownMWrites (personsIds : List String) (ngids : Nat) (r0 : String) (left : List String) : List MWrite :=
  (List.zipIdx left).map (fun (pid, off) => (⟨personsIds.idxOf pid, ngids + off, r0⟩ : MWrite))

theorem ownMWrites_pidx (personsIds : List String) (ngids : Nat) (r0 : String) (left : List String) :
    (ownMWrites personsIds ngids r0 left).map (·.pidx) = left.map (fun p => personsIds.idxOf p) :=
  map_zipIdx_map _ _ _ _ (fun _ => rfl)

theorem mem_ownMWrites {personsIds : List String} {ngids : Nat} {r0 : String} {left : List String}
    {pid : String} (h : pid ∈ left) :
    (⟨personsIds.idxOf pid, ngids + left.idxOf pid, r0⟩ : MWrite) ∈ ownMWrites personsIds ngids r0 left := by
  unfold ownMWrites
  apply List.mem_map.mpr
  exact ⟨(pid, left.idxOf pid), List.mem_zipIdx_iff_getElem?.mpr (getElem?_idxOf h), rfl⟩

def listedPersons (g : GroupKind) (kvs : List (DKey × Doc)) : List String := kvs.flatMap (instListed g)

def leftOut (g : GroupKind) (personsIds : List String) (kvs : List (DKey × Doc)) : List String :=
  personsIds.filter (fun p => !(listedPersons g kvs).contains p)

def groupMWrites (g : GroupKind) (personsIds : List String) (kvs : List (DKey × Doc)) : List MWrite :=
  kvs.flatMap (instMWrites g personsIds (kvs.map fun kv => kv.1.text)) ++
    ownMWrites personsIds kvs.length (g.flatRoles.headD "") (leftOut g personsIds kvs)

theorem mem_leftOut {g : GroupKind} {personsIds : List String} {kvs : List (DKey × Doc)} {p : String} :
    p ∈ leftOut g personsIds kvs ↔ p ∈ personsIds ∧ p ∉ listedPersons g kvs := by
  simp [leftOut]

theorem mem_groupMWrites_listed {g : GroupKind} {personsIds : List String} {kvs : List (DKey × Doc)} {gk : DKey}
    {ikvs : List (DKey × Doc)} {r : Role} {t : Nat} {pid : String} (hkv : (gk, Doc.obj ikvs) ∈ kvs) (hr : r ∈ g.roles)
    (h : (strictSyntax ((lookupS r.docKey ikvs).getD (.arr []))).strs[t]? = some pid) :
    (⟨personsIds.idxOf pid, (kvs.map fun kv => kv.1.text).idxOf gk.text, r.roleAt t⟩ : MWrite)
      ∈ groupMWrites g personsIds kvs :=
  List.mem_append_left _ (List.mem_flatMap.mpr ⟨(gk, .obj ikvs), hkv,
    List.mem_flatMap.mpr ⟨(r, _), List.mem_map.mpr ⟨r, hr, rfl⟩, mem_roleMWrites h⟩⟩)

theorem mem_groupMWrites_own {g : GroupKind} {personsIds : List String} {kvs : List (DKey × Doc)} {pid : String}
    (h : pid ∈ leftOut g personsIds kvs) :
    (⟨personsIds.idxOf pid, kvs.length + (leftOut g personsIds kvs).idxOf pid, g.flatRoles.headD ""⟩ : MWrite)
      ∈ groupMWrites g personsIds kvs :=
  List.mem_append_right _ (mem_ownMWrites h)

theorem groupMWrites_pidx (g : GroupKind) (personsIds : List String) (kvs : List (DKey × Doc)) :
    (groupMWrites g personsIds kvs).map (·.pidx)
      = (listedPersons g kvs ++ leftOut g personsIds kvs).map (fun p => personsIds.idxOf p) := by
  unfold groupMWrites
  rw [List.map_append, loopMWrites_pidx, ownMWrites_pidx, ← List.map_append]
  rfl

structure GroupBuilt (g : GroupKind) (personsIds : List String) (kvs : List (DKey × Doc)) (e : Ent) : Prop where
  key : e.key = g.key
  ids : e.ids = kvs.map (fun kv => kv.1.text) ++ leftOut g personsIds kvs
  listed_nodup : (listedPersons g kvs).Nodup
  listed_mem : ∀ p ∈ listedPersons g kvs, p ∈ personsIds
  insts : ∀ kv ∈ kvs, ∃ ikvs, kv.2.asObj? = some ikvs ∧ (roleDocs g ikvs).all maxOk = true
  own_role : leftOut g personsIds kvs ≠ [] → g.flatRoles.head? = some (g.flatRoles.headD "")
  replay : e.memb = (applyM personsIds.length (groupMWrites g personsIds kvs)).1 ∧
    e.roles = (applyM personsIds.length (groupMWrites g personsIds kvs)).2

theorem GroupBuilt.ids_length {g : GroupKind} {personsIds : List String} {kvs : List (DKey × Doc)} {e : Ent}
    (h : GroupBuilt g personsIds kvs e) : e.ids.length = kvs.length + (leftOut g personsIds kvs).length := by
  rw [h.ids, List.length_append, List.length_map]

theorem GroupBuilt.known {g : GroupKind} {personsIds : List String} {kvs : List (DKey × Doc)} {e : Ent}
    (h : GroupBuilt g personsIds kvs e) : ∀ p ∈ listedPersons g kvs ++ leftOut g personsIds kvs, p ∈ personsIds := by
  intro p hp
  rcases List.mem_append.mp hp with hp | hp
  · exact h.listed_mem p hp
  · exact (mem_leftOut.mp hp).1

theorem GroupBuilt.pidx_nodup {g : GroupKind} {personsIds : List String} {kvs : List (DKey × Doc)} {e : Ent}
    (h : GroupBuilt g personsIds kvs e) (hpn : personsIds.Nodup) :
    ((groupMWrites g personsIds kvs).map (·.pidx)).Nodup := by
  rw [groupMWrites_pidx]
  refine nodup_map_idxOf ?_ h.known
  -- listed persons are distinct, persons left out are distinct, and nobody is both
  rw [List.nodup_append]
  refine ⟨h.listed_nodup, hpn.sublist List.filter_sublist, ?_⟩
  rintro a ha _ hb rfl
  exact (mem_leftOut.mp hb).2 ha

theorem GroupBuilt.lands {g : GroupKind} {personsIds : List String} {kvs : List (DKey × Doc)} {e : Ent}
    (h : GroupBuilt g personsIds kvs e) (hpn : personsIds.Nodup) :
    ∀ w ∈ groupMWrites g personsIds kvs, e.memb[w.pidx]? = some w.gidx ∧ e.roles[w.pidx]? = some w.role := by
  intro w hw
  have hp : w.pidx ∈ (groupMWrites g personsIds kvs).map (·.pidx) := List.mem_map_of_mem hw
  rw [groupMWrites_pidx] at hp
  obtain ⟨p, hp, hpw⟩ := List.mem_map.mp hp
  rw [h.replay.1, h.replay.2]
  exact applyM_last _ (Behind.of_nodup_map (·.pidx) (h.pidx_nodup hpn) hw)
    (hpw ▸ List.idxOf_lt_length_of_mem (h.known p hp))

theorem GroupBuilt.memb_length {g : GroupKind} {personsIds : List String} {kvs : List (DKey × Doc)} {e : Ent}
    (h : GroupBuilt g personsIds kvs e) : e.memb.length = personsIds.length ∧ e.roles.length = personsIds.length := by
  rw [h.replay.1, h.replay.2]; exact applyM_length _ _

theorem addGroupEntity_built {g : GroupKind} {personsIds : List String}
    {kvs : List (DKey × Doc)} {buf buf' : Buffer} {e : Ent}
    (h : addGroupEntity sys dp g personsIds (.obj kvs) buf = .ok (e, buf')) :
    GroupBuilt g personsIds kvs e ∧
    ∃ wss, All₂ (InstWrites sys g.key dp (kvs.map fun kv => kv.1.text) (variablesJson g)) kvs wss ∧
      buf' = (if leftOut g personsIds kvs = [] then applyWrites buf (resolveKeys sys wss.flatten)
              else padBuffer sys g.key e.ids.length (applyWrites buf (resolveKeys sys wss.flatten))) := by
  unfold addGroupEntity at h
  simp only [Doc.asObj?] at h
  split at h
  · cases h
  · rename_i acc hf
    obtain ⟨⟨hnd, hmem, hta⟩, hmws, ⟨wss, hall, hws⟩, hmax⟩ := groupLoop_ok kvs _ acc hf
    have hleft : acc.toAlloc = leftOut g personsIds kvs := hta
    rw [List.nil_append] at hmws hws
    rw [hleft, hmws, hws] at h
    split at h
    · -- nobody is left out: no own-group writes
      rename_i hl
      cases h
      refine ⟨⟨rfl, by rw [hl, List.append_nil], hnd, fun p hp => (hmem p hp).2, hmax, fun hne => absurd hl hne, ?_⟩,
        wss, hall, (if_pos hl).symm⟩
      simp only [groupMWrites, hl, ownMWrites, List.zipIdx_nil, List.map_nil, List.append_nil, and_self]
    · rename_i hl
      split at h
      · cases h
      · rename_i r0 hr
        have hr0 : g.flatRoles.headD "" = r0 := by rw [List.headD_eq_head?_getD, hr]; rfl
        rw [List.length_map, ← hr0] at h
        cases h
        exact ⟨⟨rfl, rfl, hnd, fun p hp => (hmem p hp).2, hmax, fun _ => hr0 ▸ hr, rfl, rfl⟩, wss, hall, (if_neg hl).symm⟩

end OFCore.Bld
