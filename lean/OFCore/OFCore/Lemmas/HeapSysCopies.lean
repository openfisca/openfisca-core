import OFCore.Lemmas.HeapSysCells
/-!
# What `copy.deepcopy`, `TaxBenefitSystem.clone` and `Reform.__init__` build (C14)
-/
namespace OFCore.HeapSys
open OFCore.Param

theorem le_add_one_add {n a : Nat} (h : n ≤ a) (k : Nat) : n ≤ a + 1 + k :=
  Nat.le_trans h (Nat.le_trans (Nat.le_add_right _ 1) (Nat.le_add_right _ k))

theorem forall_mem_cons_append {α} {P : α → Prop} {a x : α} {l : List α} (ha : P a) (hl : ∀ o ∈ l, P o) (hx : P x) :
    ∀ o ∈ a :: l ++ [x], P o := by
  simp only [List.cons_append, List.forall_mem_cons, List.forall_mem_append]
  exact ⟨ha, hl, hx, fun _ h => nomatch h⟩

theorem copyVar_inv {fuel : Nat} {h : Heap} {vid : Oid} {h1 : Heap} {vid' : Oid}
    (hc : copyVar (fuel + 1) h vid = some (h1, vid')) :
    ∃ v, h.getVar vid = some v ∧
      ((v.baseline = none ∧ h1 = h.allocs [.var v] ∧ vid' = h.next) ∨
       (∃ b h0 b', v.baseline = some b ∧ copyVar fuel h b = some (h0, b') ∧
          h1 = h0.allocs [.var { v with baseline := some b' }] ∧ vid' = h0.next)) := by
  unfold copyVar at hc
  split at hc
  · cases hc
  rename_i v hv
  refine ⟨v, hv, ?_⟩
  split at hc
  · rename_i hb
    cases hc
    exact Or.inl ⟨hb, rfl, rfl⟩
  · rename_i b hb
    split at hc
    · cases hc
    rename_i h0 b' hr
    cases hc
    exact Or.inr ⟨b, h0, b', hb, hr, rfl, rfl⟩

theorem copyVars_inv {h : Heap} {k : String} {vid : Oid} {r : List (String × Oid)} {h2 : Heap}
    {m' : List (String × Oid)} (hc : copyVars h ((k, vid) :: r) = some (h2, m')) :
    ∃ h1 vid' r', copyVar (vid + 1) h vid = some (h1, vid') ∧ copyVars h1 r = some (h2, r') ∧
      m' = (k, vid') :: r' := by
  unfold copyVars at hc
  split at hc
  · cases hc
  rename_i h1 vid' e1
  split at hc
  · cases hc
  rename_i h2' r' e2
  cases hc
  exact ⟨h1, vid', r', e1, e2, rfl⟩

theorem copyVar_allocs {fuel : Nat} {h : Heap} {vid : Oid} {h1 : Heap} {vid' : Oid}
    (hc : copyVar fuel h vid = some (h1, vid')) : ∃ vs : List VarObj, h1 = h.allocs (vs.map .var) := by
  induction fuel generalizing h vid h1 vid' with
  | zero => cases hc
  | succ fuel ih =>
    obtain ⟨v, hv, hcase⟩ := copyVar_inv hc
    rcases hcase with ⟨_, rfl, _⟩ | ⟨b, h0, b', _, hr, rfl, _⟩
    · exact ⟨[v], rfl⟩
    · obtain ⟨vs, rfl⟩ := ih hr
      exact ⟨vs ++ [{ v with baseline := some b' }], by simp [Heap.allocs]⟩

theorem copyVars_allocs {h : Heap} {m : List (String × Oid)} {h2 : Heap} {m' : List (String × Oid)}
    (hc : copyVars h m = some (h2, m')) : ∃ vs : List VarObj, h2 = h.allocs (vs.map .var) := by
  induction m generalizing h h2 m' with
  | nil =>
    simp only [copyVars, Option.some.injEq, Prod.mk.injEq] at hc
    exact ⟨[], by rw [← hc.1]; simp [Heap.allocs]⟩
  | cons p r ih =>
    obtain ⟨k, vid⟩ := p
    obtain ⟨ha, vid', r', h1, h2', _⟩ := copyVars_inv hc
    obtain ⟨vs1, rfl⟩ := copyVar_allocs h1
    obtain ⟨vs2, rfl⟩ := ih h2'
    exact ⟨vs1 ++ vs2, by simp [Heap.allocs]⟩

theorem entityCopies_spec {h : Heap} {owner : Oid} {es : List Oid} {os : List Obj}
    (hc : entityCopies h owner es = some os) :
    ∀ o ∈ os, ∃ k, o = Obj.ent { key := k, system := some owner } := by
  induction es generalizing os with
  | nil => cases hc; intro o ho; cases ho
  | cons e r ih =>
    unfold entityCopies at hc
    split at hc
    · rename_i eo rest _ hr
      cases hc
      intro o ho
      rcases List.mem_cons.mp ho with rfl | ho
      · exact ⟨eo.key, rfl⟩
      · exact ih hr o ho
    · cases hc

theorem fresh_entities_bound {h h1 : Heap} {sid : Nat} {es : List Oid} {ents : List Obj}
    (hc : entityCopies h sid es = some ents)
    (hlook : ∀ i, i < ents.length → h1.look (sid + 1 + i) = ents[i]?) :
    ∀ e ∈ (List.range ents.length).map (fun i => sid + 1 + i),
      ∃ eo, h1.getEnt e = some eo ∧ eo.system = some sid := by
  intro e he
  simp only [List.mem_map, List.mem_range] at he
  obtain ⟨i, hi, rfl⟩ := he
  have hl := hlook i hi
  have hget : ents[i]? = some ents[i] := List.getElem?_eq_getElem hi
  obtain ⟨k, hk⟩ := entityCopies_spec hc _ (List.mem_of_getElem? hget)
  rw [hget, hk] at hl
  exact ⟨_, getEnt_iff.2 hl, rfl⟩

theorem entityCopies_sysOK {n : Nat} {h : Heap} {owner : Oid} {es : List Oid} {os : List Obj}
    (hc : entityCopies h owner es = some os) : ∀ o ∈ os, SysOK n o := by
  intro o ho
  obtain ⟨k, rfl⟩ := entityCopies_spec hc o ho
  trivial

theorem entityCopies_nonvar {h : Heap} {owner : Oid} {es : List Oid} {os : List Obj}
    (hc : entityCopies h owner es = some os) : ∀ o ∈ os, o.isVar = false := by
  intro o ho
  obtain ⟨k, rfl⟩ := entityCopies_spec hc o ho
  rfl

theorem reformInit_inv {h : Heap} {src : Oid} {h1 : Heap} {R : Oid} (hc : reformInit h src = .ok (h1, R)) :
    R = h.next ∧ ∃ s ents m, h.getSys src = some s ∧ entityCopies h h.next s.entities = some ents ∧
      h.getMap s.vars = some m ∧
      h1 = h.allocs (.sys ⟨(List.range ents.length).map (fun i => h.next + 1 + i), h.next + 1 + ents.length,
          s.params, some src⟩ :: ents ++ [.vmap m]) := by
  unfold reformInit at hc
  split at hc
  · cases hc
  rename_i s hs
  dsimp only at hc
  split at hc
  · rename_i ents m he hm
    cases hc
    exact ⟨rfl, s, ents, m, hs, he, hm, rfl⟩
  · cases hc

theorem cloneSys_inv {h : Heap} {src : Oid} {h' : Heap} {N : Oid} (hc : cloneSys h src = .ok (h', N)) :
    N = h.next ∧ ∃ s ents p m h1 m', ∃ vs : List VarObj, h.getSys src = some s ∧ entityCopies h h.next s.entities = some ents ∧
      h.getPar s.params = some p ∧ h.getMap s.vars = some m ∧
      h1 = h.allocs (.sys ⟨(List.range ents.length).map (fun i => h.next + 1 + i), h.next,
          h.next + 1 + ents.length, s.baseline⟩ :: ents ++ [.par p]) ∧
      copyVars h1 m = some (h1.allocs (vs.map .var), m') ∧
      h' = ((h1.allocs (vs.map .var)).allocs [.vmap m']).put h.next (.sys ⟨(List.range ents.length).map
          (fun i => h.next + 1 + i), (h1.allocs (vs.map .var)).next, h.next + 1 + ents.length, s.baseline⟩) := by
  unfold cloneSys at hc
  split at hc
  · cases hc
  rename_i s hs
  dsimp only at hc
  split at hc
  · rename_i ents p m he hp hm
    split at hc
    · cases hc
    rename_i h2 m' hcv
    cases hc
    obtain ⟨vs, rfl⟩ := copyVars_allocs hcv
    exact ⟨rfl, s, ents, p, m, _, m', vs, hs, he, hp, hm, rfl, hcv, rfl⟩
  · cases hc

theorem reformInit_id {h h' : Heap} {src R : Oid} (hc : reformInit h src = .ok (h', R)) : R = h.next :=
  (reformInit_inv hc).1

theorem cloneSys_id {h h' : Heap} {src N : Oid} (hc : cloneSys h src = .ok (h', N)) : N = h.next :=
  (cloneSys_inv hc).1

theorem good_reformInit {n : Nat} {h0 h : Heap} (g : Good n h0 h) {src : Oid} {h' : Heap} {R : Oid}
    (hc : reformInit h src = .ok (h', R)) : Good n h0 h' := by
  obtain ⟨-, s, ents, m, -, he, -, rfl⟩ := reformInit_inv hc
  exact g.allocs _ (forall_mem_cons_append
    ⟨le_add_one_add g.next _, fun hb => by cases hb⟩ (entityCopies_sysOK he) trivial)

theorem good_cloneSys {n : Nat} {h0 h : Heap} (g : Good n h0 h) {src : Oid} {h' : Heap} {N : Oid}
    (hc : cloneSys h src = .ok (h', N)) : Good n h0 h' := by
  obtain ⟨-, s, ents, p, m, h1, m', vs, -, he, -, -, rfl, -, rfl⟩ := cloneSys_inv hc
  have hn := g.next
  refine (((g.allocs _ ?_).allocs (vs.map .var)
    (fun o ho => by obtain ⟨v, _, rfl⟩ := List.mem_map.mp ho; trivial)).alloc1 (o := .vmap m') trivial).put _ hn ?_
  · exact forall_mem_cons_append ⟨hn, fun _ => le_add_one_add hn _⟩
      (entityCopies_sysOK he) trivial
  · refine ⟨?_, fun _ => le_add_one_add hn _⟩
    show n ≤ ((h.allocs _).allocs (vs.map .var)).next
    rw [next_allocs, next_allocs]
    exact Nat.le_trans hn (Nat.le_trans (Nat.le_add_right _ _) (Nat.le_add_right _ _))

theorem consistent_reformInit {h : Heap} (hc : Consistent h) {src : Oid} {h1 : Heap} {R : Oid}
    (hr : reformInit h src = .ok (h1, R)) : Consistent h1 := by
  obtain ⟨-, s, ents, m, -, he, -, rfl⟩ := reformInit_inv hr
  exact consistent_allocs_nonvar hc _ (forall_mem_cons_append rfl (entityCopies_nonvar he) rfl)

theorem copyVar_spec {fuel : Nat} {h : Heap} {vid : Oid} {h1 : Heap} {vid' : Oid}
    (hc : copyVar fuel h vid = some (h1, vid')) :
    ∃ v v', h.getVar vid = some v ∧ h1.getVar vid' = some v' ∧ v'.view = v.view ∧ h.next ≤ vid' := by
  cases fuel with
  | zero => cases hc
  | succ fuel =>
    obtain ⟨v, hv, hcase⟩ := copyVar_inv hc
    rcases hcase with ⟨_, rfl, rfl⟩ | ⟨b, h0, b', _, hr, rfl, rfl⟩
    · exact ⟨v, v, hv, getVar_iff.2 (look_alloc_self h _ _), rfl, Nat.le_refl _⟩
    · obtain ⟨os, hos⟩ := copyVar_allocs hr
      exact ⟨v, _, hv, getVar_iff.2 (look_alloc_self h0 _ _), rfl,
        by rw [hos, next_allocs]; exact Nat.le_add_right _ _⟩

theorem copyVars_spec {h : Heap} {m : List (String × Oid)} {h2 : Heap} {m' : List (String × Oid)}
    (hc : copyVars h m = some (h2, m')) (hent : ∀ e ∈ m, ∃ v, h.getVar e.2 = some v) :
    (∀ name, dictObs h2 m' name = dictObs h m name) ∧
    (∀ e ∈ m', (∃ v, h2.getVar e.2 = some v) ∧ h.next ≤ e.2) := by
  induction m generalizing h h2 m' with
  | nil =>
    simp only [copyVars, Option.some.injEq, Prod.mk.injEq] at hc
    obtain ⟨rfl, rfl⟩ := hc
    exact ⟨fun name => rfl, fun e he => by cases he⟩
  | cons pr r ih =>
    obtain ⟨k, vid⟩ := pr
    obtain ⟨ha, vid', r', h1, h2', rfl⟩ := copyVars_inv hc
    obtain ⟨os1, e1⟩ := copyVar_allocs h1
    obtain ⟨os2, e2⟩ := copyVars_allocs h2'
    obtain ⟨v, v', hv, hv', hview, hge⟩ := copyVar_spec h1
    have k1 : Keeps h ha := by rw [e1]; exact keeps_allocs h _
    have k2 : Keeps ha h2 := by rw [e2]; exact keeps_allocs ha _
    have hentr : ∀ e ∈ r, ∃ v, h.getVar e.2 = some v := fun e he => hent e (List.mem_cons_of_mem _ he)
    obtain ⟨ih1, ih2⟩ := ih h2' (fun e he => let ⟨w, hw⟩ := hentr e he; ⟨w, k1.keepVar _ _ hw⟩)
    refine ⟨fun name => ?_, fun e he => ?_⟩
    · rw [dictObs_cons, dictObs_cons, ih1 name, dictObs_keeps hentr k1, k2.keepVar _ _ hv', hv]
      exact congrArg (fun x => if k = name then some x else dictObs h r name) hview
    · rcases List.mem_cons.mp he with rfl | he
      · exact ⟨⟨v', k2.keepVar _ _ hv'⟩, hge⟩
      · obtain ⟨a, b⟩ := ih2 e he
        exact ⟨a, Nat.le_trans k1.grows b⟩

theorem consistent_copyVar {fuel : Nat} {h : Heap} (hc : Consistent h) {vid : Oid} {h1 : Heap} {vid' : Oid}
    (hcp : copyVar fuel h vid = some (h1, vid')) : Consistent h1 := by
  induction fuel generalizing h vid h1 vid' with
  | zero => cases hcp
  | succ fuel ih =>
    obtain ⟨v, hv, hcase⟩ := copyVar_inv hcp
    obtain ⟨c, hcl, ha⟩ := hc vid v hv
    rcases hcase with ⟨hb, rfl, _⟩ | ⟨b, h0, b', hb, hr, rfl, _⟩
    · exact consistent_alloc_var hc ⟨c, hcl, ha⟩
    · obtain ⟨bo, bo', hbo, hbo', hview, _⟩ := copyVar_spec hr
      refine consistent_alloc_var (ih hc hr) ⟨{ c with baseline := some b' }, ?_, ha⟩
      -- the original is rebuilt from `b`, the copy from `b'`, which has the same observable content
      have hcw : constructWith v.cls (some b) (some bo) = .ok c := by
        rw [← construct_some hbo, ← hb]; exact hcl
      show construct h0 v.cls (some b') = _
      rw [construct_some hbo']
      exact constructWith_view_congr (i' := b') hview hcw

theorem consistent_copyVars {h : Heap} (hc : Consistent h) {m : List (String × Oid)} {h2 : Heap}
    {m' : List (String × Oid)} (hcp : copyVars h m = some (h2, m')) : Consistent h2 := by
  induction m generalizing h h2 m' with
  | nil =>
    simp only [copyVars, Option.some.injEq, Prod.mk.injEq] at hcp
    rw [← hcp.1]; exact hc
  | cons pr r ih =>
    obtain ⟨k, vid⟩ := pr
    obtain ⟨ha, vid', r', h1, h2', _⟩ := copyVars_inv hcp
    exact ih (consistent_copyVar hc h1) h2'

theorem consistent_cloneSys {h : Heap} (hc : Consistent h) {src : Oid} {h' : Heap} {N : Oid}
    (hcl : cloneSys h src = .ok (h', N)) : Consistent h' := by
  obtain ⟨-, s, ents, p, m, h1, m', vs, -, he, -, -, rfl, hcv, rfl⟩ := cloneSys_inv hcl
  have c2 := consistent_copyVars (consistent_allocs_nonvar hc _
    (forall_mem_cons_append rfl (entityCopies_nonvar he) rfl)) hcv
  -- the system object allocated first is completed in place
  exact consistent_put (consistent_allocs_nonvar c2 _ (List.forall_mem_singleton.2 rfl)) _
    (look_allocs_of_look _ (look_allocs_of_look _ (look_alloc_self h _ _))) rfl rfl

theorem newSys_reads {h h1 : Heap} {S x : Obj} {ents : List Obj} (hh1 : h1 = h.allocs (S :: ents ++ [x])) :
    h1.look h.next = some S ∧ h1.look (h.next + 1 + ents.length) = some x ∧
    (∀ i, i < ents.length → h1.look (h.next + 1 + i) = ents[i]?) ∧ Keeps h h1 := by
  subst hh1
  refine ⟨look_alloc_self h _ _, ?_, fun i hi => ?_, keeps_allocs h _⟩
  · rw [show h.next + 1 + ents.length = h.next + (ents.length + 1) by omega, look_allocs_ge]
    simp
  · rw [show h.next + 1 + i = h.next + (i + 1) by omega, look_allocs_ge]
    simp [List.getElem?_append_left hi]

/-- `Reform.__init__` before `apply()` shares the variable objects and the parameter tree and makes its own dict and
entities.  The fields keep of this: every name resolves to the *same* variable object, the parameters read the same, the
entities are its own (not that the tree is the same object, nor that the dict is new). -/
structure ReformSpec (h : Heap) (src : Oid) (h1 : Heap) (R : Oid) : Prop where
  wf : SysWF h1 R
  vars : ∀ name, varObs h1 R name = varObs h src name
  pars : ∀ pn d, paramObs h1 R pn d = paramObs h src pn d
  resolves : ∀ name, resolve h1 R name = resolve h src name
  sys : ∃ sR, h1.getSys R = some sR ∧ sR.baseline = some src ∧
    ∀ e ∈ sR.entities, ∃ eo, h1.getEnt e = some eo ∧ eo.system = some R

theorem reformInit_spec {h : Heap} {src : Oid} {h1 : Heap} {R : Oid} (hw : SysWF h src)
    (hc : reformInit h src = .ok (h1, R)) : ReformSpec h src h1 R := by
  obtain ⟨s, m, p, hs, hm, hp, he⟩ := hw
  obtain ⟨rfl, s0, ents, m0, hs0, hec, hm0, hh⟩ := reformInit_inv hc
  rw [hs] at hs0; cases hs0
  rw [hm] at hm0; cases hm0
  obtain ⟨l0, lm, lents, hk⟩ := newSys_reads hh
  have hsR := getSys_iff.2 l0
  have hmR := getMap_iff.2 lm
  have hpR : h1.getPar s.params = some p :=
    getPar_iff.2 (by rw [hh]; exact look_allocs_of_look _ (getPar_iff.1 hp))
  refine ⟨⟨_, _, _, hsR, hmR, hpR, fun e hmem => ?_⟩, fun name => ?_, fun pn d => ?_, fun name => ?_, ⟨_, hsR,
    rfl, fresh_entities_bound hec lents⟩⟩
  · obtain ⟨v, hv⟩ := he e hmem; exact ⟨v, hk.keepVar _ _ hv⟩
  · exact varObs_of_keeps hs hm he hsR hmR hk rfl
  · rw [paramObs_eq hsR hpR, paramObs_eq hs hp]
  · rw [resolve_eq hsR hmR, resolve_eq hs hm]

/-- `TaxBenefitSystem.clone`: everything its own and fresh, the same baseline -/
structure CloneSpec (h : Heap) (src : Oid) (h' : Heap) (N : Oid) : Prop where
  wf : SysWF h' N
  vars : ∀ name, varObs h' N name = varObs h src name
  pars : ∀ pn d, paramObs h' N pn d = paramObs h src pn d
  fresh : ∀ name vid, resolve h' N name = some vid → h.next ≤ vid
  sys : ∃ sN s, h'.getSys N = some sN ∧ h.getSys src = some s ∧ sN.baseline = s.baseline ∧
    h.next ≤ sN.vars ∧ h.next ≤ sN.params ∧
    ∀ e ∈ sN.entities, h.next ≤ e ∧ ∀ name, varObsVia h' e name = varObs h' N name

theorem cloneSys_spec {h : Heap} {src : Oid} {h' : Heap} {N : Oid} (hw : SysWF h src)
    (hc : cloneSys h src = .ok (h', N)) : CloneSpec h src h' N := by
  obtain ⟨s, m, p, hs, hm, hp, he⟩ := hw
  obtain ⟨rfl, s0, ents, p0, m0, h1, m', vs, hs0, hec, hp0, hm0, hh1, hcv, hh'⟩ := cloneSys_inv hc
  rw [hs] at hs0; cases hs0
  rw [hp] at hp0; cases hp0
  rw [hm] at hm0; cases hm0
  generalize vs.map Obj.var = os at hcv hh'
  obtain ⟨l0, lp, lents, k1⟩ := newSys_reads hh1
  -- the system object allocated first is completed in place: variable objects are read as in `h1.allocs os`
  have lS := look_allocs_of_look [Obj.vmap m'] (look_allocs_of_look os l0)
  have k3 : Keeps (h1.allocs os) h' := by rw [hh']; exact (keeps_allocs _ _).trans (keeps_put _ lS rfl)
  have k2 : Keeps h1 h' := (keeps_allocs _ _).trans k3
  obtain ⟨cs1, cs2⟩ := copyVars_spec hcv (fun e hmem => let ⟨v, hv⟩ := he e hmem; ⟨v, k1.keepVar _ _ hv⟩)
  have hsN := getSys_iff.2 (show h'.look h.next = _ by rw [hh']; exact look_put_self _ lS)
  have hmN : h'.getMap (h1.allocs os).next = some m' :=
    getMap_iff.2 (by rw [hh']; exact look_put_of_look _ (look_alloc_self _ _ _) lS (by simp))
  have hpN := getPar_iff.2 (show h'.look _ = _ by
    rw [hh']; exact look_put_of_look _ (look_allocs_of_look _ (look_allocs_of_look os lp)) lS (by simp))
  have hg1 : h.next ≤ h1.next := k1.grows
  refine ⟨⟨_, _, _, hsN, hmN, hpN, fun e hmem => let ⟨⟨v, hv⟩, _⟩ := cs2 e hmem; ⟨v, k3.keepVar _ _ hv⟩⟩, fun name => ?_,
    fun pn d => ?_, fun name vid hr => ?_, ⟨_, s, hsN, hs, rfl, ?_, ?_, fun e hemem => ?_⟩⟩
  · rw [varObs_eq hsN hmN, varObs_eq hs hm, dictObs_keeps (fun e he => (cs2 e he).1) k3, cs1 name,
      dictObs_keeps he k1]
  · rw [paramObs_eq hsN hpN, paramObs_eq hs hp]
  · rw [resolve_eq hsN hmN] at hr
    exact Nat.le_trans hg1 (cs2 _ (mem_of_dictGet hr)).2
  · show h.next ≤ (h1.allocs os).next
    rw [next_allocs]; exact Nat.le_trans hg1 (Nat.le_add_right _ _)
  · exact le_add_one_add (Nat.le_refl _) _
  · obtain ⟨eo, heo, hsys⟩ := fresh_entities_bound hec lents e hemem
    refine ⟨?_, varObsVia_of_bound (k2.keepEnt _ _ heo) hsys⟩
    simp only [List.mem_map, List.mem_range] at hemem
    obtain ⟨i, _, rfl⟩ := hemem
    exact le_add_one_add (Nat.le_refl _) _

end OFCore.HeapSys
