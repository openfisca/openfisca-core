import OFCore.Engine
import OFCore.Lemmas.Except
/-!
# The machine and the meaning, rule by rule

Each rule of `den`/`denE` and `run`/`runE` as an equation with its side conditions as hypotheses, and
the induction principles `den_ind`/`run_ind` over completed evaluations, one premise per rule; then the
top-level request loop.
-/
namespace OFCore.Engine

variable {P : Type} {sys : Sys P}

theorem ok_of_map_ok {f : Val → Val} {r : Res} (h : ∃ x, r.map f = .ok x) : ∃ x, r = .ok x :=
  let ⟨_, hx⟩ := h
  let ⟨y, hy, _⟩ := map_eq_ok.1 hx
  ⟨y, hy⟩

@[simp] theorem den_zero (v : Nat) (p : P) : den sys 0 v p = none := by rw [den]

theorem den_input {n v p x} (hin : sys.input v p = some x) : den sys (n+1) v p = some (.ok x) := by
  rw [den, hin]

theorem den_default {n v p} (hin : sys.input v p = none) (hf : sys.formula v p = none) :
    den sys (n+1) v p = some (.ok (sys.post v (sys.dflt v))) := by
  rw [den, hin, hf]

theorem den_formula {n v p e} (hin : sys.input v p = none) (hf : sys.formula v p = some e) :
    den sys (n+1) v p = (denE sys n e).map (Except.map (sys.post v)) := by
  rw [den, hin, hf]
  simp only
  cases denE sys n e with
  | none => rfl
  | some r => cases r <;> rfl

theorem den_formula_some {n v p e r} (hin : sys.input v p = none) (hf : sys.formula v p = some e)
    (h : denE sys n e = some r) : den sys (n+1) v p = some (r.map (sys.post v)) := by
  rw [den_formula hin hf, h]; rfl

theorem den_ok_post {n v p x} (hin : sys.input v p = none) (h : den sys n v p = some (.ok x)) :
    ∃ y, x = sys.post v y := by
  cases n with
  | zero => simp at h
  | succ n =>
    cases hf : sys.formula v p with
    | none => rw [den_default hin hf] at h; cases h; exact ⟨_, rfl⟩
    | some e =>
      rw [den_formula hin hf] at h
      obtain ⟨r0, _, hr⟩ := Option.map_eq_some_iff.1 h
      obtain ⟨y, _, rfl⟩ := map_eq_ok.1 hr
      exact ⟨y, rfl⟩

@[simp] theorem denE_const (n : Nat) (c : Val) : denE sys n (.const c : Expr P) = some (.ok c) := by rw [denE]
@[simp] theorem denE_bad (n : Nat) : denE sys n (.bad : Expr P) = some (.error .fault) := by rw [denE]
@[simp] theorem denE_ref (n v) (p : P) : denE sys n (.ref v p) = den sys n v p := by rw [denE]

theorem denE_fail (n id) (a : Expr P) :
    denE sys n (.fail id a) = if sys.armed id then some (.error .fault) else denE sys n a := by rw [denE]

theorem denE_op1 (n o) (a : Expr P) : denE sys n (.op1 o a) = (denE sys n a).map (Except.map (sys.f1 o)) := by
  rw [denE]
  cases denE sys n a with
  | none => rfl
  | some r => cases r <;> rfl

theorem denE_op1_some {n o r} {a : Expr P} (h : denE sys n a = some r) :
    denE sys n (.op1 o a) = some (r.map (sys.f1 o)) := by
  rw [denE_op1, h]; rfl

theorem denE_op2 (n o) (a b : Expr P) :
    denE sys n (.op2 o a b) = (denE sys n a).bind fun ra =>
      match ra with
      | .error e => some (.error e)
      | .ok x => (denE sys n b).map (Except.map (sys.f2 o x)) := by
  rw [denE]
  cases denE sys n a with
  | none => rfl
  | some ra =>
    cases ra with
    | error e => rfl
    | ok x =>
      cases denE sys n b with
      | none => rfl
      | some rb => cases rb <;> rfl

theorem denE_op2_error {n o er} {a b : Expr P} (h : denE sys n a = some (.error er)) :
    denE sys n (.op2 o a b) = some (.error er) := by
  rw [denE_op2, h]; rfl

theorem denE_op2_some {n o x rb} {a b : Expr P} (ha : denE sys n a = some (.ok x)) (hb : denE sys n b = some rb) :
    denE sys n (.op2 o a b) = some (rb.map (sys.f2 o x)) := by
  rw [denE_op2, ha, hb]; rfl

theorem den_ind (sys : Sys P) {M : Nat → Nat → P → Res → Prop} {ME : Nat → Expr P → Res → Prop}
    (input : ∀ {n v p x}, sys.input v p = some x → M (n+1) v p (.ok x))
    (default : ∀ {n v p}, sys.input v p = none → sys.formula v p = none →
      M (n+1) v p (.ok (sys.post v (sys.dflt v))))
    (formula : ∀ {n v p e r}, sys.input v p = none → sys.formula v p = some e → denE sys n e = some r →
      ME n e r → M (n+1) v p (r.map (sys.post v)))
    (const : ∀ {n c}, ME n (.const c) (.ok c))
    (bad : ∀ {n}, ME n .bad (.error .fault))
    (ref : ∀ {n v p r}, den sys n v p = some r → M n v p r → ME n (.ref v p) r)
    (failArmed : ∀ {n id a}, sys.armed id = true → ME n (.fail id a) (.error .fault))
    (failPass : ∀ {n id a r}, ¬ sys.armed id = true → denE sys n a = some r → ME n a r → ME n (.fail id a) r)
    (op1 : ∀ {n o a r}, denE sys n a = some r → ME n a r → ME n (.op1 o a) (r.map (sys.f1 o)))
    (op2Err : ∀ {n o a b er}, denE sys n a = some (.error er) → ME n a (.error er) →
      ME n (.op2 o a b) (.error er))
    (op2 : ∀ {n o a b x rb}, denE sys n a = some (.ok x) → denE sys n b = some rb → ME n a (.ok x) → ME n b rb →
      ME n (.op2 o a b) (rb.map (sys.f2 o x))) :
    (∀ n v p r, den sys n v p = some r → M n v p r) ∧ (∀ n e r, denE sys n e = some r → ME n e r) := by
  -- expressions at a fixed fuel given the nodes, then the nodes by induction on the fuel: no mutual induction
  suffices h : ∀ n, (∀ v p r, den sys n v p = some r → M n v p r) →
      ∀ e r, denE sys n e = some r → ME n e r by
    have hM : ∀ n v p r, den sys n v p = some r → M n v p r := by
      intro n
      induction n with
      | zero => intro v p r hd; simp at hd
      | succ n ih =>
        intro v p r hd
        cases hin : sys.input v p with
        | some x => rw [den_input hin] at hd; cases hd; exact input hin
        | none =>
          cases hf : sys.formula v p with
          | none => rw [den_default hin hf] at hd; cases hd; exact default hin hf
          | some e =>
            rw [den_formula hin hf] at hd
            obtain ⟨r0, hr0, rfl⟩ := Option.map_eq_some_iff.1 hd
            exact formula hin hf hr0 (h n ih e r0 hr0)
    exact ⟨hM, fun n => h n (hM n)⟩
  intro n hM e
  induction e with
  | const c => intro r hd; rw [denE_const] at hd; cases hd; exact const
  | bad => intro r hd; rw [denE_bad] at hd; cases hd; exact bad
  | ref v p => intro r hd; rw [denE_ref] at hd; exact ref hd (hM v p r hd)
  | fail id a iha =>
    intro r hd
    rw [denE_fail] at hd
    by_cases harm : sys.armed id = true
    · rw [if_pos harm] at hd; cases hd; exact failArmed harm
    · rw [if_neg harm] at hd; exact failPass harm hd (iha r hd)
  | op1 o a iha =>
    intro r hd
    rw [denE_op1] at hd
    obtain ⟨ra, hra, rfl⟩ := Option.map_eq_some_iff.1 hd
    exact op1 hra (iha ra hra)
  | op2 o a b iha ihb =>
    intro r hd
    rw [denE_op2] at hd
    obtain ⟨ra, hra, hd⟩ := Option.bind_eq_some_iff.1 hd
    cases ra with
    | error er => cases hd; exact op2Err hra (iha _ hra)
    | ok x =>
      obtain ⟨rb, hrb, rfl⟩ := Option.map_eq_some_iff.1 hd
      exact op2 hra hrb (iha _ hra) (ihb _ hrb)

variable [DecidableEq P]

/-- the case in which `run` computes the node: the formula in force is run, or the default stored -/
structure Fresh (sys : Sys P) (s : St P) (v : Nat) (p : P) : Prop where
  miss : lookup s.cache (sys.slot (v, p)) = none
  noInput : sys.input v p = none
  offStack : (v, p) ∉ s.stack
  belowLimit : ¬ sys.msl ≤ (s.stack.filter (fun k => k.1 = v)).length

@[simp] theorem run_zero (s : St P) (v : Nat) (p : P) : run sys 0 s v p = none := by rw [run]

theorem run_hit {n s v p x g} (hl : lookup s.cache (sys.slot (v, p)) = some (x, g)) :
    run sys (n+1) s v p = some (.ok x, g,
      if sys.slot (v, p) ∈ s.inval.map sys.slot then { s with inval := s.stack ++ s.inval } else s) := by
  rw [run, hl]

theorem run_input {n s v p x} (hl : lookup s.cache (sys.slot (v, p)) = none) (hin : sys.input v p = some x) :
    run sys (n+1) s v p = some (.ok x, false, s) := by
  rw [run, hl, hin]

theorem run_cycle {n s v p} (hl : lookup s.cache (sys.slot (v, p)) = none) (hin : sys.input v p = none)
    (hc : (v, p) ∈ s.stack) : run sys (n+1) s v p = some (.error .cycle, false, s) := by
  rw [run, hl, hin]; exact if_pos hc

theorem run_spiral {n s v p} (hl : lookup s.cache (sys.slot (v, p)) = none) (hin : sys.input v p = none)
    (hc : (v, p) ∉ s.stack) (hsp : sys.msl ≤ (s.stack.filter (fun k => k.1 = v)).length) :
    run sys (n+1) s v p = some (.ok (sys.dflt v), true,
      { s with inval := (v, p) :: markSpiral v (if sys.markAll then s.stack.length + 1 else sys.msl) s.stack ++ s.inval }) := by
  rw [run, hl, hin]; simp only [if_neg hc, if_pos hsp]

theorem run_default {n s v p} (h : Fresh sys s v p) (hf : sys.formula v p = none) :
    run sys (n+1) s v p = some (.ok (sys.post v (sys.dflt v)), false,
      { s with cache := store sys s.cache (sys.slot (v, p)) (sys.post v (sys.dflt v)) false }) := by
  rw [run, h.miss, h.noInput, hf]; simp only [if_neg h.offStack, if_neg h.belowLimit]

theorem run_formula {n s v p e} (h : Fresh sys s v p) (hf : sys.formula v p = some e) :
    run sys (n+1) s v p =
      match runE sys n { s with stack := (v, p) :: s.stack } e with
      | none => none
      | some (.error er, g, s') => some (.error er, g, { s' with stack := s'.stack.tail })
      | some (.ok x, g, s') => some (.ok (sys.post v x), g,
          { s' with cache := store sys s'.cache (sys.slot (v, p)) (sys.post v x) g, stack := s'.stack.tail }) := by
  rw [run, h.miss, h.noInput, hf]; simp only [if_neg h.offStack, if_neg h.belowLimit]
  cases runE sys n { s with stack := (v, p) :: s.stack } e with
  | none => rfl
  | some t => obtain ⟨r, g, s1⟩ := t; cases r <;> rfl

theorem run_formula_error {n s v p e er g s1} (h : Fresh sys s v p) (hf : sys.formula v p = some e)
    (hr : runE sys n { s with stack := (v, p) :: s.stack } e = some (.error er, g, s1)) :
    run sys (n+1) s v p = some (.error er, g, { s1 with stack := s1.stack.tail }) := by
  rw [run_formula h hf, hr]

theorem run_formula_ok {n s v p e x g s1} (h : Fresh sys s v p) (hf : sys.formula v p = some e)
    (hr : runE sys n { s with stack := (v, p) :: s.stack } e = some (.ok x, g, s1)) :
    run sys (n+1) s v p = some (.ok (sys.post v x), g,
      { s1 with cache := store sys s1.cache (sys.slot (v, p)) (sys.post v x) g, stack := s1.stack.tail }) := by
  rw [run_formula h hf, hr]

@[simp] theorem runE_const (n : Nat) (s : St P) (c : Val) : runE sys n s (.const c) = some (.ok c, false, s) := by
  rw [runE]
@[simp] theorem runE_bad (n : Nat) (s : St P) : runE sys n s .bad = some (.error .fault, false, s) := by rw [runE]
@[simp] theorem runE_ref (n : Nat) (s : St P) (v : Nat) (p : P) : runE sys n s (.ref v p) = run sys n s v p := by
  rw [runE]

theorem runE_fail (n : Nat) (s : St P) (id : Nat) (a : Expr P) :
    runE sys n s (.fail id a) = if sys.armed id then some (.error .fault, false, s) else runE sys n s a := by
  rw [runE]

theorem runE_op1 (n : Nat) (s : St P) (o : Nat) (a : Expr P) :
    runE sys n s (.op1 o a) = (runE sys n s a).map fun t => (t.1.map (sys.f1 o), t.2) := by
  rw [runE]
  cases runE sys n s a with
  | none => rfl
  | some t => obtain ⟨r, g, s1⟩ := t; cases r <;> rfl

theorem runE_op1_some {n s o r g s'} {a : Expr P} (h : runE sys n s a = some (r, g, s')) :
    runE sys n s (.op1 o a) = some (r.map (sys.f1 o), g, s') := by
  rw [runE_op1, h]; rfl

theorem runE_op2 (n : Nat) (s : St P) (o : Nat) (a b : Expr P) :
    runE sys n s (.op2 o a b) = (runE sys n s a).bind fun ta =>
      match ta with
      | (.error e, g, s1) => some (.error e, g, s1)
      | (.ok x, g1, s1) => (runE sys n s1 b).map fun tb => (tb.1.map (sys.f2 o x), g1 || tb.2.1, tb.2.2) := by
  rw [runE]
  cases runE sys n s a with
  | none => rfl
  | some ta =>
    obtain ⟨ra, g1, s1⟩ := ta
    cases ra with
    | error e => rfl
    | ok x =>
      simp only [Option.bind_some]
      cases runE sys n s1 b with
      | none => rfl
      | some tb => obtain ⟨rb, g2, s2⟩ := tb; cases rb <;> rfl

theorem runE_op2_error {n s o er g s'} {a b : Expr P} (h : runE sys n s a = some (.error er, g, s')) :
    runE sys n s (.op2 o a b) = some (.error er, g, s') := by
  rw [runE_op2, h]; rfl

theorem runE_op2_some {n s o x g1 s1 rb g2 s2} {a b : Expr P} (ha : runE sys n s a = some (.ok x, g1, s1))
    (hb : runE sys n s1 b = some (rb, g2, s2)) :
    runE sys n s (.op2 o a b) = some (rb.map (sys.f2 o x), g1 || g2, s2) := by
  rw [runE_op2, ha, Option.bind_some]; simp only; rw [hb]; rfl

theorem run_ind (sys : Sys P) {M : Nat → St P → Nat → P → Res → Bool → St P → Prop}
    {ME : Nat → St P → Expr P → Res → Bool → St P → Prop}
    (hit : ∀ {n s v p x g}, lookup s.cache (sys.slot (v, p)) = some (x, g) → M (n+1) s v p (.ok x) g
      (if sys.slot (v, p) ∈ s.inval.map sys.slot then { s with inval := s.stack ++ s.inval } else s))
    (input : ∀ {n s v p x}, lookup s.cache (sys.slot (v, p)) = none → sys.input v p = some x →
      M (n+1) s v p (.ok x) false s)
    (cycle : ∀ {n s v p}, lookup s.cache (sys.slot (v, p)) = none → sys.input v p = none → (v, p) ∈ s.stack →
      M (n+1) s v p (.error .cycle) false s)
    (spiral : ∀ {n s v p}, lookup s.cache (sys.slot (v, p)) = none → sys.input v p = none → (v, p) ∉ s.stack →
      sys.msl ≤ (s.stack.filter (fun k => k.1 = v)).length →
      M (n+1) s v p (.ok (sys.dflt v)) true
        { s with inval := (v, p) :: markSpiral v (if sys.markAll then s.stack.length + 1 else sys.msl) s.stack ++ s.inval })
    (default : ∀ {n s v p}, Fresh sys s v p → sys.formula v p = none →
      M (n+1) s v p (.ok (sys.post v (sys.dflt v))) false
        { s with cache := store sys s.cache (sys.slot (v, p)) (sys.post v (sys.dflt v)) false })
    (formulaErr : ∀ {n s v p e er g s1}, Fresh sys s v p → sys.formula v p = some e →
      runE sys n { s with stack := (v, p) :: s.stack } e = some (.error er, g, s1) →
      ME n { s with stack := (v, p) :: s.stack } e (.error er) g s1 →
      M (n+1) s v p (.error er) g { s1 with stack := s1.stack.tail })
    (formulaOk : ∀ {n s v p e x g s1}, Fresh sys s v p → sys.formula v p = some e →
      runE sys n { s with stack := (v, p) :: s.stack } e = some (.ok x, g, s1) →
      ME n { s with stack := (v, p) :: s.stack } e (.ok x) g s1 →
      M (n+1) s v p (.ok (sys.post v x)) g
        { s1 with cache := store sys s1.cache (sys.slot (v, p)) (sys.post v x) g, stack := s1.stack.tail })
    (const : ∀ {n s c}, ME n s (.const c) (.ok c) false s)
    (bad : ∀ {n s}, ME n s .bad (.error .fault) false s)
    (ref : ∀ {n s v p r g s'}, run sys n s v p = some (r, g, s') → M n s v p r g s' → ME n s (.ref v p) r g s')
    (failArmed : ∀ {n s id a}, sys.armed id = true → ME n s (.fail id a) (.error .fault) false s)
    (failPass : ∀ {n s id a r g s'}, ¬ sys.armed id = true → runE sys n s a = some (r, g, s') → ME n s a r g s' →
      ME n s (.fail id a) r g s')
    (op1 : ∀ {n s o a r g s'}, runE sys n s a = some (r, g, s') → ME n s a r g s' →
      ME n s (.op1 o a) (r.map (sys.f1 o)) g s')
    (op2Err : ∀ {n s o a b er g s'}, runE sys n s a = some (.error er, g, s') → ME n s a (.error er) g s' →
      ME n s (.op2 o a b) (.error er) g s')
    (op2 : ∀ {n s o a b x g1 s1 rb g2 s2}, runE sys n s a = some (.ok x, g1, s1) →
      runE sys n s1 b = some (rb, g2, s2) → ME n s a (.ok x) g1 s1 → ME n s1 b rb g2 s2 →
      ME n s (.op2 o a b) (rb.map (sys.f2 o x)) (g1 || g2) s2) :
    (∀ n s v p r g s', run sys n s v p = some (r, g, s') → M n s v p r g s') ∧
    (∀ n s e r g s', runE sys n s e = some (r, g, s') → ME n s e r g s') := by
  suffices h : ∀ n, (∀ s v p r g s', run sys n s v p = some (r, g, s') → M n s v p r g s') →
      ∀ e s r g s', runE sys n s e = some (r, g, s') → ME n s e r g s' by
    have hM : ∀ n s v p r g s', run sys n s v p = some (r, g, s') → M n s v p r g s' := by
      intro n
      induction n with
      | zero => intro s v p r g s' hr; simp at hr
      | succ n ih =>
        intro s v p r g s' hr
        cases hl : lookup s.cache (sys.slot (v, p)) with
        | some xg => obtain ⟨x, gx⟩ := xg; rw [run_hit hl] at hr; cases hr; exact hit hl
        | none =>
          cases hin : sys.input v p with
          | some x => rw [run_input hl hin] at hr; cases hr; exact input hl hin
          | none =>
            by_cases hc : (v, p) ∈ s.stack
            · rw [run_cycle hl hin hc] at hr; cases hr; exact cycle hl hin hc
            by_cases hsp : sys.msl ≤ (s.stack.filter (fun k => k.1 = v)).length
            · rw [run_spiral hl hin hc hsp] at hr; cases hr; exact spiral hl hin hc hsp
            have hfr : Fresh sys s v p := ⟨hl, hin, hc, hsp⟩
            cases hf : sys.formula v p with
            | none => rw [run_default hfr hf] at hr; cases hr; exact default hfr hf
            | some e =>
              rw [run_formula hfr hf] at hr
              cases he : runE sys n { s with stack := (v, p) :: s.stack } e with
              | none => rw [he] at hr; cases hr
              | some t =>
                obtain ⟨r0, g0, s1⟩ := t
                rw [he] at hr
                cases r0 with
                | error er => cases hr; exact formulaErr hfr hf he (h n ih e _ _ _ _ he)
                | ok x => cases hr; exact formulaOk hfr hf he (h n ih e _ _ _ _ he)
    exact ⟨hM, fun n s e => h n (hM n) e s⟩
  intro n hM e
  induction e with
  | const c => intro s r g s' hr; rw [runE_const] at hr; cases hr; exact const
  | bad => intro s r g s' hr; rw [runE_bad] at hr; cases hr; exact bad
  | ref v p => intro s r g s' hr; rw [runE_ref] at hr; exact ref hr (hM s v p r g s' hr)
  | fail id a iha =>
    intro s r g s' hr
    rw [runE_fail] at hr
    by_cases harm : sys.armed id = true
    · rw [if_pos harm] at hr; cases hr; exact failArmed harm
    · rw [if_neg harm] at hr; exact failPass harm hr (iha s r g s' hr)
  | op1 o a iha =>
    intro s r g s' hr
    rw [runE_op1] at hr
    obtain ⟨⟨r0, g0, s0⟩, h0, he⟩ := Option.map_eq_some_iff.1 hr
    cases he
    exact op1 h0 (iha _ _ _ _ h0)
  | op2 o a b iha ihb =>
    intro s r g s' hr
    rw [runE_op2] at hr
    obtain ⟨⟨ra, g1, s1⟩, ha, hr⟩ := Option.bind_eq_some_iff.1 hr
    cases ra with
    | error er => cases hr; exact op2Err ha (iha _ _ _ _ ha)
    | ok x =>
      obtain ⟨⟨rb, g2, s2⟩, hb, he⟩ := Option.map_eq_some_iff.1 hr
      cases he
      exact op2 ha hb (iha _ _ _ _ ha) (ihb _ _ _ _ hb)

theorem lookup_store (sys : Sys P) (c : Cache P) (k k' : Node P) (x : Val) (g : Bool) :
    lookup (store sys c k x g) k' =
      if sys.noStore k.1 = true then lookup c k' else if k = k' then some (x, g) else lookup c k' := by
  unfold store; split <;> rfl

theorem lookup_store_ne {c : Cache P} {k k' : Node P} {x : Val} {g : Bool} (h : k ≠ k') :
    lookup (store sys c k x g) k' = lookup c k' := by
  rw [lookup_store, if_neg h, ite_self]

theorem lookup_store_some {c : Cache P} {k k' : Node P} {x : Val} {g : Bool} {e : Val × Bool}
    (h : lookup (store sys c k x g) k' = some e) : lookup c k' = some e ∨ (k = k' ∧ e = (x, g)) := by
  rw [lookup_store] at h
  split at h
  · exact .inl h
  · split at h
    · rename_i hk; cases h; exact .inr ⟨hk, rfl⟩
    · exact .inl h

theorem request_some {n s k r g s'} : request sys n s k = some (r, g, s') ↔
    ∃ s1, run sys n s k.1 k.2 = some (r, g, s1) ∧ s' = if s1.stack = [] then purge sys s1 else s1 := by
  unfold request
  cases run sys n s k.1 k.2 with
  | none => simp
  | some t =>
    obtain ⟨r1, g1, s1⟩ := t
    constructor
    · intro h; cases h; exact ⟨s1, rfl, rfl⟩
    · rintro ⟨s2, h, rfl⟩; cases h; rfl

theorem requestsF_cons_some {n} {s : St P} {st sts rs s'} : requestsF n s (st :: sts) = some (rs, s') ↔
    ∃ r g s1 rs', request st.1 n s st.2 = some (r, g, s1) ∧ requestsF n s1 sts = some (rs', s') ∧
      rs = r :: rs' := by
  rw [requestsF]
  cases request st.1 n s st.2 with
  | none => simp
  | some t =>
    obtain ⟨r, g, s1⟩ := t
    simp only
    cases hr : requestsF n s1 sts with
    | none =>
      constructor
      · intro h; cases h
      · rintro ⟨_, _, _, _, h1, h2, _⟩; cases h1; rw [hr] at h2; cases h2
    | some u =>
      obtain ⟨rs', s2⟩ := u
      constructor
      · intro h; cases h; exact ⟨r, g, s1, rs', rfl, hr, rfl⟩
      · rintro ⟨_, _, _, _, h1, h2, rfl⟩; cases h1; rw [hr] at h2; cases h2; rfl

theorem requests_eq_requestsF (sys : Sys P) (n : Nat) : ∀ (ks : List (Node P)) (s : St P),
    requests sys n s ks = requestsF n s (ks.map fun k => (sys, k))
  | [], s => rfl
  | k :: ks, s => by
    rw [requests, List.map_cons, requestsF]
    cases request sys n s k with
    | none => rfl
    | some t => obtain ⟨r, g, s1⟩ := t; simp only; rw [requests_eq_requestsF sys n ks s1]

theorem requests_cons_some {n s k ks rs s'} : requests sys n s (k :: ks) = some (rs, s') ↔
    ∃ r g s1 rs', request sys n s k = some (r, g, s1) ∧ requests sys n s1 ks = some (rs', s') ∧
      rs = r :: rs' := by
  simp only [requests_eq_requestsF, List.map_cons, requestsF_cons_some]

theorem requests_invariant (sys : Sys P) (n : Nat) (I : St P → Prop)
    (step : ∀ s k r g s1, I s → request sys n s k = some (r, g, s1) → I s1) :
    ∀ ks s rs s', I s → requests sys n s ks = some (rs, s') → I s'
  | [], s, rs, s', hI, h => by rw [requests] at h; cases h; exact hI
  | k :: ks, s, rs, s', hI, h => by
    obtain ⟨r, g, s1, rs', h1, h2, _⟩ := requests_cons_some.1 h
    exact requests_invariant sys n I step ks s1 rs' s' (step s k r g s1 hI h1) h2

end OFCore.Engine
