import OFCore.Lemmas.Heap
/-!
# The shape of a clone

`cloneSim` only ever allocates in, and writes to, the new region; every object it allocates is described here.
-/
namespace OFCore.Heap
open HM

def Ext (h1 h2 : Heap) : Prop := ∀ q x, h1.get? q = some x → h2.get? q = some x

theorem Ext.refl (h : Heap) : Ext h h := fun _ _ e => e
theorem Ext.trans {h1 h2 h3 : Heap} (a : Ext h1 h2) (b : Ext h2 h3) : Ext h1 h3 := fun q x e => b q x (a q x e)

theorem Ext.fresh {h1 h2 : Heap} (x : Ext h1 h2) {q : Id} (f : h2.get? q = none) : h1.get? q = none := by
  cases hh : h1.get? q with
  | none => rfl
  | some y => rw [x _ _ hh] at f; cases f

def Others (rc : Nat) (h1 h2 : Heap) : Prop := ∀ r, r ≠ rc → h2[r]? = h1[r]?

theorem Others.refl (rc : Nat) (h : Heap) : Others rc h h := fun _ _ => rfl
theorem Others.trans {rc : Nat} {h1 h2 h3 : Heap} (a : Others rc h1 h2) (b : Others rc h2 h3) : Others rc h1 h3 :=
  fun r hr => by rw [b r hr, a r hr]
theorem Others.get {rc : Nat} {h1 h2 : Heap} (a : Others rc h1 h2) {q : Id} (hq : q.reg ≠ rc) :
    h2.get? q = h1.get? q := get?_congr (a q.reg hq)

theorem Closed.others {rs rc : Nat} {h1 h2 : Heap} (c : Closed rs h1) (o : Others rc h1 h2) (hne : rs ≠ rc) :
    Closed rs h2 := c.congr (o rs hne).symm

def ExtX (c : Id) (h1 h2 : Heap) : Prop := ∀ q x, q ≠ c → h1.get? q = some x → h2.get? q = some x

theorem Ext.toX {h1 h2 : Heap} (x : Ext h1 h2) (c : Id) : ExtX c h1 h2 := fun q y _ e => x q y e
theorem ExtX.trans {c : Id} {h1 h2 h3 : Heap} (a : ExtX c h1 h2) (b : ExtX c h2 h3) : ExtX c h1 h3 :=
  fun q x hq e => b q x hq (a q x hq e)

/-- the six conjuncts, as the proofs below name them: `f` fresh, `g` got, `r` region, `x` `Ext`, `o` `Others`, `i` old or the new one -/
theorem new_spec {r : Nat} {o : Obj} {h h' : Heap} {p : Id} (e : new r o h = (.ok p, h')) :
    h.get? p = none ∧ h'.get? p = some o ∧ p.reg = r ∧ Ext h h' ∧ Others r h h' ∧
    (∀ q x, h'.get? q = some x → h.get? q = some x ∨ (q = p ∧ x = o)) := by
  obtain ⟨l, hl, hp, hh⟩ := new_ok e
  subst hp hh
  refine ⟨get?_fresh h r l hl, get?_push_new h r o l hl, rfl, fun q x hq => get?_push_old h r o q x hq,
    fun r' hr => push_other h r o r' hr, ?_⟩
  intro q x hq
  rcases get?_push hq with hq | ⟨l', hl', rfl, rfl⟩
  · exact Or.inl hq
  · rw [hl] at hl'; cases hl'; exact Or.inr ⟨rfl, rfl⟩

theorem wr_spec {p : Id} {o : Obj} {h h' : Heap} {rc : Nat} (hp : p.reg = rc) (e : wr p o h = (.ok (), h')) :
    h'.get? p = some o ∧ (∀ q, q ≠ p → h'.get? q = h.get? q) ∧ ExtX p h h' ∧ Others rc h h' := by
  obtain ⟨y, hy, _, hh⟩ := (wr_access p o).ok e
  subst hh hp
  exact ⟨get?_put_self h p o y hy, fun q hq => get?_put_ne h p q o hq, fun q x hq hx => (get?_put_ne h p q o hq).trans hx,
    fun r hr => put_other h p o r hr⟩

theorem newRegion_spec {h h' : Heap} {rc : Nat} (e : newRegion h = (.ok rc, h')) :
    rc = h.length ∧ Ext h h' ∧ Others rc h h' ∧ ∀ i, h'.get? ⟨rc, i⟩ = none := by
  obtain ⟨rfl, rfl⟩ : rc = h.length ∧ h' = h ++ [[]] := by
    simp only [newRegion, Prod.mk.injEq, Except.ok.injEq] at e
    exact ⟨e.1.symm, e.2.symm⟩
  refine ⟨rfl, fun q x hq => ?_, fun r hr => ?_, fun i => by simp [get?_def]⟩
  · have hlt := reg_lt_of_get? hq
    rw [get?_def, List.getElem?_append_left hlt]
    exact hq
  · rcases Nat.lt_or_ge r h.length with hlt | hge
    · rw [List.getElem?_append_left hlt]
    · have : h.length < r := Nat.lt_of_le_of_ne hge (Ne.symm hr)
      rw [List.getElem?_eq_none (by simp; omega), List.getElem?_eq_none (by omega)]

structure HolderCloned (rc : Nat) (newPop hid hid' : Id) (h1 h2 : Heap) : Prop where
  ex : ∃ ho np st mem', h1.get? hid = some (.holder ho) ∧ h1.get? newPop = some (.pop np)
      ∧ h1.get? ho.mem = some (.store st)
      ∧ h1.get? mem' = none ∧ h1.get? hid' = none ∧ mem'.reg = rc ∧ hid'.reg = rc
      ∧ h2.get? mem' = some (.store st)
      ∧ h2.get? hid' = some (.holder { ho with pop := newPop, sim := np.sim, mem := mem' })
      ∧ (∀ q x, h2.get? q = some x → h1.get? q = some x ∨ (q = mem' ∧ x = .store st)
          ∨ (q = hid' ∧ x = .holder { ho with pop := newPop, sim := np.sim, mem := mem' }))
  ext : Ext h1 h2
  others : Others rc h1 h2

theorem cloneHolder_spec {rc : Nat} {newPop hid hid' : Id} {h1 h2 : Heap}
    (e : cloneHolder rc newPop hid h1 = (.ok hid', h2)) : HolderCloned rc newPop hid hid' h1 h2 := by
  unfold cloneHolder at e
  obtain ⟨ho, hho, k1⟩ := rdHolder_bind_ok e
  obtain ⟨np, hnp, k2⟩ := rdPop_bind_ok k1
  obtain ⟨st, hst, k3⟩ := rdStore_bind_ok k2
  obtain ⟨mem', hd, e4, k4⟩ := bind_ok k3
  obtain ⟨f1, g1, r1, x1, o1, i1⟩ := new_spec e4
  obtain ⟨f2, g2, r2, x2, o2, i2⟩ := new_spec k4
  refine ⟨⟨ho, np, st, mem', hho, hnp, hst, f1, x1.fresh f2, r1, r2, x2 _ _ g1, g2, ?_⟩, x1.trans x2, o1.trans o2⟩
  intro q x hq
  rcases i2 q x hq with h | ⟨rfl, rfl⟩
  · rcases i1 q x h with h | ⟨rfl, rfl⟩
    · exact Or.inl h
    · exact Or.inr (Or.inl ⟨rfl, rfl⟩)
  · exact Or.inr (Or.inr ⟨rfl, rfl⟩)

inductive Rel₂ {α β : Type} (R : α → β → Prop) : List α → List β → Prop
  | nil : Rel₂ R [] []
  | cons {a b l l'} : R a b → Rel₂ R l l' → Rel₂ R (a :: l) (b :: l')

theorem Rel₂.imp {α β : Type} {R S : α → β → Prop} {l : List α} {l' : List β} (h : Rel₂ R l l')
    (f : ∀ a b, a ∈ l → R a b → S a b) : Rel₂ S l l' := by
  induction h with
  | nil => exact Rel₂.nil
  | cons hr _ ih =>
    exact Rel₂.cons (f _ _ (List.mem_cons_self ..) hr) (ih fun a b ha => f a b (List.mem_cons_of_mem _ ha))

theorem Rel₂.exists_left {α β : Type} {R : α → β → Prop} {l : List α} {l' : List β}
    (h : Rel₂ R l l') : ∀ b ∈ l', ∃ a ∈ l, R a b := by
  induction h with
  | nil => intro b hb; cases hb
  | cons hr _ ih =>
    intro b hb
    rcases List.mem_cons.mp hb with rfl | h'
    · exact ⟨_, List.mem_cons_self .., hr⟩
    · obtain ⟨a, ha, hab⟩ := ih b h'
      exact ⟨a, List.mem_cons_of_mem _ ha, hab⟩

theorem Rel₂.forall_right {α β : Type} {R : α → β → Prop} {P : β → Prop} {l : List α} {l' : List β}
    (h : Rel₂ R l l') (f : ∀ a b, R a b → P b) : ∀ b ∈ l', P b := fun b hb =>
  let ⟨a, _, hab⟩ := h.exists_left b hb
  f a b hab

/-- `e'` is the clone of the holder entry `e` (source read in `h1`, clone in `h2`) -/
def HolderPair (rc : Nat) (newPop : Id) (sim : Id) (h1 h2 : Heap) (e e' : Var × Id) : Prop :=
  e.1 = e'.1 ∧ ∃ ho st mem', h1.get? e.2 = some (.holder ho) ∧ h1.get? ho.mem = some (.store st)
    ∧ h2.get? e'.2 = some (.holder { ho with pop := newPop, sim := sim, mem := mem' })
    ∧ h2.get? mem' = some (.store st) ∧ mem'.reg = rc ∧ e'.2.reg = rc
    ∧ h1.get? e'.2 = none ∧ h1.get? mem' = none

theorem HolderPair.reg {rc : Nat} {newPop sim : Id} {h1 h2 : Heap} {e e' : Var × Id}
    (p : HolderPair rc newPop sim h1 h2 e e') : e'.2.reg = rc := by
  obtain ⟨_, _, _, _, _, _, _, _, _, h, _, _⟩ := p
  exact h

/-- a new object made by cloning the holders `L` -/
def HolderMade (rc : Nat) (newPop : Id) (sim : Id) (h1 : Heap) (L : List (Var × Id)) (x : Obj) : Prop :=
  (∃ st, x = .store st) ∨
  ∃ ho mem' e, e ∈ L ∧ h1.get? e.2 = some (.holder ho) ∧ mem'.reg = rc
    ∧ x = .holder { ho with pop := newPop, sim := sim, mem := mem' }

structure HoldersCloned (rc : Nat) (newPop : Id) (sim : Id) (L L' : List (Var × Id)) (h1 h2 : Heap) : Prop where
  pairs : Rel₂ (HolderPair rc newPop sim h1 h2) L L'
  origin : ∀ q x, h2.get? q = some x →
    h1.get? q = some x ∨ (q.reg = rc ∧ h1.get? q = none ∧ HolderMade rc newPop sim h1 L x)
  ext : Ext h1 h2
  others : Others rc h1 h2

theorem ne_of_fresh {h : Heap} {q c : Id} (f : h.get? q = none) (hc : ∃ y, h.get? c = some y) : q ≠ c := by
  rintro rfl
  obtain ⟨y, hy⟩ := hc
  rw [f] at hy
  cases hy

/-- the source objects read in `ha` are those of `h1` because their region is closed and untouched -/
theorem HolderPair.lift {rc rs : Nat} {newPop sim c : Id} {h1 ha hb h2 : Heap} {e e' : Var × Id}
    (p : HolderPair rc newPop sim ha hb e e') (hne : rs ≠ rc) (cl : Closed rs ha) (he : e.2.reg = rs)
    (o : Others rc h1 ha) (x1 : Ext h1 ha) (hc : ∃ y, ha.get? c = some y) (x2 : ExtX c hb h2) :
    HolderPair rc newPop sim h1 h2 e e' := by
  obtain ⟨hv, ho2, st2, m2, a1, a2, a3, a4, a5, a6, a7, a8⟩ := p
  have hm : ho2.mem.reg = rs := (cl.get he a1).mem
  rw [o.get (by rw [he]; exact hne)] at a1
  rw [o.get (by rw [hm]; exact hne)] at a2
  exact ⟨hv, ho2, st2, m2, a1, a2, x2 _ _ (ne_of_fresh a7 hc) a3, x2 _ _ (ne_of_fresh a8 hc) a4, a5, a6,
    x1.fresh a7, x1.fresh a8⟩

theorem HolderMade.lift {rc rs : Nat} {newPop sim : Id} {h1 ha : Heap} {L L' : List (Var × Id)} {x : Obj}
    (m : HolderMade rc newPop sim ha L x) (hne : rs ≠ rc) (o : Others rc h1 ha) (hL : ∀ e ∈ L, e.2.reg = rs)
    (sub : ∀ e ∈ L, e ∈ L') : HolderMade rc newPop sim h1 L' x := by
  rcases m with m | ⟨ho, mem', e, he, a1, a2, a3⟩
  · exact Or.inl m
  · rw [o.get (by rw [hL e he]; exact hne)] at a1
    exact Or.inr ⟨ho, mem', e, sub e he, a1, a2, a3⟩

theorem cloneHolders_spec {rs rc : Nat} (hne : rs ≠ rc) {newPop : Id} {np : PopObj} (L : List (Var × Id)) :
    ∀ {L' : List (Var × Id)} {h1 h2 : Heap}, Closed rs h1 → (∀ e ∈ L, e.2.reg = rs) →
      h1.get? newPop = some (.pop np) → cloneHolders rc newPop L h1 = (.ok L', h2) →
      HoldersCloned rc newPop np.sim L L' h1 h2 := by
  induction L with
  | nil =>
    intro L' h1 h2 _ _ _ e
    unfold cloneHolders at e
    obtain ⟨rfl, rfl⟩ := pure_ok e
    exact ⟨Rel₂.nil, fun q x hq => Or.inl hq, Ext.refl _, Others.refl _ _⟩
  | cons a t ih =>
    intro L' h1 h2 cl hreg hnp e
    obtain ⟨v, hid⟩ := a
    unfold cloneHolders at e
    obtain ⟨hid', ha, e1, k1⟩ := bind_ok e
    obtain ⟨t', hb, e2, k2⟩ := bind_ok k1
    obtain ⟨rfl, rfl⟩ := pure_ok k2
    have s1 := cloneHolder_spec e1
    obtain ⟨ho, np', st, mem', hho, hnp', hst, fm, fh, rm, rh, gm, gh, org⟩ := s1.ex
    rw [hnp] at hnp'
    cases hnp'
    have cla : Closed rs ha := cl.others s1.others hne
    have s2 := ih cla (fun e he => hreg e (List.mem_cons_of_mem _ he)) (s1.ext _ _ hnp) e2
    refine ⟨Rel₂.cons ?_ ?_, ?_, s1.ext.trans s2.ext, s1.others.trans s2.others⟩
    · exact ⟨rfl, ho, st, mem', hho, hst, s2.ext _ _ gh, s2.ext _ _ gm, rm, rh, fh, fm⟩
    · exact s2.pairs.imp fun e e' he hp =>
        hp.lift hne cla (hreg e (List.mem_cons_of_mem _ he)) s1.others s1.ext ⟨_, s1.ext _ _ hnp⟩
          ((Ext.refl _).toX newPop)
    · intro q x hq
      rcases s2.origin q x hq with h | ⟨hr, hf, hm⟩
      · rcases org q x h with h' | ⟨rfl, rfl⟩ | ⟨rfl, rfl⟩
        · exact Or.inl h'
        · exact Or.inr ⟨rm, fm, Or.inl ⟨_, rfl⟩⟩
        · exact Or.inr ⟨rh, fh, Or.inr ⟨ho, mem', (v, hid), List.mem_cons_self .., hho, rm, rfl⟩⟩
      · exact Or.inr ⟨hr, s1.ext.fresh hf, hm.lift hne s1.others (fun e he => hreg e (List.mem_cons_of_mem _ he))
          fun e he => List.mem_cons_of_mem _ he⟩

/-- the `members` of a cloned population: none for the persons, `simulation.persons` for a group -/
def MembersCloned (newSim : Id) (h1 : Heap) (old new : Option Id) : Prop :=
  (old = none ∧ new = none) ∨ ∃ m ns, old = some m ∧ h1.get? newSim = some (.sim ns) ∧ new = some ns.persons

theorem cloneMembers_spec {newSim : Id} {old new : Option Id} {h1 h2 : Heap}
    (e : cloneMembers newSim old h1 = (.ok new, h2)) : MembersCloned newSim h1 old new ∧ h1 = h2 := by
  cases old with
  | none =>
    unfold cloneMembers at e
    obtain ⟨rfl, rfl⟩ := pure_ok e
    exact ⟨Or.inl ⟨rfl, rfl⟩, rfl⟩
  | some m =>
    unfold cloneMembers at e
    obtain ⟨ns, hns, k1⟩ := rdSim_bind_ok e
    obtain ⟨rfl, rfl⟩ := pure_ok k1
    exact ⟨Or.inr ⟨m, ns, rfl, hns, rfl⟩, rfl⟩

/-- a new object made by cloning the population `po` into `pid'` -/
def PopMade (rc : Nat) (newSim pid' : Id) (h1 : Heap) (po : PopObj) (hs : List (Var × Id)) (members : Option Id)
    (q : Id) (x : Obj) : Prop :=
  (q = pid' ∧ x = .pop { po with sim := newSim, holders := hs, members := members })
  ∨ HolderMade rc pid' newSim h1 po.holders x

structure PopCloned (rc : Nat) (newSim pid pid' : Id) (h1 h2 : Heap) : Prop where
  ex : ∃ po hs members, h1.get? pid = some (.pop po) ∧ h1.get? pid' = none ∧ pid'.reg = rc
    ∧ MembersCloned newSim h1 po.members members
    ∧ h2.get? pid' = some (.pop { po with sim := newSim, holders := hs, members := members })
    ∧ Rel₂ (HolderPair rc pid' newSim h1 h2) po.holders hs
    ∧ ∀ q x, h2.get? q = some x →
        h1.get? q = some x ∨ (q.reg = rc ∧ h1.get? q = none ∧ PopMade rc newSim pid' h1 po hs members q x)
  ext : Ext h1 h2
  others : Others rc h1 h2

theorem clonePop_spec {rs rc : Nat} (hne : rs ≠ rc) {newSim pid pid' : Id} {h1 h2 : Heap} (cl : Closed rs h1)
    (hpid : pid.reg = rs) (e : clonePop rc newSim pid h1 = (.ok pid', h2)) : PopCloned rc newSim pid pid' h1 h2 := by
  unfold clonePop at e
  obtain ⟨po, hpo, k1⟩ := rdPop_bind_ok e
  obtain ⟨members, h0, e2, k2⟩ := bind_ok k1
  obtain ⟨hmem, eh⟩ := cloneMembers_spec e2
  subst eh
  obtain ⟨pidn, ha, e3, k3⟩ := bind_ok k2
  obtain ⟨f1, g1, r1, x1, o1, i1⟩ := new_spec e3
  obtain ⟨hs, hb, e4, k4⟩ := bind_ok k3
  have hin : InReg rs (.pop po) := cl.get hpid hpo
  have s1 := cloneHolders_spec hne (np := { po with sim := newSim, holders := [], members := members }) po.holders
    (cl.others o1 hne) (fun e he => hin.holders e he) g1 e4
  -- the placeholder is still there after the holders have been cloned
  rw [rdPop_bind_eq (s1.ext _ _ g1)] at k4
  obtain ⟨u, hd, e6, k6⟩ := bind_ok k4
  obtain ⟨rfl, rfl⟩ := pure_ok k6
  obtain ⟨gw, ow, xw, otw⟩ := wr_spec r1 e6
  refine ⟨⟨po, hs, members, hpo, f1, r1, hmem, gw, ?_, ?_⟩, ?_, o1.trans (s1.others.trans otw)⟩
  · exact s1.pairs.imp fun e e' he hp =>
      hp.lift hne (cl.others o1 hne) (hin.holders e he) o1 x1 ⟨_, g1⟩ xw
  · intro q x hq
    by_cases hqp : q = pid'
    · subst hqp
      rw [gw] at hq
      cases hq
      exact Or.inr ⟨r1, f1, Or.inl ⟨rfl, rfl⟩⟩
    · rw [ow q hqp] at hq
      rcases s1.origin q x hq with h | ⟨hr, hf, hm⟩
      · rcases i1 q x h with h' | ⟨rfl, _⟩
        · exact Or.inl h'
        · exact absurd rfl hqp
      · exact Or.inr ⟨hr, x1.fresh hf, Or.inr (hm.lift hne o1 (fun e he => hin.holders e he) fun _ he => he)⟩
  · intro q x hq
    rw [ow q (ne_of_fresh f1 ⟨x, hq⟩).symm]
    exact s1.ext _ _ (x1 _ _ hq)

def NoDisk (rs : Nat) (h : Heap) : Prop := ∀ q ho, q.reg = rs → h.get? q = some (.holder ho) → ho.disk = none

theorem NoDisk.congr {rs : Nat} {h1 h2 : Heap} (n : NoDisk rs h1) (e : h1[rs]? = h2[rs]?) : NoDisk rs h2 := by
  intro q ho hq hg
  subst hq
  exact n q ho rfl (by rw [get?_congr (p := q) e]; exact hg)

def Fine (rc : Nat) (x : Obj) : Prop := InReg rc x ∧ x.sim? = none ∧ ∀ ho, x = .holder ho → ho.disk = none

theorem HolderMade.fine {rs rc : Nat} {newPop sim : Id} {h1 : Heap} {L : List (Var × Id)} {x : Obj}
    (m : HolderMade rc newPop sim h1 L x) (hp : newPop.reg = rc) (hs : sim.reg = rc) (hL : ∀ e ∈ L, e.2.reg = rs)
    (nd : NoDisk rs h1) : Fine rc x := by
  rcases m with ⟨st, rfl⟩ | ⟨ho, mem', e, he, hg, hm, rfl⟩
  · exact ⟨trivial, rfl, fun _ e => by cases e⟩
  · have hd0 : ho.disk = none := nd e.2 ho (hL e he) hg
    refine ⟨⟨hp, hs, hm, fun d hd => ?_⟩, rfl, fun ho2 e2 => ?_⟩
    · rw [hd0] at hd
      cases hd
    · cases e2
      exact hd0

/-- every object of `h2` is one of `h1` or is new, in region `rc`; a new object is `Fine` (refers only to the new region)
    when no source holder has an on-disk storage, hence the implication -/
def Origin (rs rc : Nat) (h1 h2 : Heap) : Prop :=
  ∀ q x, h2.get? q = some x → h1.get? q = some x ∨ (q.reg = rc ∧ h1.get? q = none ∧ (NoDisk rs h1 → Fine rc x))

theorem Origin.refl (rs rc : Nat) (h : Heap) : Origin rs rc h h := fun _ _ e => Or.inl e

theorem Origin.trans {rs rc : Nat} {h1 h2 h3 : Heap} (a : Origin rs rc h1 h2) (b : Origin rs rc h2 h3)
    (x : Ext h1 h2) (o : Others rc h1 h2) (hne : rs ≠ rc) : Origin rs rc h1 h3 := by
  intro q y hq
  rcases b q y hq with h | ⟨hr, hf, hg⟩
  · exact a q y h
  · exact Or.inr ⟨hr, x.fresh hf, fun nd => hg (nd.congr (o rs hne).symm)⟩

/-- `e'` is the clone of the population entry `e` -/
def PopPair (rc : Nat) (newSim persons' : Id) (h1 h2 : Heap) (e e' : Nat × Id) : Prop :=
  e.1 = e'.1 ∧ ∃ po hs members, h1.get? e.2 = some (.pop po) ∧ e'.2.reg = rc ∧ h1.get? e'.2 = none
    ∧ ((po.members = none ∧ members = none) ∨ (∃ m, po.members = some m ∧ members = some persons'))
    ∧ h2.get? e'.2 = some (.pop { po with sim := newSim, holders := hs, members := members })
    ∧ Rel₂ (HolderPair rc e'.2 newSim h1 h2) po.holders hs

theorem PopPair.reg {rc : Nat} {newSim persons' : Id} {h1 h2 : Heap} {e e' : Nat × Id}
    (p : PopPair rc newSim persons' h1 h2 e e') : e'.2.reg = rc := by
  obtain ⟨_, _, _, _, _, h, _⟩ := p
  exact h

theorem PopPair.owned {rc : Nat} {newSim persons' : Id} {h1 h2 : Heap} {e e' : Nat × Id}
    (p : PopPair rc newSim persons' h1 h2 e e') :
    ∃ po, h2.get? e'.2 = some (.pop po) ∧ e'.2.reg = rc ∧ po.sim = newSim
      ∧ (∀ m, po.members = some m → m = persons')
      ∧ ∀ x ∈ po.holders, ∃ ho, h2.get? x.2 = some (.holder ho) ∧ x.2.reg = rc
          ∧ ho.pop = e'.2 ∧ ho.sim = newSim ∧ ho.mem.reg = rc := by
  obtain ⟨_, po, hs, members, _, b2, _, b4, b5, b6⟩ := p
  refine ⟨_, b5, b2, rfl, fun m hm => ?_, b6.forall_right fun a b hab => ?_⟩
  · rcases b4 with ⟨_, h2⟩ | ⟨m0, _, h2⟩
    · simp only [h2] at hm; cases hm
    · simp only [h2] at hm; cases hm; rfl
  · obtain ⟨_, ho, st, mem', _, _, c3, _, c5, c6, _, _⟩ := hab
    exact ⟨_, c3, c6, rfl, rfl, c5⟩

theorem PopCloned.pair {rc : Nat} {newSim pid pid' : Id} {h1 h2 : Heap} {ns : SimObj}
    (p : PopCloned rc newSim pid pid' h1 h2) (k : Nat) (hns : h1.get? newSim = some (.sim ns)) :
    PopPair rc newSim ns.persons h1 h2 (k, pid) (k, pid') := by
  obtain ⟨po, hs, members, a1, a2, a3, a4, a5, a6, _⟩ := p.ex
  refine ⟨rfl, po, hs, members, a1, a3, a2, ?_, a5, a6⟩
  rcases a4 with h | ⟨m, ns', h1', h2', h3'⟩
  · exact Or.inl h
  · rw [hns] at h2'
    cases h2'
    exact Or.inr ⟨m, h1', h3'⟩

theorem PopCloned.origin {rs rc : Nat} {newSim pid pid' : Id} {h1 h2 : Heap} {ns : SimObj}
    (p : PopCloned rc newSim pid pid' h1 h2) (cl : Closed rs h1) (hpid : pid.reg = rs)
    (hns : h1.get? newSim = some (.sim ns)) (hsim : newSim.reg = rc)
    (hpers : ∀ po m, h1.get? pid = some (.pop po) → po.members = some m → ns.persons.reg = rc) :
    Origin rs rc h1 h2 := by
  obtain ⟨po, hs, members, a1, a2, a3, a4, a5, a6, a7⟩ := p.ex
  have hin : InReg rs (.pop po) := cl.get hpid a1
  intro q x hq
  rcases a7 q x hq with h | ⟨hr, hf, hm⟩
  · exact Or.inl h
  · refine Or.inr ⟨hr, hf, fun nd => ?_⟩
    rcases hm with ⟨rfl, rfl⟩ | hm
    · refine ⟨⟨hsim, ?_, ?_⟩, rfl, fun _ e => by cases e⟩
      · exact a6.forall_right fun _ _ hp => hp.reg
      · intro m hm
        rcases a4 with ⟨_, h2'⟩ | ⟨m0, ns', _, h2', h3'⟩
        · rw [h2'] at hm; cases hm
        · rw [hns] at h2'
          cases h2'
          rw [h3'] at hm
          cases hm
          exact hpers po m0 a1 ‹_›
    · exact hm.fine a3 hsim (fun e he => hin.holders e he) nd

structure GroupsCloned (rs rc : Nat) (newSim persons' : Id) (G G' : List (Nat × Id)) (h1 h2 : Heap) : Prop where
  pairs : Rel₂ (PopPair rc newSim persons' h1 h2) G G'
  origin : Origin rs rc h1 h2
  ext : Ext h1 h2
  others : Others rc h1 h2

theorem PopPair.lift {rc rs : Nat} {newSim persons' c : Id} {h1 ha hb h2 : Heap} {e e' : Nat × Id}
    (p : PopPair rc newSim persons' ha hb e e') (hne : rs ≠ rc) (cl : Closed rs ha) (he : e.2.reg = rs)
    (o : Others rc h1 ha) (x1 : Ext h1 ha) (hc : ∃ y, ha.get? c = some y) (x2 : ExtX c hb h2) :
    PopPair rc newSim persons' h1 h2 e e' := by
  obtain ⟨hk, po, hs, members, a1, a2, a3, a4, a5, a6⟩ := p
  have hin : InReg rs (.pop po) := cl.get he a1
  rw [o.get (by rw [he]; exact hne)] at a1
  exact ⟨hk, po, hs, members, a1, a2, x1.fresh a3, a4, x2 _ _ (ne_of_fresh a3 hc) a5,
    a6.imp fun a b ha hp => hp.lift hne cl (hin.holders a ha) o x1 hc x2⟩

theorem cloneGroups_spec {rs rc : Nat} (hne : rs ≠ rc) {newSim : Id} {ns : SimObj} (hsim : newSim.reg = rc)
    (hpers : ns.persons.reg = rc) (G : List (Nat × Id)) :
    ∀ {G' : List (Nat × Id)} {h1 h2 : Heap}, Closed rs h1 → (∀ e ∈ G, e.2.reg = rs) →
      h1.get? newSim = some (.sim ns) → cloneGroups rc newSim G h1 = (.ok G', h2) →
      GroupsCloned rs rc newSim ns.persons G G' h1 h2 := by
  induction G with
  | nil =>
    intro G' h1 h2 _ _ _ e
    unfold cloneGroups at e
    obtain ⟨rfl, rfl⟩ := pure_ok e
    exact ⟨Rel₂.nil, Origin.refl _ _ _, Ext.refl _, Others.refl _ _⟩
  | cons a t ih =>
    intro G' h1 h2 cl hreg hns e
    obtain ⟨k, pid⟩ := a
    unfold cloneGroups at e
    obtain ⟨pid', ha, e1, k1⟩ := bind_ok e
    obtain ⟨t', hb, e2, k2⟩ := bind_ok k1
    obtain ⟨rfl, rfl⟩ := pure_ok k2
    have hpid : pid.reg = rs := hreg (k, pid) (List.mem_cons_self ..)
    have s1 := clonePop_spec hne cl hpid e1
    have cla : Closed rs ha := cl.others s1.others hne
    have s2 := ih cla (fun e he => hreg e (List.mem_cons_of_mem _ he)) (s1.ext _ _ hns) e2
    refine ⟨Rel₂.cons ?_ ?_, ?_, s1.ext.trans s2.ext, s1.others.trans s2.others⟩
    · exact (s1.pair k hns).lift hne cl hpid (Others.refl _ _) (Ext.refl _) ⟨_, hns⟩ (s2.ext.toX newSim)
    · exact s2.pairs.imp fun a b ha' hp =>
        hp.lift hne cla (hreg a (List.mem_cons_of_mem _ ha')) s1.others s1.ext ⟨_, s1.ext _ _ hns⟩
          ((Ext.refl _).toX newSim)
    · exact (s1.origin cl hpid hns hsim fun _ _ _ _ => hpers).trans s2.origin s1.ext s1.others hne

theorem Others.length_succ {h h' : Heap} (o : Others h.length h h') {p : Id} {x : Obj} (hp : h'.get? p = some x)
    (hr : p.reg = h.length) : h'.length = h.length + 1 := by
  have hlt := reg_lt_of_get? hp
  rw [hr] at hlt
  have hnone : h'[h.length + 1]? = none := by
    rw [o (h.length + 1) (by omega)]
    exact List.getElem?_eq_none (by omega)
  have hge : h'.length ≤ h.length + 1 := List.getElem?_eq_none_iff.mp hnone
  omega

structure SimCloned (s c : Id) (tr dbg : Bool) (h h' : Heap) : Prop where
  reg : c.reg = h.length
  lt : s.reg < h.length
  others : Others h.length h h'
  ex : ∃ so persons' groups' trc inv,
    h.get? s = some (.sim so)
    ∧ h'.get? c = some (.sim { so with persons := persons', pops := (0, persons') :: groups', tracer := trc,
                                       inval := inv, trace := tr, debug := dbg })
    ∧ trc.reg = c.reg ∧ inv.reg = c.reg
    ∧ h'.get? trc = some (.tracer ⟨tr, [], []⟩) ∧ h'.get? inv = some (.inval [])
    ∧ PopPair c.reg c so.persons h h' (0, so.persons) (0, persons')
    ∧ Rel₂ (PopPair c.reg c persons' h h') (so.pops.filter (fun e => e.1 ≠ 0)) groups'
    ∧ (NoDisk s.reg h → so.dir = none →
        (∀ po m, h.get? so.persons = some (.pop po) → po.members = some m → False) →
        ∀ i x, h'.get? ⟨c.reg, i⟩ = some x → InReg c.reg x ∧ ((⟨c.reg, i⟩ : Id) ≠ c →
          x.sim? = none ∧ ∀ ho, x = .holder ho → ho.disk = none))

theorem SimCloned.older {s c : Id} {tr dbg : Bool} {h h' : Heap} (sc : SimCloned s c tr dbg h h') {r : Nat}
    (hr : r < h.length) : h[r]? = h'[r]? := (sc.others r (Nat.ne_of_lt hr)).symm

theorem cloneSim_spec {s c : Id} {tr dbg : Bool} {h h' : Heap} (cl : Closed s.reg h)
    (e : cloneSim s tr dbg h = (.ok c, h')) : SimCloned s c tr dbg h h' := by
  /- The heaps in order: `h`, `h0` (the new region opened), `ha` (`c` allocated), `hb` (its invalidated set), `hc` (persons cloned),
  `hd` (`c` assigned), `he` (groups cloned), `hf` (tracer), `hg = h'` (`c` assigned); the source region stays closed. -/
  unfold cloneSim at e
  obtain ⟨so, hso, k1⟩ := rdSim_bind_ok e
  obtain ⟨rc, h0, e2, k2⟩ := bind_ok k1
  obtain ⟨rfl, x0, o0, z0⟩ := newRegion_spec e2
  have hlt : s.reg < h.length := reg_lt_of_get? hso
  have hne : s.reg ≠ h.length := Nat.ne_of_lt hlt
  have hin : InReg s.reg (.sim so) := cl.get rfl hso
  obtain ⟨c', ha, e3, k3⟩ := bind_ok k2
  obtain ⟨f3, g3, r3, x3, o3, i3⟩ := new_spec e3
  obtain ⟨inv, hb, e4, k4⟩ := bind_ok k3
  obtain ⟨f4, g4, r4, x4, o4, i4⟩ := new_spec e4
  obtain ⟨persons', hc, e5, k5⟩ := bind_ok k4
  have ohb : Others h.length h hb := o0.trans (o3.trans o4)
  have xhb : Ext h hb := x0.trans (x3.trans x4)
  have clb : Closed s.reg hb := cl.others ohb hne
  have hcb : hb.get? c' = some (.sim so) := x4 _ _ g3
  have s5 := clonePop_spec hne clb hin.persons e5
  rw [rdSim_bind_eq (s5.ext _ _ hcb)] at k5
  obtain ⟨u7, hd, e7, k7⟩ := bind_ok k5
  obtain ⟨g7, ow7, xw7, ot7⟩ := wr_spec r3 e7
  obtain ⟨groups', he, e8, k8⟩ := bind_ok k7
  have ohd : Others h.length h hd := ohb.trans (s5.others.trans ot7)
  have cld : Closed s.reg hd := cl.others ohd hne
  obtain ⟨po5, hs5, mem5, p1, p2, p3, p4, p5, p6, p7⟩ := s5.ex
  have s8 := cloneGroups_spec hne (ns := { so with persons := persons', inval := inv }) r3 p3
    (so.pops.filter (fun e => e.1 ≠ 0)) cld
    (fun e he' => hin.pops e (List.mem_filter.mp he').1) g7 e8
  obtain ⟨trc, hf, e9, k9⟩ := bind_ok k8
  obtain ⟨f9, g9, r9, x9, o9, i9⟩ := new_spec e9
  rw [rdSim_bind_eq (x9 _ _ (s8.ext _ _ g7))] at k9
  obtain ⟨u11, hg, e11, k11⟩ := bind_ok k9
  obtain ⟨rfl, rfl⟩ := pure_ok k11
  obtain ⟨g11, ow11, xw11, ot11⟩ := wr_spec r3 e11
  have xcg : ExtX c hc hg := xw7.trans ((s8.ext.trans x9).toX c |>.trans xw11)
  have xdg : ExtX c he hg := (x9.toX c).trans xw11
  have xhd : Ext h hd := fun q x hq => by
    rw [ow7 q (ne_of_fresh f3 ⟨x, x0 _ _ hq⟩).symm]
    exact s5.ext _ _ (xhb _ _ hq)
  have others : Others h.length h hg := ohd.trans (s8.others.trans (o9.trans ot11))
  refine ⟨r3, hlt, others, so, persons', groups', trc, inv, hso, g11, r9.trans r3.symm, r4.trans r3.symm,
    ?_, ?_, ?_, ?_, ?_⟩
  · rw [ow11 trc (ne_of_fresh f9 ⟨_, s8.ext _ _ g7⟩)]
    exact g9
  · have : inv ≠ c := ne_of_fresh f4 ⟨_, g3⟩
    exact xcg _ _ this (s5.ext _ _ g4)
  · rw [r3]
    exact (s5.pair 0 hcb).lift hne clb hin.persons ohb xhb ⟨_, hcb⟩ xcg
  · rw [r3]
    exact s8.pairs.imp fun a b ha' hp =>
      hp.lift hne cld (hin.pops a (List.mem_filter.mp ha').1) ohd xhd ⟨_, g7⟩ xdg
  · intro nd hdir hplain
    rw [r3]
    intro i x hx
    by_cases hqc : (⟨h.length, i⟩ : Id) = c
    · rw [hqc, g11] at hx
      cases hx
      refine ⟨⟨p3, ?_, r9, r4, fun d hd' => ?_⟩, fun hne' => absurd hqc hne'⟩
      · intro e' he'
        rcases List.mem_cons.mp he' with rfl | h'
        · exact p3
        · exact s8.pairs.forall_right (fun _ _ hp => hp.reg) e' h'
      · simp only [hdir] at hd'
        cases hd'
    · rw [ow11 _ hqc] at hx
      rcases i9 _ _ hx with hx | ⟨_, rfl⟩
      · rcases s8.origin _ _ hx with hx | ⟨_, _, hgood⟩
        · rw [ow7 _ hqc] at hx
          rcases (s5.origin clb hin.persons hcb r3 fun po m hpo hm => by
              rw [ohb.get (by rw [hin.persons]; exact hne)] at hpo
              exact (hplain po m hpo hm).elim) _ _ hx with hx | ⟨_, _, hgood⟩
          · rcases i4 _ _ hx with hx | ⟨_, rfl⟩
            · rcases i3 _ _ hx with hx | ⟨hq, _⟩
              · rw [z0] at hx; cases hx
              · exact absurd hq hqc
            · exact ⟨trivial, fun _ => ⟨rfl, fun _ e => by cases e⟩⟩
          · have g := hgood (nd.congr (ohb _ hne).symm)
            exact ⟨g.1, fun _ => g.2⟩
        · have g := hgood (nd.congr (ohd _ hne).symm)
          exact ⟨g.1, fun _ => g.2⟩
      · exact ⟨trivial, fun _ => ⟨rfl, fun _ e => by cases e⟩⟩

end OFCore.Heap
