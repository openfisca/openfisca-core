import OFCore.Lemmas.HeapCalls
/-!
# `Loc r m Q` is `LocI` with no invariant beyond closedness; `createDisk` may then give any storage of the region, and every
public call has it.
-/
namespace OFCore.Heap
open HM

structure Loc {α : Type} (r : Nat) (m : HM α) (Q : α → Prop) : Prop where
  frame : ∀ h, Closed r h →
    Closed r (m h).2 ∧ (∀ r', r' ≠ r → (m h).2[r']? = h[r']?) ∧ (∀ a, (m h).1 = .ok a → Q a)
  loc : ∀ h1 h2, Closed r h1 → h1[r]? = h2[r]? → (m h2).1 = (m h1).1 ∧ (m h2).2[r]? = (m h1).2[r]?
  len : ∀ h, Closed r h → (m h).2.length = h.length

theorem Loc.mono {α : Type} {r : Nat} {m : HM α} {Q Q' : α → Prop} (l : Loc r m Q) (hq : ∀ a, Q a → Q' a) :
    Loc r m Q' :=
  ⟨fun h c => ⟨(l.frame h c).1, (l.frame h c).2.1, fun a e => hq a ((l.frame h c).2.2 a e)⟩, l.loc, l.len⟩

theorem Loc.closed {α : Type} {r r' : Nat} {m : HM α} {Q : α → Prop} (l : Loc r m Q) {h : Heap} (c : Closed r h)
    (c' : Closed r' h) : Closed r' (m h).2 := by
  by_cases e : r' = r
  · exact e ▸ (l.frame h c).1
  · exact c'.congr ((l.frame h c).2.1 r' e).symm

theorem LocI.toLoc {α : Type} {r : Nat} {m : HM α} {Q : α → Prop} (l : LocI (fun _ => True) r m Q) : Loc r m Q :=
  ⟨fun h c => ⟨(l.frame h c trivial).1, (l.frame h c trivial).2.2⟩, fun h1 h2 c e => l.loc h1 h2 c trivial e,
    fun h c => l.len h c trivial⟩

theorem Loc.toLocI {α : Type} {r : Nat} {m : HM α} {Q : α → Prop} (l : Loc r m Q) : LocI (fun _ => True) r m Q :=
  ⟨fun h c _ => ⟨(l.frame h c).1, trivial, (l.frame h c).2⟩, fun h1 h2 c _ e => l.loc h1 h2 c e, fun h c _ => l.len h c⟩

theorem Loc.bind {α β : Type} {r : Nat} {m : HM α} {f : α → HM β} {Q : α → Prop} {Q' : β → Prop}
    (lm : Loc r m Q) (lf : ∀ a, Q a → Loc r (f a) Q') : Loc r (m >>= f) Q' :=
  (lm.toLocI.bind fun a q => (lf a q).toLocI).toLoc

theorem Stable.true (r : Nat) : Stable r (fun _ => True) (fun d => ∀ x, d = some x → x.reg = r) :=
  ⟨id, fun _ _ _ => trivial, fun _ _ _ _ => trivial⟩

theorem dataStorageDir_local {r : Nat} {sid : Id} (hs : sid.reg = r) :
    LocI (fun _ => True) r (dataStorageDir r sid) (fun d => d.reg = r) := by
  unfold Heap.dataStorageDir
  refine LocI.bind (LocI.rdSim hs) fun so hso => ?_
  cases hsd : so.dir with
  | some d => exact LocI.pure _ (hso.dir d hsd)
  | none =>
    refine LocI.bind (LocI.new (Stable.true r) trivial rfl rfl (fun _ e => by cases e)) fun d hd => ?_
    -- the one assignment that is not `Kept`: the directory changes
    refine LocI.bind (LocI.ofAccess (updSim_access sid _) hs (fun old _ e hin => ?_) (fun _ _ _ _ _ _ => trivial)
      (Q := fun _ => True) (fun _ _ _ _ _ _ _ => trivial)) fun _ _ => LocI.pure _ hd
    cases old <;> cases e
    exact ⟨hin.persons, hin.pops, hin.tracer, hin.inval, fun x e => by cases e; exact hd⟩

theorem createDisk_local {r : Nat} {sid : Id} (hs : sid.reg = r) (v : Var) (eternal : Bool) :
    LocI (fun _ => True) r (createDisk r sid v eternal) (fun (d : Option Id) => ∀ x : Id, d = some x → x.reg = r) := by
  unfold Heap.createDisk
  refine LocI.bind (LocI.rdSim hs) fun so hso => ?_
  cases hmc : so.memConfig with
  | none => exact LocI.pure _ (fun _ e => by cases e)
  | some mc =>
    refine LocI.ite (fun _ => LocI.pure _ (fun _ e => by cases e)) (fun _ => ?_)
    refine LocI.bind (dataStorageDir_local hs) fun dirId hdir => ?_
    refine LocI.bind (LocI.new (Stable.true r) hdir rfl rfl (fun _ e => by cases e)) fun did hdid => ?_
    exact LocI.pure _ (fun x e => by cases e; exact hdid)

theorem Loc.setInput {r : Nat} (sys : Sys) {x : Id} (hx : x.reg = r) (v : Var) (p : Period) (a : Vec) :
    Loc r (setInput sys x v p a) (fun _ => True) :=
  (LocI.setInput (Stable.true r) createDisk_local sys hx v p a).toLoc

theorem Loc.deleteArrays {r : Nat} (sys : Sys) {x : Id} (hx : x.reg = r) (v : Var) (p : Option Period) :
    Loc r (deleteArrays sys x v p) (fun _ => True) :=
  (LocI.deleteArrays (Stable.true r) createDisk_local sys hx v p).toLoc

theorem Loc.calcAdd {r : Nat} (sys : Sys) (n : Nat) {x : Id} (hx : x.reg = r) (v : Var) (p : Period) :
    Loc r (calcAdd sys n x v p) (fun _ => True) :=
  (LocI.calcAdd (Stable.true r) createDisk_local sys n hx v p).toLoc

theorem step_loc {r : Nat} (sys : Sys) (fuel : Nat) {x : Id} (hx : x.reg = r) (op : Op) :
    Loc r (step sys fuel x op) (fun _ => True) :=
  (LocI.step (Stable.true r) createDisk_local sys fuel hx op).toLoc

theorem Loc.observe {r : Nat} {x : Id} (hx : x.reg = r) : Loc r (observe x) (fun _ => True) := (LocI.observe hx).toLoc

end OFCore.Heap
