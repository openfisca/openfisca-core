import OFCore.Lemmas.EngineRanked
/-!
# Variable-ranked systems always have a meaning: `rk v + 1` units of fuel suffice
-/
namespace OFCore.Engine

variable {P : Type}

theorem denE_total (sys : Sys P) (n : Nat) : ∀ (e : Expr P),
    (∀ k ∈ refs e, ∃ r, den sys n k.1 k.2 = some r) → ∃ r, denE sys n e = some r
  | .const c, _ => ⟨_, denE_const ..⟩
  | .bad, _ => ⟨_, denE_bad ..⟩
  | .ref v p, h => by rw [denE_ref]; exact h (v, p) List.mem_cons_self
  | .fail id a, h => by
    rw [denE_fail]
    split
    · exact ⟨_, rfl⟩
    · exact denE_total sys n a h
  | .op1 o a, h => by
    obtain ⟨r, hr⟩ := denE_total sys n a h
    exact ⟨_, denE_op1_some hr⟩
  | .op2 o a b, h => by
    obtain ⟨ra, hra⟩ := denE_total sys n a (fun k hk => h k (List.mem_append_left _ hk))
    obtain ⟨rb, hrb⟩ := denE_total sys n b (fun k hk => h k (List.mem_append_right _ hk))
    cases ra with
    | error e => exact ⟨_, denE_op2_error hra⟩
    | ok x => exact ⟨_, denE_op2_some hra hrb⟩

theorem den_total (sys : Sys P) (rk : Nat → Nat) (hr : VarRanked sys rk) :
    ∀ (m : Nat) (v : Nat) (p : P), rk v ≤ m → ∃ r, den sys (m + 1) v p = some r := by
  intro m
  induction m using Nat.strongRecOn with
  | _ m ih =>
    intro v p hv
    cases hin : sys.input v p with
    | some x => exact ⟨_, den_input hin⟩
    | none =>
      cases hf : sys.formula v p with
      | none => exact ⟨_, den_default hin hf⟩
      | some e =>
        have hrefs : ∀ k ∈ refs e, ∃ r, den sys m k.1 k.2 = some r := by
          intro k hk
          have hlt := hr v p e hf k hk
          cases m with
          | zero => omega
          | succ m' => exact ih m' (Nat.lt_succ_self m') k.1 k.2 (by omega)
        obtain ⟨r, hre⟩ := denE_total sys m e hrefs
        exact ⟨_, den_formula_some hin hf hre⟩

end OFCore.Engine
