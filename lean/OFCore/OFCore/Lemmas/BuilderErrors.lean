import OFCore.Lemmas.BuilderFolds
/-!
The error class of the entity phase: `NoOther x` — `x` is not refused with an ordinary exception —, and `Answers P x`,
which adds what `x` answers, so that one walk through a function of the phase gives both.
-/

namespace OFCore.Bld

variable {α β σ : Type}

def NoOther {α : Type} (x : R α) : Prop := ∀ e, x = .error e → e ≠ .other

theorem NoOther.ok (a : α) : NoOther (.ok a : R α) := fun _ h => by cases h

theorem NoOther.of_error {e : BErr} (h : e ≠ .other) : NoOther (.error e : R α) :=
  fun _ h' => by cases h'; exact h

theorem NoOther.situation : NoOther (.error .situation : R α) := .of_error (by decide)

theorem NoOther.unmodelled : NoOther (.error .unmodelled : R α) := .of_error (by decide)

theorem NoOther.map {x : R α} (f : α → β) (h : NoOther x) : NoOther (x.map f) := by
  cases x with
  | error e => exact .of_error (h e rfl)
  | ok a => exact .ok _

theorem NoOther.mapE {f : α → R β} (hf : ∀ x, NoOther (f x)) (l : List α) : NoOther (mapE f l) :=
  fun _ => mapE_error (· ≠ .other) hf

theorem NoOther.foldE {f : σ → α → R σ} {l : List α} (hf : ∀ s, ∀ x ∈ l, NoOther (f s x)) (s : σ) :
    NoOther (foldE f s l) := fun _ => foldE_error (· ≠ .other) hf

def Answers {α : Type} (P : α → Prop) (x : R α) : Prop := NoOther x ∧ ∀ a, x = .ok a → P a

theorem Answers.ok {P : α → Prop} {a : α} (h : P a) : Answers P (.ok a) :=
  ⟨.ok a, fun _ e => by cases e; exact h⟩

theorem Answers.error {P : α → Prop} {e : BErr} (h : e ≠ .other) : Answers P (.error e) :=
  ⟨.of_error h, nofun⟩

theorem Answers.noOther {P : α → Prop} {x : R α} (h : Answers P x) : NoOther x := h.1

theorem Answers.of_ok {P : α → Prop} {x : R α} (h : Answers P x) {a : α} (hx : x = .ok a) : P a := h.2 a hx

theorem Answers.map {P : β → Prop} {x : R α} (f : α → β) (h : Answers (fun a => P (f a)) x) :
    Answers P (x.map f) := by
  cases x with
  | error e => exact .error (h.1 e rfl)
  | ok a => exact .ok (h.2 a rfl)

theorem numOfText_noOther (s : String) : NoOther (numOfText s) := by
  unfold numOfText
  simp only
  repeat' split
  all_goals simp only [NoOther.ok, NoOther.situation, NoOther.unmodelled]

theorem dateOfText_noOther (s : String) : NoOther (dateOfText s) := by
  unfold dateOfText
  simp only
  repeat' split
  all_goals simp only [NoOther.ok, NoOther.situation, NoOther.unmodelled]

theorem listAsScalar_noOther (xs : List Doc) : NoOther (listAsScalar xs) := by
  unfold listAsScalar
  split <;> simp only [NoOther.situation, NoOther.unmodelled]

theorem checkSetValue_noOther (var : Var) (d : Doc) : NoOther (checkSetValue var d) := by
  unfold checkSetValue
  -- the table, then the range tests inside its arms
  split <;> (try split) <;> (try split)
  all_goals first
    | simp only [NoOther.ok, NoOther.situation, NoOther.unmodelled, NoOther.map, numOfText_noOther,
        dateOfText_noOther, listAsScalar_noOther]
    | exact .of_error (numOfText_noOther _ _ ‹_›)

end OFCore.Bld
