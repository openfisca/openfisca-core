import OFCore.Lemmas.BuilderErrors
/-!
The entity phase of the situation builder: the buffer is a replay of writes in which the last write to a slot wins, and a
declared value is the last write of its site (`instanceWrites_decl`, `entity_value_placed`).  One walk per function the
properties read, `f_spec` (`Answers`: no ordinary exception, and what a success went through).  `add_group_entity` alone
is walked twice: for the class in `groupsStep_noOther`, for what a success went through in `groupLoop_ok` (its loop) and
`addGroupEntity_built` (`BuilderGroup`).  Last, the relations between documents that differ in the spelling of period keys
(`PairEq` … `TopEq`).
-/

namespace OFCore.Bld

variable {α : Type} {sys : Sys} {dp : Option String} {entKey : String}

def Write.cell (w : Write) : String × List Char := (w.var, w.key)

theorem Write.cell_eq_iff {w : Write} {v : String} {k : List Char} : w.cell = (v, k) ↔ w.var = v ∧ w.key = k :=
  Iff.of_eq (Prod.mk.injEq ..)

theorem alGet_applyWrite (buf : Buffer) (w : Write) (k : String × List Char) :
    alGet (applyWrite buf w) k =
      if k = w.cell then some (((alGet buf w.cell).getD (List.replicate w.size w.dflt)).set w.idx w.val)
      else alGet buf k := by
  unfold applyWrite Write.cell
  rw [alGet_alSet]

theorem applyWrites_nil (buf : Buffer) : applyWrites buf [] = buf := rfl

theorem applyWrites_cons (buf : Buffer) (w : Write) (ws : List Write) :
    applyWrites buf (w :: ws) = applyWrites (applyWrite buf w) ws := rfl

theorem applyWrites_append (buf : Buffer) (ws₁ ws₂ : List Write) :
    applyWrites buf (ws₁ ++ ws₂) = applyWrites (applyWrites buf ws₁) ws₂ := by
  unfold applyWrites; rw [List.foldl_append]

theorem applyWrites_inv (k : String × List Char) (P : Option Vec → Prop) (ws : List Write) (buf : Buffer)
    (hstep : ∀ w ∈ ws, ∀ o, P o → w.cell = k →
      P (some ((o.getD (List.replicate w.size w.dflt)).set w.idx w.val)))
    (h0 : P (alGet buf k)) : P (alGet (applyWrites buf ws) k) := by
  refine foldl_inv applyWrite (fun b => P (alGet b k)) ws buf ?_ h0
  intro b w hw hb
  show P (alGet (applyWrite b w) k)
  rw [alGet_applyWrite]
  by_cases hk : k = w.cell
  · rw [if_pos hk, ← hk]; exact hstep w hw _ hb hk.symm
  · rw [if_neg hk]; exact hb

theorem alGet_applyWrites_frame (k : String × List Char) (ws : List Write) (buf : Buffer)
    (h : ∀ w ∈ ws, w.cell ≠ k) : alGet (applyWrites buf ws) k = alGet buf k :=
  applyWrites_inv k (fun o => o = alGet buf k) ws buf (fun w hw _ _ hc => absurd hc (h w hw)) rfl

def SizedFor (k : String × List Char) (n : Nat) (ws : List Write) : Prop :=
  ∀ w ∈ ws, w.cell = k → w.size = n

theorem applyWrites_length (k : String × List Char) (n : Nat) (ws : List Write) (buf : Buffer)
    (hs : SizedFor k n ws) (hb : ∀ a, alGet buf k = some a → a.length = n) :
    ∀ a, alGet (applyWrites buf ws) k = some a → a.length = n := by
  refine applyWrites_inv k (fun o => ∀ a, o = some a → a.length = n) ws buf ?_ hb
  intro w hw o ho hc a ha
  cases ha
  rw [List.length_set]
  cases o with
  | none => rw [Option.getD_none, List.length_replicate]; exact hs w hw hc
  | some a₀ => exact ho a₀ rfl

theorem applyWrites_keeps (k : String × List Char) (n i : Nat) (x : Val) (ws : List Write) (buf : Buffer)
    (hno : ∀ w ∈ ws, ¬ (w.cell = k ∧ w.idx = i))
    (h : ∃ a, alGet buf k = some a ∧ a.length = n ∧ a[i]? = some x) :
    ∃ a, alGet (applyWrites buf ws) k = some a ∧ a.length = n ∧ a[i]? = some x := by
  refine applyWrites_inv k (fun o => ∃ a, o = some a ∧ a.length = n ∧ a[i]? = some x) ws buf ?_ h
  rintro w hw _ ⟨a, rfl, hl, hx⟩ hc
  have hi : w.idx ≠ i := fun e => hno w hw ⟨hc, e⟩
  exact ⟨a.set w.idx w.val, rfl, by rw [List.length_set]; exact hl, by rw [List.getElem?_set_ne hi]; exact hx⟩

theorem applyWrites_last {w : Write} {ws : List Write} (n : Nat) (buf : Buffer)
    (hl : Behind (fun w' => ¬ (w'.cell = w.cell ∧ w'.idx = w.idx)) w ws)
    (hs : SizedFor w.cell n ws) (hb : ∀ a, alGet buf w.cell = some a → a.length = n) (hi : w.idx < n) :
    ∃ a, alGet (applyWrites buf ws) w.cell = some a ∧ a.length = n ∧ a[w.idx]? = some w.val := by
  obtain ⟨pre, post, rfl, hno⟩ := hl
  rw [applyWrites_append, applyWrites_cons]
  have hpre : SizedFor w.cell n pre := fun w' hw' => hs w' (List.mem_append_left _ hw')
  have hw : w.size = n := hs w (List.mem_append_right _ (List.mem_cons_self)) rfl
  have hlen := applyWrites_length w.cell n pre buf hpre hb
  apply applyWrites_keeps w.cell n w.idx w.val post _ hno
  have hl0 : ((alGet (applyWrites buf pre) w.cell).getD (List.replicate w.size w.dflt)).length = n := by
    cases hg : alGet (applyWrites buf pre) w.cell with
    | none => rw [Option.getD_none, List.length_replicate, hw]
    | some a₀ => exact hlen a₀ hg
  rw [alGet_applyWrite, if_pos rfl]
  exact ⟨_, rfl, by rw [List.length_set, hl0], by rw [List.getElem?_set_self (hl0 ▸ hi)]⟩

theorem applyWrites_default (k : String × List Char) (n i : Nat) (d : Val) (ws : List Write) (buf : Buffer)
    (hs : SizedFor k n ws) (hd : ∀ w ∈ ws, w.cell = k → w.dflt = d)
    (hno : ∀ w ∈ ws, ¬ (w.cell = k ∧ w.idx = i)) (hi : i < n)
    (hb : ∀ a, alGet buf k = some a → a.length = n ∧ a[i]? = some d) :
    ∀ a, alGet (applyWrites buf ws) k = some a → a.length = n ∧ a[i]? = some d := by
  refine applyWrites_inv k (fun o => ∀ a, o = some a → a.length = n ∧ a[i]? = some d) ws buf ?_ hb
  intro w hw o ho hc a ha
  cases ha
  have hwi : w.idx ≠ i := fun e => hno w hw ⟨hc, e⟩
  rw [List.length_set, List.getElem?_set_ne hwi]
  cases o with
  | none =>
    rw [Option.getD_none, List.length_replicate, List.getElem?_replicate, hs w hw hc, if_pos hi, hd w hw hc]
    exact ⟨rfl, rfl⟩
  | some a₀ => exact ho a₀ rfl

theorem applyWrites_exists (k : String × List Char) : ∀ (ws : List Write) (buf : Buffer),
    ((∃ w ∈ ws, w.cell = k) ∨ (alGet buf k).isSome) → (alGet (applyWrites buf ws) k).isSome := by
  intro ws buf h
  have hkeep : ∀ (ws : List Write) (buf : Buffer), (alGet buf k).isSome → (alGet (applyWrites buf ws) k).isSome :=
    fun ws buf h => applyWrites_inv k (fun o => o.isSome = true) ws buf (fun _ _ _ _ _ => rfl) h
  rcases h with ⟨w, hm, hc⟩ | h
  · obtain ⟨pre, post, rfl⟩ := List.append_of_mem hm
    rw [applyWrites_append, applyWrites_cons]
    exact hkeep _ _ (by rw [alGet_applyWrite, if_pos hc.symm]; rfl)
  · exact hkeep ws buf h

theorem alGet_applyWrites_map (k : String × List Char) (g : Write → Write)
    (hvar : ∀ w, (g w).var = w.var) (hid : ∀ w, w.var = k.1 → g w = w) (ws : List Write) (buf buf' : Buffer)
    (h : alGet buf' k = alGet buf k) :
    alGet (applyWrites buf' (ws.map g)) k = alGet (applyWrites buf ws) k := by
  induction ws generalizing buf buf' with
  | nil => exact h
  | cons w ws ih =>
    rw [List.map_cons, applyWrites_cons, applyWrites_cons]
    apply ih
    rw [alGet_applyWrite, alGet_applyWrite]
    by_cases hv : w.var = k.1
    · rw [hid w hv]
      by_cases hk : k = w.cell
      · rw [if_pos hk, if_pos hk, ← hk, h]
      · rw [if_neg hk, if_neg hk]; exact h
    · have h1 : k ≠ w.cell := fun e => hv (by rw [e]; rfl)
      have h2 : k ≠ (g w).cell := fun e => hv (by rw [e]; exact (hvar w).symm)
      rw [if_neg h1, if_neg h2]; exact h

/-- `get_buffer_key` for one write of the list `ws` -/
def resolveKey (sys : Sys) (ws : List Write) (w : Write) : Write :=
  if isEternal sys w.var then { w with key := (firstKeyOf ws w.var).getD w.key } else w

theorem resolveKeys_eq_map (sys : Sys) (ws : List Write) : resolveKeys sys ws = ws.map (resolveKey sys ws) := rfl

theorem resolveKey_var (sys : Sys) (ws : List Write) (w : Write) : (resolveKey sys ws w).var = w.var := by
  unfold resolveKey; split <;> rfl

theorem resolveKey_idx (sys : Sys) (ws : List Write) (w : Write) : (resolveKey sys ws w).idx = w.idx := by
  unfold resolveKey; split <;> rfl

theorem resolveKey_val (sys : Sys) (ws : List Write) (w : Write) : (resolveKey sys ws w).val = w.val := by
  unfold resolveKey; split <;> rfl

theorem resolveKey_size (sys : Sys) (ws : List Write) (w : Write) : (resolveKey sys ws w).size = w.size := by
  unfold resolveKey; split <;> rfl

theorem resolveKey_of_not_eternal {w : Write} (h : isEternal sys w.var = false) (ws : List Write) :
    resolveKey sys ws w = w := by
  unfold resolveKey; rw [h]; rfl

theorem resolveKey_key {ws : List Write} {w : Write} {k : List Char}
    (h : isEternal sys w.var = true) (hk : firstKeyOf ws w.var = some k) : (resolveKey sys ws w).key = k := by
  unfold resolveKey; rw [h, hk]; rfl

theorem alGet_resolveKeys (sys : Sys) {v : String} (hv : isEternal sys v = false) (ck : List Char)
    (ws : List Write) (buf : Buffer) :
    alGet (applyWrites buf (resolveKeys sys ws)) (v, ck) = alGet (applyWrites buf ws) (v, ck) :=
  alGet_applyWrites_map (v, ck) _ (resolveKey_var sys ws)
    (fun _ hw => resolveKey_of_not_eternal (hw ▸ hv) ws) ws buf buf rfl

theorem firstKeyOf_some {ws : List Write} {w : Write} (hw : w ∈ ws) :
    ∃ k, firstKeyOf ws w.var = some k := by
  unfold firstKeyOf
  cases hf : ws.find? (fun w' => w'.var == w.var) with
  | none =>
    have := List.find?_eq_none.mp hf w hw
    simp at this
  | some w' => exact ⟨w'.key, rfl⟩

theorem resolveKeys_key (sys : Sys) (ws : List Write) (v : String) (hv : isEternal sys v = true) :
    ∀ w ∈ resolveKeys sys ws, w.var = v → some w.key = firstKeyOf ws v := by
  intro w hw hwv
  rw [resolveKeys_eq_map] at hw
  obtain ⟨w₀, hw₀, rfl⟩ := List.mem_map.mp hw
  rw [resolveKey_var] at hwv
  subst hwv
  obtain ⟨k, hk⟩ := firstKeyOf_some hw₀
  rw [resolveKey_key hv hk, hk]

theorem bufferKey_of_not_eternal {name : String} (h : isEternal sys name = false) (buf : Buffer)
    (ck : List Char) : bufferKey sys buf name ck = ck := by
  unfold bufferKey; rw [h]; rfl

theorem getElem?_idxOf {l : List String} {a : String} (h : a ∈ l) : l[l.idxOf a]? = some a :=
  List.getElem?_eq_some_iff.mpr ⟨List.idxOf_lt_length_of_mem h, List.getElem_idxOf _⟩

theorem idxOf_inj_of_mem {l : List String} {a b : String} (ha : a ∈ l) (hb : b ∈ l)
    (h : l.idxOf a = l.idxOf b) : a = b :=
  Option.some.inj (by rw [← getElem?_idxOf ha, ← getElem?_idxOf hb, h])

theorem idxOf_text_lt {kvs : List (DKey × Doc)} {k : DKey} {d : Doc} (h : (k, d) ∈ kvs) :
    (kvs.map (fun kv => kv.1.text)).idxOf k.text < kvs.length :=
  List.length_map (as := kvs) _ ▸ List.idxOf_lt_length_of_mem (List.mem_map.mpr ⟨_, h, rfl⟩)

theorem Sys.var?_name {name : String} {var : Var} (h : sys.var? name = some var) :
    var.name = name := by
  unfold Sys.var? at h
  have := List.find?_some h
  simpa using this

theorem Sys.var?_self {name : String} {var : Var} (h : sys.var? name = some var) :
    sys.var? var.name = some var := by rw [Sys.var?_name h]; exact h

theorem isEternal_eq {name : String} {var : Var} (h : sys.var? name = some var) :
    isEternal sys name = decide (var.defUnit = .eternity) := by
  unfold isEternal; rw [h]

theorem isEternal_false_of_var {name : String} {var : Var} (h : sys.var? name = some var)
    (hne : var.defUnit ≠ .eternity) : isEternal sys name = false := by
  rw [isEternal_eq h]; exact decide_eq_false hne

theorem canonKey_of_parseKey {k : DKey} {p : Period} (h : parseKey k = .ok p) : canonKey k = .ok p.text := by
  unfold canonKey; rw [h]; rfl

theorem canonKey_congr {k k' : DKey} (h : parseKey k = parseKey k') : canonKey k = canonKey k' := by
  unfold canonKey; rw [h]

theorem Doc.asObj?_eq_some {d : Doc} {o : List (DKey × Doc)} (h : d.asObj? = some o) : d = .obj o := by
  cases d with
  | obj kvs => cases h; rfl
  | _ => cases h

theorem mem_filterMap_id {os : List (Option α)} {w : α} (h : w ∈ os.filterMap id) : some w ∈ os := by
  obtain ⟨o, ho, e⟩ := List.mem_filterMap.mp h
  exact (show o = some w from e) ▸ ho

structure Write.From (var : Var) (size idx : Nat) (w : Write) : Prop where
  var_eq : w.var = var.name
  idx_eq : w.idx = idx
  size_eq : w.size = size
  dflt_eq : w.dflt = var.default

theorem valueWrite_spec {var : Var} {size idx : Nat} {kv : DKey × Doc} :
    Answers (fun o => ∃ ck, canonKey kv.1 = .ok ck ∧
      ((kv.2.isNull = true ∧ o = none) ∨
       (kv.2.isNull = false ∧ ∃ val, checkSetValue var kv.2 = .ok val ∧
          o = some ⟨var.name, ck, idx, val, size, var.default⟩))) (valueWrite var size idx kv) := by
  unfold valueWrite
  split
  · exact .error (by decide)
  next ck hck =>
    split
    next hn => exact .ok ⟨ck, hck, .inl ⟨hn, rfl⟩⟩
    next hn =>
      split
      next e he => exact .error (checkSetValue_noOther _ _ _ he)
      next v hv => exact .ok ⟨ck, hck, .inr ⟨Bool.eq_false_iff.mpr hn, v, hv, rfl⟩⟩

theorem valueWrite_some {var : Var} {size idx : Nat} {kv : DKey × Doc} {w : Write}
    (h : valueWrite var size idx kv = .ok (some w)) :
    kv.2.isNull = false ∧ canonKey kv.1 = .ok w.key ∧ checkSetValue var kv.2 = .ok w.val ∧
      w.From var size idx := by
  obtain ⟨ck, hck, ⟨_, h'⟩ | ⟨hn, val, hval, h'⟩⟩ := valueWrite_spec.of_ok h
  · cases h'
  · cases h'; exact ⟨hn, hck, hval, ⟨rfl, rfl, rfl, rfl⟩⟩

theorem variableWrites_spec {size idx : Nat} {kv : DKey × Doc} :
    Answers (fun ws => ∃ var pvs os, sys.var? kv.1.text = some var ∧ var.entity = entKey ∧
      variablePairs dp kv.2 = some pvs ∧ mapE (valueWrite var size idx) pvs = .ok os ∧ ws = os.filterMap id)
      (variableWrites sys entKey dp size idx kv) := by
  unfold variableWrites
  split
  · exact .error (by decide)
  next var hv =>
    split
    · exact .error (by decide)
    next he =>
      split
      · exact .error (by decide)
      next pvs hp =>
        exact .map _ ⟨.mapE (fun _ => valueWrite_spec.noOther) _,
          fun os hm => ⟨var, pvs, os, hv, Decidable.not_not.mp he, hp, hm, rfl⟩⟩

theorem instanceWrites_spec {ids : List String} {id : String} {vars : List (DKey × Doc)} :
    Answers (fun ws => ∃ wss, mapE (variableWrites sys entKey dp ids.length (ids.idxOf id)) vars = .ok wss ∧
      ws = wss.flatten) (instanceWrites sys entKey dp ids id vars) :=
  .map _ ⟨.mapE (fun _ => variableWrites_spec.noOther) _, fun wss hm => ⟨wss, hm, rfl⟩⟩

theorem variableWrites_origin {size idx : Nat}
    {vars : List (DKey × Doc)} {wss : List (List Write)}
    (hm : mapE (variableWrites sys entKey dp size idx) vars = .ok wss) {w : Write} (hw : w ∈ wss.flatten) :
    ∃ kv ∈ vars, ∃ var pvs, sys.var? kv.1.text = some var ∧ var.entity = entKey ∧
      variablePairs dp kv.2 = some pvs ∧ ∃ kx ∈ pvs, valueWrite var size idx kx = .ok (some w) := by
  obtain ⟨l, hl, hwl⟩ := List.mem_flatten.mp hw
  obtain ⟨kv, hkv, hkl⟩ := mapE_mem_ok hm hl
  obtain ⟨var, pvs, os, hv, he, hp, hmo, rfl⟩ := variableWrites_spec.of_ok hkl
  exact ⟨kv, hkv, var, pvs, hv, he, hp, mapE_mem_ok hmo (mem_filterMap_id hwl)⟩

theorem instanceWrites_from {ids : List String}
    {id : String} {vars : List (DKey × Doc)} {ws : List Write}
    (h : instanceWrites sys entKey dp ids id vars = .ok ws) :
    ∀ w ∈ ws, ∃ var, sys.var? w.var = some var ∧ var.entity = entKey ∧
      w.From var ids.length (ids.idxOf id) := by
  obtain ⟨wss, hm, rfl⟩ := instanceWrites_spec.of_ok h
  intro w hw
  obtain ⟨kv, _, var, pvs, hv, he, _, kx, _, hkw⟩ := variableWrites_origin hm hw
  have hf := (valueWrite_some hkw).2.2.2
  exact ⟨var, by rw [hf.var_eq]; exact Sys.var?_self hv, he, hf⟩

/-- `(k, x)` is what the pairs `pvs` declare for the period of canonical text `ck`: a non-null value
that no later pair spelling the same period replaces -/
def DeclaredPair (pvs : List (DKey × Doc)) (k : DKey) (x : Doc) (ck : List Char) : Prop :=
  x.isNull = false ∧ canonKey k = .ok ck ∧
    Behind (fun kx => canonKey kx.1 = .ok ck → kx.2.isNull = true) (k, x) pvs

def LastEntry (kvs : List (DKey × Doc)) (key : DKey) (d : Doc) : Prop :=
  Behind (fun kv => kv.1.text ≠ key.text) (key, d) kvs

theorem instanceWrites_decl {ids : List String} {inst : String} {vars : List (DKey × Doc)} {ws : List Write}
    (h : instanceWrites sys entKey dp ids inst vars = .ok ws)
    {vk : DKey} {vd : Doc} (hvd : LastEntry vars vk vd)
    {var : Var} (hv : sys.var? vk.text = some var) {pvs : List (DKey × Doc)}
    (hp : variablePairs dp vd = some pvs) {k : DKey} {x : Doc} {ck : List Char} (hd : DeclaredPair pvs k x ck) :
    var.entity = entKey ∧ ∃ val, checkSetValue var x = .ok val ∧
      Behind (fun w' => ¬ (w'.cell = (var.name, ck) ∧ w'.idx = ids.idxOf inst))
        ⟨var.name, ck, ids.idxOf inst, val, ids.length, var.default⟩ ws := by
  obtain ⟨hx, hck, hlast⟩ := hd
  obtain ⟨wss, hm, rfl⟩ := instanceWrites_spec.of_ok h
  -- a later entry of the instance that writes to `var` would bear the name of `var`
  obtain ⟨l, hl, hll⟩ := hvd.all₂
    (M := fun l' => ∀ w' ∈ l', ¬ (w'.cell = (var.name, ck) ∧ w'.idx = ids.idxOf inst)) (mapE_forall₂ hm) (by
      rintro kv _ l' hkv hne w' hw' ⟨hc, _⟩
      obtain ⟨var', _, os, hv', _, _, hmo, rfl⟩ := variableWrites_spec.of_ok hkv
      obtain ⟨kx, _, hkw⟩ := mapE_mem_ok hmo (mem_filterMap_id hw')
      exact hne (by rw [← Sys.var?_name hv', ← (valueWrite_some hkw).2.2.2.var_eq, (Write.cell_eq_iff.mp hc).1,
        Sys.var?_name hv]))
  obtain ⟨var', pvs', os, hv', he, hp', hmo, rfl⟩ := variableWrites_spec.of_ok hl
  rw [hv] at hv'; cases hv'
  rw [hp] at hp'; cases hp'
  -- a later pair of the entry that writes to the cell would hold a non-null value for the same period
  obtain ⟨o, ho, hlo⟩ := hlast.all₂
    (M := fun o' => ∀ w', id o' = some w' → ¬ (w'.cell = (var.name, ck) ∧ w'.idx = ids.idxOf inst))
    (mapE_forall₂ hmo) (by
      rintro kx _ _ hkx hnull w' rfl ⟨hc, _⟩
      obtain ⟨hnn, hck', _⟩ := valueWrite_some hkx
      rw [hnull ((Write.cell_eq_iff.mp hc).2 ▸ hck')] at hnn
      cases hnn)
  obtain ⟨ck', hck', ⟨hnull, _⟩ | ⟨_, val, hval, rfl⟩⟩ := valueWrite_spec.of_ok ho
  · rw [hx] at hnull; cases hnull
  · rw [hck] at hck'; cases hck'
    exact ⟨he, val, hval, hll.flatten (hlo.filterMap id rfl)⟩

/-- the persons of `L` are pairwise distinct, known and still to allocate in `ta`; `ta'` is what
remains to allocate afterwards -/
def Alloc (personsIds ta : List String) (L : List String) (ta' : List String) : Prop :=
  L.Nodup ∧ (∀ p ∈ L, p ∈ ta ∧ p ∈ personsIds) ∧ ta' = ta.filter (fun p => !L.contains p)

theorem Alloc.nil (personsIds ta : List String) : Alloc personsIds ta [] ta := by
  refine ⟨List.nodup_nil, (fun _ hp => by cases hp), ?_⟩
  exact (List.filter_eq_self.mpr fun _ _ => rfl).symm

theorem Alloc.append {personsIds ta ta₁ ta₂ : List String} {L₁ L₂ : List String}
    (h1 : Alloc personsIds ta L₁ ta₁) (h2 : Alloc personsIds ta₁ L₂ ta₂) :
    Alloc personsIds ta (L₁ ++ L₂) ta₂ := by
  obtain ⟨n1, m1, e1⟩ := h1
  obtain ⟨n2, m2, e2⟩ := h2
  refine ⟨?_, ?_, ?_⟩
  · rw [List.nodup_append]
    refine ⟨n1, n2, ?_⟩
    intro a ha b hb e
    subst e
    have := (m2 a hb).1
    rw [e1, List.mem_filter] at this
    simp [ha] at this
  · intro p hp
    rcases List.mem_append.mp hp with hp | hp
    · exact m1 p hp
    · have := (m2 p hp).1
      rw [e1, List.mem_filter] at this
      exact ⟨this.1, (m2 p hp).2⟩
  · rw [e2, e1, List.filter_filter]
    congr 1
    funext p
    simp only [List.contains_append, Bool.not_or, Bool.and_comm]

theorem allocOne_spec {personsIds ta : List String} {d : Doc} :
    Answers (fun ta' => ∃ pid, d.str? = some pid ∧ Alloc personsIds ta [pid] ta') (allocOne personsIds ta d) := by
  unfold allocOne
  split
  · exact .error (by decide)
  · rename_i pid hs
    split
    · exact .error (by decide)
    · rename_i h1
      split
      · exact .error (by decide)
      · rename_i h2
        refine .ok ⟨pid, hs, by simp, ?_, ?_⟩
        · intro p hp
          simp only [List.mem_singleton] at hp
          subst hp
          exact ⟨by simpa using h2, by simpa using h1⟩
        · congr 1
          funext p
          simp [ne_eq, eq_comm]

theorem foldE_allocOne {personsIds : List String} (xs : List Doc) (ta ta' : List String)
    (h : foldE (allocOne personsIds) ta xs = .ok ta') :
    Alloc personsIds ta (xs.filterMap Doc.str?) ta' ∧ (xs.filterMap Doc.str?).length = xs.length := by
  induction xs generalizing ta with
  | nil => cases h; exact ⟨Alloc.nil _ _, rfl⟩
  | cons d xs ih =>
    obtain ⟨ta₁, h1, h2⟩ := foldE_cons_ok h
    obtain ⟨pid, hs, ha⟩ := allocOne_spec.of_ok h1
    obtain ⟨hr, hl⟩ := ih ta₁ h2
    simp only [List.filterMap_cons, hs]
    exact ⟨Alloc.append ha hr, by rw [List.length_cons, List.length_cons, hl]⟩

theorem allocRole_spec {personsIds ta : List String} {rd : Role × Doc} :
    Answers (fun ta' => Alloc personsIds ta rd.2.strs ta' ∧ rd.2.strs.length = (rd.2.asArr?.getD []).length)
      (allocRole personsIds ta rd) := by
  unfold allocRole Doc.strs
  cases rd.2.asArr? with
  | none => exact .error (by decide)
  | some xs => exact ⟨.foldE (fun _ _ _ => allocOne_spec.noOther) _, fun ta' h => by simpa using foldE_allocOne xs ta ta' h⟩

def listedIn (rds : List (Role × Doc)) : List String := rds.flatMap (fun rd => rd.2.strs)

theorem foldE_allocRole {personsIds : List String} (rds : List (Role × Doc)) (ta ta' : List String)
    (h : foldE (allocRole personsIds) ta rds = .ok ta') : Alloc personsIds ta (listedIn rds) ta' := by
  induction rds generalizing ta with
  | nil => cases h; exact Alloc.nil _ _
  | cons rd rds ih =>
    obtain ⟨ta₁, h1, h2⟩ := foldE_cons_ok h
    unfold listedIn
    rw [List.flatMap_cons]
    exact Alloc.append (allocRole_spec.of_ok h1).1 (ih ta₁ h2)

def instListed (g : GroupKind) (kv : DKey × Doc) : List String :=
  listedIn (roleDocs g (kv.2.asObj?.getD []))

theorem mem_instListed {g : GroupKind} {kv : DKey × Doc} {p : String} :
    p ∈ instListed g kv ↔ ∃ (ikvs : List (DKey × Doc)) (r : Role) (t : Nat), kv.2 = .obj ikvs ∧ r ∈ g.roles ∧
      (strictSyntax ((lookupS r.docKey ikvs).getD (.arr []))).strs[t]? = some p := by
  unfold instListed listedIn roleDocs
  constructor
  · intro h
    obtain ⟨rd, hrd, hp⟩ := List.mem_flatMap.mp h
    obtain ⟨r, hr, rfl⟩ := List.mem_map.mp hrd
    cases ho : kv.2.asObj? with
    | none =>
      rw [ho] at hp
      simp [lookupS, strictSyntax, Doc.strs, Doc.asArr?] at hp
    | some ikvs =>
      rw [ho] at hp
      obtain ⟨t, ht⟩ := List.getElem?_of_mem hp
      exact ⟨ikvs, r, t, Doc.asObj?_eq_some ho, hr, ht⟩
  · rintro ⟨ikvs, r, t, hkv, hr, ht⟩
    rw [hkv]
    exact List.mem_flatMap.mpr ⟨_, List.mem_map.mpr ⟨r, hr, rfl⟩, List.mem_of_getElem? ht⟩

/-- the membership writes an instance causes: one per person it lists, to the group at the position of the instance's id -/
def instMWrites (g : GroupKind) (personsIds gids : List String) (kv : DKey × Doc) : List MWrite :=
  (roleDocs g (kv.2.asObj?.getD [])).flatMap (roleMWrites personsIds (gids.idxOf kv.1.text))

/-- instance `kv` of the entity produced the writes `ws`; `proj` selects its variable entries (`id` for a person,
`variablesJson g` for a group) -/
def InstWrites (sys : Sys) (entKey : String) (dp : Option String) (ids : List String)
    (proj : List (DKey × Doc) → List (DKey × Doc)) (kv : DKey × Doc) (ws : List Write) : Prop :=
  ∃ o, kv.2.asObj? = some o ∧ instanceWrites sys entKey dp ids kv.1.text (proj o) = .ok ws

theorem groupStep_spec {g : GroupKind} {personsIds gids : List String} {acc : GAcc} {kv : DKey × Doc} :
    Answers (fun acc' => ∃ ikvs ws, kv.2.asObj? = some ikvs ∧
      Alloc personsIds acc.toAlloc (instListed g kv) acc'.toAlloc ∧
      (roleDocs g ikvs).all maxOk = true ∧
      instanceWrites sys g.key dp gids kv.1.text (variablesJson g ikvs) = .ok ws ∧
      acc'.mws = acc.mws ++ instMWrites g personsIds gids kv ∧ acc'.ws = acc.ws ++ ws)
      (groupStep sys dp g personsIds gids acc kv) := by
  unfold groupStep
  split
  · exact .error (by decide)
  · rename_i ikvs ho
    simp only
    split
    next e he => exact .error (NoOther.foldE (fun _ _ _ => allocRole_spec.noOther) _ _ he)
    · rename_i ta ha
      split
      · exact .error (by decide)
      · rename_i hmax
        split
        next e he => exact .error (instanceWrites_spec.noOther _ he)
        · rename_i ws hi
          refine .ok ⟨ikvs, ws, ho, ?_, by simpa using hmax, hi, ?_, rfl⟩
          · unfold instListed; rw [ho]; exact foldE_allocRole _ _ _ ha
          · unfold instMWrites; rw [ho]; rfl

theorem groupLoop_ok {g : GroupKind} {personsIds gids : List String}
    (kvs : List (DKey × Doc)) (acc acc' : GAcc)
    (h : foldE (groupStep sys dp g personsIds gids) acc kvs = .ok acc') :
    Alloc personsIds acc.toAlloc (kvs.flatMap (instListed g)) acc'.toAlloc ∧
    acc'.mws = acc.mws ++ kvs.flatMap (instMWrites g personsIds gids) ∧
    (∃ wss, All₂ (InstWrites sys g.key dp gids (variablesJson g)) kvs wss ∧ acc'.ws = acc.ws ++ wss.flatten) ∧
    (∀ kv ∈ kvs, ∃ ikvs, kv.2.asObj? = some ikvs ∧ (roleDocs g ikvs).all maxOk = true) := by
  induction kvs generalizing acc with
  | nil =>
    cases h
    exact ⟨Alloc.nil _ _, (List.append_nil _).symm, ⟨[], .nil, (List.append_nil _).symm⟩, fun kv hkv => by cases hkv⟩
  | cons kv kvs ih =>
    obtain ⟨acc₁, h1, h2⟩ := foldE_cons_ok h
    obtain ⟨ikvs, ws, ho, ha, hmax, hi, hm, hw⟩ := groupStep_spec.of_ok h1
    obtain ⟨ha', hm', ⟨wss, hall, hw'⟩, hmax'⟩ := ih acc₁ h2
    refine ⟨?_, ?_, ⟨ws :: wss, .cons ⟨ikvs, ho, hi⟩ hall, ?_⟩, ?_⟩
    · rw [List.flatMap_cons]; exact Alloc.append ha ha'
    · rw [hm', hm, List.flatMap_cons, List.append_assoc]
    · rw [hw', hw, List.flatten_cons, List.append_assoc]
    · intro kv' hkv'
      cases hkv' with
      | head => exact ⟨ikvs, ho, hmax⟩
      | tail _ hm'' => exact hmax' kv' hm''

theorem instWrites_origin {ids : List String}
    {proj : List (DKey × Doc) → List (DKey × Doc)} {kvs : List (DKey × Doc)} {wss : List (List Write)}
    (hall : All₂ (InstWrites sys entKey dp ids proj) kvs wss) {w : Write} (hw : w ∈ wss.flatten) :
    ∃ kv ∈ kvs, ∃ o ws, kv.2 = .obj o ∧ instanceWrites sys entKey dp ids kv.1.text (proj o) = .ok ws ∧ w ∈ ws := by
  obtain ⟨ws, hws, hwm⟩ := List.mem_flatten.mp hw
  obtain ⟨kv, hkv, o, ho, hi⟩ := hall.exists_left hws
  exact ⟨kv, hkv, o, ws, Doc.asObj?_eq_some ho, hi, hwm⟩

theorem instWrites_size {ids : List String}
    {proj : List (DKey × Doc) → List (DKey × Doc)} {kvs : List (DKey × Doc)} {wss : List (List Write)}
    (hall : All₂ (InstWrites sys entKey dp ids proj) kvs wss) (k : String × List Char) :
    SizedFor k ids.length wss.flatten := by
  intro w hw _
  obtain ⟨kv, _, o, ws, _, hi, hwm⟩ := instWrites_origin hall hw
  obtain ⟨_, _, _, hf⟩ := instanceWrites_from hi w hwm
  exact hf.size_eq

/-- stated for a variable that is not eternal: only then do its writes keep their keys (`alGet_resolveKeys`) -/
theorem entity_value_placed {ids : List String}
    {proj : List (DKey × Doc) → List (DKey × Doc)} {kvs : List (DKey × Doc)} {wss : List (List Write)}
    (hall : All₂ (InstWrites sys entKey dp ids proj) kvs wss) (hids : ids = kvs.map (fun kv => kv.1.text))
    (buf : Buffer) {idk : DKey} {o : List (DKey × Doc)} (hinst : LastEntry kvs idk (.obj o))
    {vk : DKey} {vd : Doc} (hvd : LastEntry (proj o) vk vd)
    {var : Var} (hvar : sys.var? vk.text = some var) (hne : var.defUnit ≠ .eternity)
    {pvs : List (DKey × Doc)} (hp : variablePairs dp vd = some pvs)
    {k : DKey} {x : Doc} {ck : List Char} (hd : DeclaredPair pvs k x ck)
    (hbuf : alGet buf (var.name, ck) = none) :
    var.entity = entKey ∧ ∃ val arr, checkSetValue var x = .ok val ∧
      alGet (applyWrites buf (resolveKeys sys wss.flatten)) (var.name, ck) = some arr ∧
      arr.length = kvs.length ∧ arr[ids.idxOf idk.text]? = some val := by
  have hmem : ∀ kv ∈ kvs, kv.1.text ∈ ids := fun kv hkv => hids ▸ List.mem_map.mpr ⟨kv, hkv, rfl⟩
  have hidmem := hmem _ hinst.mem
  -- later instances write at other indices
  obtain ⟨ws, ⟨o', ho', hi⟩, hlws⟩ := hinst.all₂
    (M := fun l' => ∀ w' ∈ l', ¬ (w'.cell = (var.name, ck) ∧ w'.idx = ids.idxOf idk.text)) hall (by
      rintro kv hkv l' ⟨_, _, hi'⟩ hne w' hw' ⟨_, hidx⟩
      obtain ⟨_, _, _, hf⟩ := instanceWrites_from hi' w' hw'
      exact hne (idxOf_inj_of_mem (hmem kv hkv) hidmem (by rw [← hf.idx_eq]; exact hidx)))
  cases ho'
  obtain ⟨he, val, hval, hlw⟩ := instanceWrites_decl hi hvd hvar hp hd
  obtain ⟨arr, harr, hl', hv'⟩ := applyWrites_last ids.length buf (hlws.flatten hlw) (instWrites_size hall _)
    (fun a ha => nomatch hbuf.symm.trans ha) (List.idxOf_lt_length_of_mem hidmem)
  exact ⟨he, val, arr, hval,
    (alGet_resolveKeys sys (isEternal_false_of_var (Sys.var?_self hvar) hne) ck _ buf).trans harr,
    hl'.trans (by rw [hids, List.length_map]), hv'⟩

theorem entity_value_default {ids : List String}
    {proj : List (DKey × Doc) → List (DKey × Doc)} {kvs : List (DKey × Doc)} {wss : List (List Write)}
    (hall : All₂ (InstWrites sys entKey dp ids proj) kvs wss) (hids : ids = kvs.map (fun kv => kv.1.text))
    (buf : Buffer) {id : String} (hid : id ∈ ids) {var : Var} (hvar : sys.var? var.name = some var)
    (hne : var.defUnit ≠ .eternity) {ck : List Char}
    (hnone : ∀ idk o, (idk, Doc.obj o) ∈ kvs → idk.text = id → ∀ vk vd, (vk, vd) ∈ proj o → vk.text = var.name →
      ∀ pvs, variablePairs dp vd = some pvs → ∀ kx ∈ pvs, canonKey kx.1 = .ok ck → kx.2.isNull = true)
    (hbuf : alGet buf (var.name, ck) = none) :
    ∀ arr, alGet (applyWrites buf (resolveKeys sys wss.flatten)) (var.name, ck) = some arr →
      arr.length = kvs.length ∧ arr[ids.idxOf id]? = some var.default := by
  rw [alGet_resolveKeys sys (isEternal_false_of_var hvar hne), ← show ids.length = kvs.length by rw [hids, List.length_map]]
  apply applyWrites_default (var.name, ck) ids.length (ids.idxOf id) var.default wss.flatten buf
    (instWrites_size hall _)
  · intro w hw hc
    obtain ⟨kv, _, o, ws, _, hi, hwm⟩ := instWrites_origin hall hw
    obtain ⟨var', hv', _, hf⟩ := instanceWrites_from hi w hwm
    rw [(Write.cell_eq_iff.mp hc).1, hvar] at hv'
    cases hv'
    exact hf.dflt_eq
  · -- a write to the cell at the index of `id` would come from a non-null pair that `hnone` excludes
    intro w hw ⟨hc, hidx⟩
    obtain ⟨hwv, hwk⟩ := Write.cell_eq_iff.mp hc
    obtain ⟨⟨k1, d⟩, hkv, o, ws, rfl, hi, hwm⟩ := instWrites_origin hall hw
    obtain ⟨wss', hm', rfl⟩ := instanceWrites_spec.of_ok hi
    obtain ⟨vkd, hvkd, var', pvs, hv', _, hp, kx, hkx, hkw⟩ := variableWrites_origin hm' hwm
    obtain ⟨hnn, hckx, _, hfrom⟩ := valueWrite_some hkw
    have hkid : k1.text = id :=
      idxOf_inj_of_mem (by rw [hids]; exact List.mem_map.mpr ⟨_, hkv, rfl⟩) hid (by rw [← hfrom.idx_eq]; exact hidx)
    rw [hnone k1 o hkv hkid vkd.1 vkd.2 hvkd (by rw [← Sys.var?_name hv', ← hfrom.var_eq, hwv]) pvs hp kx hkx
      (by rw [hckx, hwk])] at hnn
    cases hnn
  · exact List.idxOf_lt_length_of_mem hid
  · exact fun a ha => nomatch hbuf.symm.trans ha

def padFn (sys : Sys) (key : String) (n : Nat) (k : String × List Char) (a : Vec) : Vec :=
  match sys.var? k.1 with
  | some var => if var.entity = key then a ++ List.replicate (n - a.length) var.default else a
  | none => a

theorem alGet_padBuffer (sys : Sys) (key : String) (n : Nat) (buf : Buffer) (k : String × List Char) :
    alGet (padBuffer sys key n buf) k = (alGet buf k).map (padFn sys key n k) := by
  have : padBuffer sys key n buf = buf.map (fun e => (e.1, padFn sys key n e.1 e.2)) := by
    unfold padBuffer
    apply List.map_congr_left
    intro e _
    obtain ⟨e1, e2⟩ := e
    unfold padFn
    cases sys.var? e1.1 with
    | none => rfl
    | some var =>
      simp only
      split <;> rfl
  rw [this]
  exact alGet_map_snd (padFn sys key n) buf k

theorem personInstance_spec {ids : List String} {kv : DKey × Doc} :
    Answers (InstWrites sys sys.personKey dp ids id kv) (personInstance sys dp ids kv) := by
  unfold personInstance
  split
  · exact .error (by decide)
  next vars ho => exact ⟨instanceWrites_spec.noOther, fun _ h => ⟨vars, ho, h⟩⟩

theorem addPersonEntity_spec {d : Doc} :
    Answers (fun r => ∀ kvs, d = .obj kvs → r.1 = kvs.map (fun kv => kv.1.text) ∧
      ∃ wss, All₂ (InstWrites sys sys.personKey dp r.1 id) kvs wss ∧ r.2 = wss.flatten)
      (addPersonEntity sys dp d) := by
  unfold addPersonEntity
  split
  · exact .error (by decide)
  · rename_i kvs ho
    refine .map _ ⟨.mapE (fun _ => personInstance_spec.noOther) _, fun wss hm kvs' hd => ?_⟩
    subst hd
    cases ho
    exact ⟨rfl, wss, (mapE_forall₂ hm).imp fun _ _ => personInstance_spec.of_ok, rfl⟩

/-- every group kind has a role (`flattened_roles[0]` exists) -/
def Sys.RolesOK (sys : Sys) : Prop := ∀ g ∈ sys.groups, g.flatRoles ≠ []

/-- the one ordinary exception of the entity phase, `flattened_roles[0]` of a group kind without
roles, is excluded by `hg` -/
theorem groupsStep_noOther {params : List (DKey × Doc)} {hasAxes : Bool}
    {personsIds : List String} {st : BState} {g : GroupKind} (hg : g.flatRoles ≠ []) :
    NoOther (groupsStep sys dp params hasAxes personsIds st g) := by
  obtain ⟨r0, hr0⟩ : ∃ r0, g.flatRoles.head? = some r0 := by
    cases hf : g.flatRoles with
    | nil => exact absurd hf hg
    | cons a l => exact ⟨a, rfl⟩
  have hadd : ∀ d buf, NoOther (addGroupEntity sys dp g personsIds d buf) := by
    intro d buf
    unfold addGroupEntity
    simp only [hr0]
    split
    · exact .situation
    · split
      next e he => exact .of_error (NoOther.foldE (fun _ _ _ => groupStep_spec.noOther) _ _ he)
      · split <;> exact .ok _
  unfold groupsStep addDefaultGroupEntity
  simp only [hr0]
  split
  · split
    next e he => exact .of_error (hadd _ _ _ he)
    · exact .ok _
  · split
    · exact .situation
    · exact .ok _

theorem buildEntities_spec (hsys : sys.RolesOK) {params : List (DKey × Doc)} {hasAxes : Bool} :
    Answers (fun st => params.any (fun kv => unexpectedKey sys kv.1) = false ∧
      ∃ pj pids pws, lookupS sys.personPlural params = some pj ∧ pj.truthy = true ∧
        addPersonEntity sys dp pj = .ok (pids, pws) ∧
        foldE (groupsStep sys dp params hasAxes pids)
          ⟨[⟨sys.personKey, sys.personPlural, true, pids, [], []⟩], applyWrites [] (resolveKeys sys pws)⟩
          sys.groups = .ok st) (buildEntities sys dp params hasAxes) := by
  unfold buildEntities
  split
  · exact .error (by decide)
  · rename_i hkeys
    split
    · exact .error (by decide)
    next pj hpj =>
      split
      · exact .error (by decide)
      · rename_i htruthy
        split
        next e he => exact .error (addPersonEntity_spec.noOther _ he)
        next pids pws hadd =>
          exact ⟨.foldE (fun _ g hg => groupsStep_noOther (hsys g hg)) _, fun st h =>
            ⟨Bool.eq_false_iff.mpr hkeys, pj, pids, pws, hpj, by simpa using htruthy, hadd, h⟩⟩

/-- `VarDocEq`, `InstEq`, `EntEq` below are `ObjRel PairEq`, `ObjRel EntryEq`, `ObjRel InstEntryEq` written out
(definitionally) -/
def ObjRel (Rel : DKey × Doc → DKey × Doc → Prop) (a b : Doc) : Prop :=
  a = b ∨ ∃ kvs kvs', a = .obj kvs ∧ b = .obj kvs' ∧ All₂ Rel kvs kvs'

def PairEq (a b : DKey × Doc) : Prop := parseKey a.1 = parseKey b.1 ∧ a.2 = b.2

def VarDocEq (a b : Doc) : Prop :=
  a = b ∨ ∃ kvs kvs', a = .obj kvs ∧ b = .obj kvs' ∧ All₂ PairEq kvs kvs'

/-- an entry `name: …` of an instance (a variable, or a role: role entries are not objects) -/
def EntryEq (a b : DKey × Doc) : Prop := a.1 = b.1 ∧ VarDocEq a.2 b.2

def InstEq (a b : Doc) : Prop :=
  a = b ∨ ∃ kvs kvs', a = .obj kvs ∧ b = .obj kvs' ∧ All₂ EntryEq kvs kvs'

def InstEntryEq (a b : DKey × Doc) : Prop := a.1 = b.1 ∧ InstEq a.2 b.2

def EntEq (a b : Doc) : Prop :=
  a = b ∨ ∃ kvs kvs', a = .obj kvs ∧ b = .obj kvs' ∧ All₂ InstEntryEq kvs kvs'

/-- the top level of a fully specified document (the `axes` entry is not respelt here) -/
def TopEq (a b : DKey × Doc) : Prop := a.1 = b.1 ∧ EntEq a.2 b.2

theorem PairEq.refl (a : DKey × Doc) : PairEq a a := ⟨rfl, rfl⟩

theorem VarDocEq.refl (a : Doc) : VarDocEq a a := Or.inl rfl

theorem EntryEq.refl (a : DKey × Doc) : EntryEq a a := ⟨rfl, Or.inl rfl⟩

theorem InstEq.refl (a : Doc) : InstEq a a := Or.inl rfl

theorem InstEntryEq.refl (a : DKey × Doc) : InstEntryEq a a := ⟨rfl, Or.inl rfl⟩

theorem EntEq.refl (a : Doc) : EntEq a a := Or.inl rfl

end OFCore.Bld
