import OFCore.Lemmas.Engine
/-!
# Variable-ranked (acyclic) rule systems: the machine computes the meaning

`VarRanked sys rk`: every read in a formula of variable `v` goes to a variable of strictly lower rank (no variable
depends on itself, at any period).  Such a system never meets a cycle or a spiral, so nothing is tainted or marked;
with the ghost invariant a run, under any armed faults, leaves a consistent state, and from any consistent state a
request whose meaning the fault-free system shares returns it.
-/
namespace OFCore.Engine

variable {P : Type}

def VarRanked (sys : Sys P) (rk : Nat → Nat) : Prop :=
  ∀ v p e, sys.formula v p = some e → ∀ k ∈ refs e, rk k.1 < rk v

def Above (rk : Nat → Nat) (stack : List (Node P)) (v : Nat) : Prop := ∀ j ∈ stack, rk v < rk j.1

theorem above_push {sys : Sys P} {rk : Nat → Nat} (hr : VarRanked sys rk) {stack : List (Node P)} {v p e}
    (hf : sys.formula v p = some e) (ha : Above rk stack v) : ∀ k ∈ refs e, Above rk ((v, p) :: stack) k.1 :=
  fun k hk j hj => by
    rcases List.mem_cons.mp hj with rfl | hj
    · exact hr v p e hf k hk
    · exact Nat.lt_trans (hr v p e hf k hk) (ha j hj)

variable [DecidableEq P]

/-- every cached value is an untainted, successful meaning of every node stored under its slot -/
def Cons (sys : Sys P) (c : Cache P) : Prop :=
  ∀ v p x g, lookup c (sys.slot (v, p)) = some (x, g) → g = false ∧ ∃ n, den sys n v p = some (.ok x)

theorem fresh_of_above {sys : Sys P} {rk : Nat → Nat} {s : St P} {v : Nat} {p : P} (ha : Above rk s.stack v)
    (hmsl : 1 ≤ sys.msl) (hl : lookup s.cache (sys.slot (v, p)) = none) (hin : sys.input v p = none) :
    Fresh sys s v p := by
  refine ⟨hl, hin, fun hm => Nat.lt_irrefl _ (ha _ hm), ?_⟩
  have : s.stack.filter (fun k => k.1 = v) = [] := by
    rw [List.filter_eq_nil_iff]
    intro k hk hkv
    simp only [decide_eq_true_eq] at hkv
    exact Nat.lt_irrefl _ (hkv ▸ ha k hk)
  rw [this]; exact Nat.not_le_of_lt hmsl

def Untainted (sys : Sys P) (c : Cache P) : Prop := ∀ v p x g, lookup c (sys.slot (v, p)) = some (x, g) → g = false

theorem untainted_store (a z : Sys P) {c : Cache P} (hc : Untainted z c) (k : Node P) (x : Val) :
    Untainted z (store a c k x false) := by
  intro v p y g hl
  rcases lookup_store_some hl with hl | ⟨_, he⟩
  · exact hc v p y g hl
  · cases he; rfl

theorem cons_iff (z : Sys P) (c : Cache P) : Cons z c ↔ GClean z c ∧ Untainted z c :=
  ⟨fun h => ⟨fun v p x hl => (h v p x false hl).2, fun v p x g hl => (h v p x g hl).1⟩,
   fun ⟨h1, h2⟩ v p x g hl => by cases h2 v p x g hl; exact ⟨rfl, h1 v p x hl⟩⟩

theorem runE_untainted (a z : Sys P) (hab : FewerFaults a z) (hck : a.ckey = z.ckey) (rk : Nat → Nat)
    (hr : VarRanked z rk) (hmsl : 1 ≤ a.msl) :
    ∀ n s e r g s', Untainted z s.cache → (∀ k ∈ refs e, Above rk s.stack k.1) → s.inval = [] →
      runE a n s e = some (r, g, s') → g = false ∧ Untainted z s'.cache ∧ s'.inval = [] :=
  fun n s e r g s' hc ha hi h => (run_ind a
    (M := fun _ s v _ _ g s' => Untainted z s.cache → Above rk s.stack v → s.inval = [] →
      g = false ∧ Untainted z s'.cache ∧ s'.inval = [])
    (ME := fun _ s e _ g s' => Untainted z s.cache → (∀ k ∈ refs e, Above rk s.stack k.1) → s.inval = [] →
      g = false ∧ Untainted z s'.cache ∧ s'.inval = [])
    (hit := fun hl hc _ hi => ⟨hc _ _ _ _ (slot_of_ckey hck _ ▸ hl), by split <;> exact hc, by simp [hi]⟩)
    (input := fun _ _ hc _ hi => ⟨rfl, hc, hi⟩)
    (cycle := fun _ _ _ hc _ hi => ⟨rfl, hc, hi⟩)
    (spiral := fun hl hin _ hsp _ ha _ => absurd hsp (fresh_of_above ha hmsl hl hin).belowLimit)
    (default := fun _ _ hc _ hi => ⟨rfl, untainted_store a z hc _ _, hi⟩)
    (formulaErr := fun _ hf _ ih hc ha hi => ih hc (above_push hr (hab.1 ▸ hf) ha) hi)
    (formulaOk := fun _ hf _ ih hc ha hi => by
      obtain ⟨rfl, hc1, hi1⟩ := ih hc (above_push hr (hab.1 ▸ hf) ha) hi
      exact ⟨rfl, untainted_store a z hc1 _ _, hi1⟩)
    (const := fun hc _ hi => ⟨rfl, hc, hi⟩)
    (bad := fun hc _ hi => ⟨rfl, hc, hi⟩)
    (ref := fun _ ih hc ha hi => ih hc (ha _ List.mem_cons_self) hi)
    (failArmed := fun _ hc _ hi => ⟨rfl, hc, hi⟩)
    (failPass := fun _ _ ih => ih)
    (op1 := fun _ ih => ih)
    (op2Err := fun _ ih hc ha hi => ih hc (fun k hk => ha k (List.mem_append_left _ hk)) hi)
    (op2 := fun h1 _ iha ihb hc ha hi => by
      obtain ⟨rfl, hc1, hi1⟩ := iha hc (fun k hk => ha k (List.mem_append_left _ hk)) hi
      exact ihb hc1 (fun k hk => runE_stack a _ _ _ _ _ _ h1 ▸ ha k (List.mem_append_right _ hk)) hi1)).2
    n s e r g s' h hc ha hi

/-- `a` is the system while some faults are armed, `z` the same rules with fewer: the cache holds meanings of
    `z`, not of `a`, because values completed before a fault was armed stay, and are served. -/
theorem runE_faulty_sound (a z : Sys P) (hab : FewerFaults a z) (hck : a.ckey = z.ckey) (hk : SlotCoherent z)
    (rk : Nat → Nat) (hr : VarRanked z rk) (hmsl : 1 ≤ a.msl) :
    ∀ n s e r g s', Cons z s.cache → (∀ k ∈ refs e, Above rk s.stack k.1) → s.inval = [] →
      runE a n s e = some (r, g, s') →
      g = false ∧ Cons z s'.cache ∧ s'.inval = [] ∧ ∀ x, r = .ok x → ∃ m, denE z m e = some (.ok x) := by
  intro n s e r g s' hc ha hi h
  obtain ⟨hg, hu⟩ := (cons_iff z _).1 hc
  obtain ⟨rfl, hu', hi'⟩ := runE_untainted a z hab hck rk hr hmsl n s e r g s' hu ha hi h
  obtain ⟨hg', hv⟩ := runE_gclean a z hab hck hk n s e r _ s' hg h
  exact ⟨rfl, (cons_iff z _).2 ⟨hg', hu'⟩, hi', hv rfl⟩

/-- `good` picks the meanings that `z` shares (`hz`), as it does the values they were computed from (`hok`,
    `hmap`).  Only a cache hit needs it: the entry served is the meaning under `z`. -/
theorem runE_goes_through (a z : Sys P) (hab : FewerFaults a z) (hck : a.ckey = z.ckey) (hk : SlotCoherent z)
    (rk : Nat → Nat) (hr : VarRanked z rk) (hmsl : 1 ≤ a.msl) (good : Res → Prop)
    (hok : ∀ x, good (.ok x)) (hmap : ∀ (f : Val → Val) r, good (r.map f) → good r)
    (hz : ∀ n v p r, good r → den a n v p = some r → ∃ m, den z m v p = some r) :
    ∀ n s e r, good r → Cons z s.cache → (∀ k ∈ refs e, Above rk s.stack k.1) → s.inval = [] →
      denE a n e = some r → ∃ s', runE a n s e = some (r, false, s') :=
  fun n s e r hg hc ha hi hd => (den_ind a
    -- a node that is not cached; a cached one is dealt with where it is read (`ref`)
    (M := fun n v p r => good r → ∀ s : St P, Cons z s.cache → Above rk s.stack v → s.inval = [] →
      lookup s.cache (a.slot (v, p)) = none → ∃ s', run a n s v p = some (r, false, s'))
    (ME := fun n e r => good r → ∀ s : St P, Cons z s.cache → (∀ k ∈ refs e, Above rk s.stack k.1) →
      s.inval = [] → ∃ s', runE a n s e = some (r, false, s'))
    (input := fun hin _ s _ _ _ hl => ⟨s, run_input hl hin⟩)
    (default := fun hin hf _ s _ ha _ hl => ⟨_, run_default (fresh_of_above ha hmsl hl hin) hf⟩)
    (formula := fun {_ v p _ r} hin hf _ ih hg s hc ha hi hl => by
      have hfr := fresh_of_above ha hmsl hl hin
      obtain ⟨s1, h1⟩ := ih (hmap _ _ hg) { s with stack := (v, p) :: s.stack } hc (above_push hr (hab.1 ▸ hf) ha) hi
      cases r with
      | error er => exact ⟨_, run_formula_error hfr hf h1⟩
      | ok x => exact ⟨_, run_formula_ok hfr hf h1⟩)
    (const := fun _ s _ _ _ => ⟨s, runE_const ..⟩)
    (bad := fun _ s _ _ _ => ⟨s, runE_bad ..⟩)
    (ref := fun {n v p r} hd ih hg s hc ha hi => by
      rw [runE_ref]
      cases hl : lookup s.cache (a.slot (v, p)) with
      | none => exact ih hg s hc (ha _ List.mem_cons_self) hi hl
      | some yg =>
        cases n with
        | zero => simp at hd
        | succ n =>
          obtain ⟨y, gy⟩ := yg
          obtain ⟨rfl, m, hm⟩ := hc v p y gy (slot_of_ckey hck _ ▸ hl)
          obtain ⟨m', hm'⟩ := hz _ v p r hg hd
          cases den_det z hm hm'
          exact ⟨_, run_hit hl⟩)
    (failArmed := fun harm _ s _ _ _ => ⟨s, by rw [runE_fail, if_pos harm]⟩)
    (failPass := fun harm _ ih hg s hc ha hi => by rw [runE_fail, if_neg harm]; exact ih hg s hc ha hi)
    (op1 := fun _ ih hg s hc ha hi =>
      let ⟨s1, h1⟩ := ih (hmap _ _ hg) s hc ha hi
      ⟨s1, runE_op1_some h1⟩)
    (op2Err := fun _ ih hg s hc ha hi =>
      let ⟨s1, h1⟩ := ih hg s hc (fun k hk => ha k (List.mem_append_left _ hk)) hi
      ⟨s1, runE_op2_error h1⟩)
    (op2 := fun _ _ iha ihb hg s hc ha hi => by
      have hl := fun k hk => ha k (List.mem_append_left _ hk)
      obtain ⟨s1, h1⟩ := iha (hok _) s hc hl hi
      obtain ⟨_, hc1, hi1, _⟩ := runE_faulty_sound a z hab hck hk rk hr hmsl _ s _ _ _ _ hc hl hi h1
      obtain ⟨s2, h2⟩ := ihb (hmap _ _ hg) s1 hc1
        (fun k hk => runE_stack a _ _ _ _ _ _ h1 ▸ ha k (List.mem_append_right _ hk)) hi1
      exact ⟨s2, runE_op2_some h1 h2⟩)).2 n e r hd hg s hc ha hi

theorem runE_eq_den (sys : Sys P) (hk : SlotCoherent sys) (rk : Nat → Nat) (hr : VarRanked sys rk) (hmsl : 1 ≤ sys.msl) :
    ∀ n s e r, Cons sys s.cache → (∀ k ∈ refs e, Above rk s.stack k.1) → s.inval = [] →
      denE sys n e = some r →
      ∃ s', runE sys n s e = some (r, false, s') ∧ Cons sys s'.cache ∧ s'.stack = s.stack ∧ s'.inval = [] :=
  fun n s e r hc ha hi hd =>
    let ⟨s', h⟩ := runE_goes_through sys sys (.refl sys) rfl hk rk hr hmsl (fun _ => True) (fun _ => trivial)
      (fun _ _ _ => trivial) (fun n _ _ _ _ hd => ⟨n, hd⟩) n s e r trivial hc ha hi hd
    let ⟨_, hc', hi', _⟩ := runE_faulty_sound sys sys (.refl sys) rfl hk rk hr hmsl n s e r false s' hc ha hi h
    ⟨s', h, hc', runE_stack sys n s e r false s' h, hi'⟩

theorem run_eq_den (sys : Sys P) (hk : SlotCoherent sys) (rk : Nat → Nat) (hr : VarRanked sys rk) (hmsl : 1 ≤ sys.msl) :
    ∀ n s v p r, Cons sys s.cache → Above rk s.stack v → s.inval = [] → den sys n v p = some r →
      ∃ s', run sys n s v p = some (r, false, s') ∧ Cons sys s'.cache ∧ s'.stack = s.stack ∧ s'.inval = [] :=
  fun n s v p r hc ha hi hd => by
    simpa only [runE_ref] using runE_eq_den sys hk rk hr hmsl n s (.ref v p) r hc
      (fun k hk => by cases List.mem_singleton.1 hk; exact ha) hi (by rwa [denE_ref])

end OFCore.Engine
