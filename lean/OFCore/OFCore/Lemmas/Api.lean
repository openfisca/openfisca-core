import OFCore.Lemmas.ApiSpec
/-! C20, `/calculate`: `fillAt` and `nullPaths` are one walk over the request (`J.walk_induction`), an object being walked one
entry at a time; the null paths four keys deep are the paths of the requested slots. -/
namespace OFCore.Api

theorem renderVal_isLeaf (v : Val) : (renderVal v).isLeaf = true := by cases v <;> rfl

theorem renderVal_not_null (v : Val) : (renderVal v).isNull = false := by cases v <;> rfl

theorem jsonKind_renderVal (v : Val) : jsonKind v.family (renderVal v) = true := by cases v <;> rfl

theorem render_ok {t : VType} {v : Val} {j : J} (h : render t v = .ok j) : v.family = t ∧ j = renderVal v := by
  unfold render at h
  split at h
  · next hf => exact ⟨hf, by cases h; rfl⟩
  · cases h

theorem render_of_family (v : Val) : render v.family v = .ok (renderVal v) := by
  unfold render; simp

theorem slotOfPath_some {p : List String} {s : Slot} (h : slotOfPath p = some s) : p = s.path := by
  match p, h with
  | [a, b, c, d], h => cases h; rfl

theorem slotOfPath_path (s : Slot) : slotOfPath s.path = some s := rfl

theorem slotOfPath_of_length {p : List String} (h : p.length = 4) : ∃ s, slotOfPath p = some s :=
  match p, h with
  | [_, _, _, _], _ => ⟨_, rfl⟩

theorem engineAt_ok {w : Sim} {s : Slot} {v : Val} (h : engineAt w s = .ok v) :
    ∃ vec i, w.calcv s.var s.period = .ok vec ∧ w.index s.plural s.id = some i ∧ vec[i]? = some v := by
  unfold engineAt at h
  split at h
  · cases h
  next vec hv =>
  split at h
  · cases h
  next i hi =>
  cases hg : vec[i]? with
  | none => rw [hg] at h; cases h
  | some v' => rw [hg] at h; cases h; exact ⟨vec, i, hv, hi, hg⟩

theorem slotValue_ok {w : Sim} {s : Slot} {r : J} (h : slotValue w s = .ok r) :
    ∃ t vec i v, w.vtype s.var = some t ∧ w.calcv s.var s.period = .ok vec ∧ w.index s.plural s.id = some i ∧
      vec[i]? = some v ∧ engineAt w s = .ok v ∧ render t v = .ok r := by
  unfold slotValue at h
  split at h
  · cases h
  next t ht =>
  split at h
  · cases h
  next v he =>
  obtain ⟨vec, i, hv, hi, hg⟩ := engineAt_ok he
  exact ⟨t, vec, i, v, ht, hv, hi, hg, he, h⟩

theorem pathValue_leafValued (w : Sim) : LeafValued (pathValue w) := by
  intro p r h
  unfold pathValue at h
  cases hs : slotOfPath p with
  | none => rw [hs] at h; cases h
  | some s =>
    rw [hs] at h
    obtain ⟨_, _, _, v, _, _, _, _, _, hr⟩ := slotValue_ok h
    obtain ⟨_, rfl⟩ := render_ok hr
    exact ⟨renderVal_isLeaf v, renderVal_not_null v⟩

section Fill
variable {f : List String → Except String J}

/-- the nodes the walk does something with when the slots lie `d` keys further down; every other node is kept as it is and
holds no slot, which confines the fourteen (depth, constructor) cases to `fillAt_other`, `nullPaths_other`, `J.walk_induction` -/
def J.walked : Nat → J → Bool
  | 0, .null => true
  | _ + 1, .obj _ => true
  | _, _ => false

theorem fillAt_other {d : Nat} {j : J} (h : j.walked d = false) (path : List String) :
    fillAt f d path j = .ok j := by
  cases d <;> cases j <;> first | rfl | cases h

theorem nullPaths_other {d : Nat} {j : J} (h : j.walked d = false) (path : List String) :
    nullPaths d path j = [] := by
  cases d <;> cases j <;> first | rfl | cases h

theorem fillAt_zero_null (path : List String) : fillAt f 0 path .null = f path.reverse := rfl

theorem nullPaths_zero_null (path : List String) : nullPaths 0 path .null = [path.reverse] := rfl

theorem nullPaths_succ_obj (d : Nat) (path : List String) (kvs : List (String × J)) :
    nullPaths (d + 1) path (.obj kvs) = nullPathsKV d path kvs := rfl

theorem nullPaths_obj_cons (d : Nat) (path : List String) (k : String) (v : J) (r : List (String × J)) :
    nullPaths (d + 1) path (.obj ((k, v) :: r)) = nullPaths d (k :: path) v ++ nullPaths (d + 1) path (.obj r) := rfl

theorem fillKV_eq_ok {d : Nat} {path : List String} {kvs kvs' : List (String × J)} :
    fillKV f d path kvs = .ok kvs' ↔ fillAt f (d + 1) path (.obj kvs) = .ok (.obj kvs') := by
  simp only [fillAt]
  cases fillKV f d path kvs <;> simp

theorem fillAt_obj_cons {d : Nat} {path : List String} {k : String} {v : J} {r : List (String × J)} {j' : J} :
    fillAt f (d + 1) path (.obj ((k, v) :: r)) = .ok j' ↔
      ∃ v' r', fillAt f d (k :: path) v = .ok v' ∧ fillAt f (d + 1) path (.obj r) = .ok (.obj r') ∧
        j' = .obj ((k, v') :: r') := by
  simp only [fillAt, fillKV]
  cases fillAt f d (k :: path) v with
  | error e => simp
  | ok v' =>
    cases fillKV f d path r with
    | error e => simp
    | ok r' => simp [eq_comm]

theorem J.walk_induction {motive : Nat → J → Prop} (slot : motive 0 .null)
    (other : ∀ d j, j.walked d = false → motive d j) (nil : ∀ d, motive (d + 1) (.obj []))
    (cons : ∀ d k v r, motive d v → motive (d + 1) (.obj r) → motive (d + 1) (.obj ((k, v) :: r)))
    (d : Nat) (j : J) : motive d j := by
  induction d generalizing j with
  | zero =>
    cases j with
    | null => exact slot
    | _ => exact other _ _ rfl
  | succ d ih =>
    cases j with
    | obj kvs =>
      induction kvs with
      | nil => exact nil d
      | cons kv r ihr => exact cons d kv.1 kv.2 r (ih _) ihr
    | _ => exact other _ _ rfl

theorem J.walk_cases {motive : Nat → J → Prop} (slot : motive 0 .null)
    (obj : ∀ d kvs, motive (d + 1) (.obj kvs)) (other : ∀ d j, j.walked d = false → motive d j)
    (d : Nat) (j : J) : motive d j :=
  J.walk_induction slot other (fun d => obj d []) (fun d _ _ _ _ _ => obj d _) d j

theorem fillAt_obj_lookup {d : Nat} {path : List String} : ∀ {kvs : List (String × J)} {j' : J},
    fillAt f (d + 1) path (.obj kvs) = .ok j' → ∃ kvs', j' = .obj kvs' ∧ ∀ k,
      (lookupKV k kvs = none → lookupKV k kvs' = none) ∧
      (∀ v, lookupKV k kvs = some v → ∃ v', lookupKV k kvs' = some v' ∧ fillAt f d (k :: path) v = .ok v')
  | [], j', h => by
    cases h
    exact ⟨[], rfl, fun k => ⟨fun _ => rfl, fun v hv => by cases hv⟩⟩
  | (k0, v0) :: r, j', h => by
    obtain ⟨v', r', hv, hr, rfl⟩ := fillAt_obj_cons.mp h
    obtain ⟨_, hr', ih⟩ := fillAt_obj_lookup hr
    cases hr'
    refine ⟨_, rfl, fun k => ?_⟩
    by_cases hk : k0 = k
    · subst hk
      simp only [lookupKV, if_true]
      exact ⟨fun hn => (by cases hn), fun v hl => (by cases hl; exact ⟨v', rfl, hv⟩)⟩
    · simp only [lookupKV, if_neg hk]
      exact ih k

theorem getPath_cons_some {k : String} {p : List String} {j v : J} (h : getPath (k :: p) j = some v) :
    ∃ kvs u, j = .obj kvs ∧ lookupKV k kvs = some u ∧ getPath p u = some v := by
  cases j <;> simp only [getPath] at h <;> try cases h
  next kvs =>
    cases hl : lookupKV k kvs with
    | none => rw [hl] at h; cases h
    | some u => rw [hl] at h; exact ⟨kvs, u, rfl, hl, h⟩

theorem getPath_obj {k : String} {p : List String} {kvs : List (String × J)} {u : J}
    (h : lookupKV k kvs = some u) : getPath (k :: p) (.obj kvs) = getPath p u := by
  simp only [getPath, h]

theorem getPath_cons_of_not_obj {k : String} {p : List String} {j : J} (h : ∀ kvs, j ≠ .obj kvs) :
    getPath (k :: p) j = none := by
  cases j <;> first | rfl | exact absurd rfl (h _)

theorem fillAt_get_leaf : ∀ {p : List String} {d : Nat} {path : List String} {j j' : J},
    fillAt f d path j = .ok j' → ∀ {v}, getPath p j = some v → v.isLeaf = true →
    (v.isNull = true → p.length ≠ d) → getPath p j' = some v
  | [], d, path, j, j', h, v, hg, hl, hn => by
    cases hg
    -- a leaf is walked only as a `null` at depth 0, which `hn` excludes
    have : j.walked d = false := by
      cases d, j using J.walk_cases with
      | slot => exact absurd rfl (hn rfl)
      | obj d kvs => cases hl
      | other d j hw => exact hw
    rw [fillAt_other this] at h; cases h; rfl
  | k :: p, d, path, j, j', h, v, hg, hl, hn => by
    obtain ⟨kvs, u, rfl, hlk, hgu⟩ := getPath_cons_some hg
    cases d with
    | zero => cases h; exact hg
    | succ d =>
      obtain ⟨kvs', rfl, hkv⟩ := fillAt_obj_lookup h
      obtain ⟨u', hl', hu'⟩ := (hkv k).2 u hlk
      rw [getPath_obj hl']
      exact fillAt_get_leaf hu' hgu hl (fun hv hlen => hn hv (by simp [hlen]))

theorem fillAt_get_slot : ∀ {p : List String} {d : Nat} {path : List String} {j j' : J},
    fillAt f d path j = .ok j' → getPath p j = some .null → p.length = d →
    ∃ r, f (path.reverse ++ p) = .ok r ∧ getPath p j' = some r
  | [], d, path, j, j', h, hg, hlen => by
    cases hg; cases hlen
    exact ⟨j', by simpa [fillAt_zero_null] using h, rfl⟩
  | k :: p, d + 1, path, j, j', h, hg, hlen => by
    obtain ⟨kvs, u, rfl, hlk, hgu⟩ := getPath_cons_some hg
    obtain ⟨kvs', rfl, hkv⟩ := fillAt_obj_lookup h
    obtain ⟨u', hl', hu'⟩ := (hkv k).2 u hlk
    obtain ⟨r, hr, hg'⟩ := fillAt_get_slot hu' hgu (by simpa using hlen)
    exact ⟨r, by simpa using hr, by rw [getPath_obj hl']; exact hg'⟩

theorem fillAt_get_none (hf : LeafValued f) : ∀ {p : List String} {d : Nat} {path : List String} {j j' : J},
    fillAt f d path j = .ok j' → getPath p j = none → getPath p j' = none
  | [], d, path, j, j', h, hg => by cases hg
  | k :: p, d, path, j, j', h, hg => by
    cases d, j using J.walk_cases with
    | slot =>
      -- the slot is filled with a leaf, under which there is no path either
      have hl := (hf _ _ h).1
      exact getPath_cons_of_not_obj (fun kvs e => by rw [e] at hl; cases hl)
    | obj d kvs =>
      obtain ⟨kvs', rfl, hkv⟩ := fillAt_obj_lookup h
      cases hlk : lookupKV k kvs with
      | none => simp only [getPath, (hkv k).1 hlk]
      | some u =>
        obtain ⟨u', hl', hu'⟩ := (hkv k).2 u hlk
        rw [getPath_obj hlk] at hg
        rw [getPath_obj hl']
        exact fillAt_get_none hf hu' hg
    | other d j hw => rw [fillAt_other hw] at h; cases h; exact hg

theorem shape_of_leaf {j : J} (h : j.isLeaf = true) : j.shape = .null := by
  cases j <;> first | rfl | cases h

theorem fillAt_shape (hf : LeafValued f) {d : Nat} {path : List String} {j j' : J}
    (h : fillAt f d path j = .ok j') : j'.shape = j.shape := by
  induction d, j using J.walk_induction generalizing path j' with
  | slot => rw [shape_of_leaf (hf _ _ h).1]; rfl
  | other d j hw => rw [fillAt_other hw] at h; cases h; rfl
  | nil d => cases h; rfl
  | cons d k v r ihv ihr =>
    obtain ⟨v', r', hv, hr, rfl⟩ := fillAt_obj_cons.mp h
    have := ihr hr
    simp only [J.shape, J.obj.injEq] at this
    simp only [J.shape, shapeO, ihv hv, this]

theorem fillKV_shape (hf : LeafValued f) : ∀ (d : Nat) (path : List String) (kvs kvs' : List (String × J)),
    fillKV f d path kvs = .ok kvs' → shapeO kvs' = shapeO kvs :=
  fun d path kvs kvs' h => by
    have := fillAt_shape hf (fillKV_eq_ok.mp h)
    simpa only [J.shape, J.obj.injEq] using this

theorem fillAt_ok_iff (d : Nat) (path : List String) (j : J) :
    (∃ j', fillAt f d path j = .ok j') ↔ ∀ p ∈ nullPaths d path j, ∃ r, f p = .ok r := by
  induction d, j using J.walk_induction generalizing path with
  | slot => simp only [fillAt_zero_null, nullPaths_zero_null, List.mem_singleton, forall_eq]
  | other d j hw => simp [fillAt_other hw, nullPaths_other hw]
  | nil d => exact ⟨fun _ p hp => (by cases hp), fun _ => ⟨_, rfl⟩⟩
  | cons d k v r ihv ihr =>
    simp only [nullPaths_obj_cons, List.mem_append, or_imp, forall_and, ← ihv, ← ihr]
    constructor
    · rintro ⟨j', h⟩
      obtain ⟨v', r', hv, hr, _⟩ := fillAt_obj_cons.mp h
      exact ⟨⟨v', hv⟩, _, hr⟩
    · rintro ⟨⟨v', hv⟩, jr, hr⟩
      obtain ⟨r', rfl, _⟩ := fillAt_obj_lookup hr
      exact ⟨_, fillAt_obj_cons.mpr ⟨v', r', hv, hr, rfl⟩⟩

theorem fillAt_of_no_slots {d : Nat} {path : List String} {j : J} (h : nullPaths d path j = []) :
    fillAt f d path j = .ok j := by
  induction d, j using J.walk_induction generalizing path with
  | slot => cases h
  | other d j hw => exact fillAt_other hw path
  | nil d => rfl
  | cons d k v r ihv ihr =>
    obtain ⟨hv, hr⟩ := List.append_eq_nil_iff.mp h
    exact fillAt_obj_cons.mpr ⟨v, r, ihv hv, ihr hr, rfl⟩

theorem fillKV_of_no_slots : ∀ (d : Nat) (path : List String) (kvs : List (String × J)),
    nullPathsKV d path kvs = [] → fillKV f d path kvs = .ok kvs :=
  fun d _ kvs h => fillKV_eq_ok.mpr (fillAt_of_no_slots (d := d + 1) (j := .obj kvs) h)

theorem fillAt_no_slots_left (hf : LeafValued f) (path' : List String) {d : Nat} {path : List String} {j j' : J}
    (h : fillAt f d path j = .ok j') : nullPaths d path' j' = [] := by
  induction d, j using J.walk_induction generalizing path path' j' with
  | slot =>
    obtain ⟨hl, hn⟩ := hf _ _ h
    exact nullPaths_other (by cases j' <;> first | rfl | cases hn) path'
  | other d j hw => rw [fillAt_other hw] at h; cases h; exact nullPaths_other hw path'
  | nil d => cases h; rfl
  | cons d k v r ihv ihr =>
    obtain ⟨v', r', hv, hr, rfl⟩ := fillAt_obj_cons.mp h
    rw [nullPaths_obj_cons, ihv (k :: path') hv, ihr path' hr]; rfl

theorem fillKV_no_slots_left (hf : LeafValued f) : ∀ (d : Nat) (path path' : List String)
    (kvs kvs' : List (String × J)), fillKV f d path kvs = .ok kvs' → nullPathsKV d path' kvs' = [] :=
  fun _ _ path' _ _ h => fillAt_no_slots_left hf path' (fillKV_eq_ok.mp h)

theorem nullPaths_length (d : Nat) (path : List String) (j : J) : ∀ q ∈ nullPaths d path j, q.length = path.length + d := by
  induction d, j using J.walk_induction generalizing path with
  | slot => intro q hq; rw [nullPaths_zero_null, List.mem_singleton] at hq; simp [hq]
  | other d j hw => intro q hq; rw [nullPaths_other hw] at hq; cases hq
  | nil d => intro q hq; cases hq
  | cons d k v r ihv ihr =>
    intro q hq
    rcases List.mem_append.mp hq with hq | hq
    · rw [ihv (k :: path) q hq, List.length_cons]; omega
    · exact ihr path q hq

theorem mem_nullPaths_of_lookup {d : Nat} {path : List String} {k : String} {u : J} :
    ∀ {kvs : List (String × J)}, lookupKV k kvs = some u → ∀ q ∈ nullPaths d (k :: path) u,
      q ∈ nullPaths (d + 1) path (.obj kvs)
  | [], h, q, hq => by cases h
  | (k0, v0) :: r, h, q, hq => by
    rw [nullPaths_obj_cons, List.mem_append]
    by_cases hk : k0 = k
    · subst hk
      simp only [lookupKV, if_true] at h; cases h
      exact Or.inl hq
    · simp only [lookupKV, if_neg hk] at h
      exact Or.inr (mem_nullPaths_of_lookup h q hq)

theorem mem_nullPaths_of_get : ∀ (p : List String) (d : Nat) (path : List String) (j : J),
    getPath p j = some .null → p.length = d → (path.reverse ++ p) ∈ nullPaths d path j
  | [], d, path, j, hg, hlen => by
    cases hg; cases hlen
    simp [nullPaths_zero_null]
  | k :: p, d + 1, path, j, hg, hlen => by
    obtain ⟨kvs, u, rfl, hlk, hgu⟩ := getPath_cons_some hg
    have := mem_nullPaths_of_get p d (k :: path) u hgu (by simpa using hlen)
    exact mem_nullPaths_of_lookup hlk _ (by simpa using this)

end Fill

theorem filterMap_slotOfPath : ∀ {l : List (List String)}, (∀ p ∈ l, p.length = 4) →
    (l.filterMap slotOfPath).map Slot.path = l
  | [], _ => rfl
  | p :: l, h => by
    obtain ⟨s, hs⟩ := slotOfPath_of_length (h p List.mem_cons_self)
    rw [List.filterMap_cons_some hs, List.map_cons, ← slotOfPath_some hs,
      filterMap_slotOfPath fun q hq => h q (List.mem_cons_of_mem _ hq)]

theorem nullPaths_eq_map_path (req : J) : nullPaths 4 [] req = (nullSlots req).map Slot.path :=
  (filterMap_slotOfPath (nullPaths_length 4 [] req)).symm

theorem nullSlots_eq_nil_iff {req : J} : nullSlots req = [] ↔ nullPaths 4 [] req = [] := by
  rw [nullPaths_eq_map_path, List.map_eq_nil_iff]

theorem fill_get_slot {w : Sim} {req out : J} (h : fill w req = .ok out) {s : Slot}
    (hs : getPath s.path req = some .null) : ∃ r, slotValue w s = .ok r ∧ getPath s.path out = some r :=
  fillAt_get_slot h hs rfl

theorem mem_nullSlots_of_get {req : J} {s : Slot} (hs : getPath s.path req = some .null) : s ∈ nullSlots req := by
  have := mem_nullPaths_of_get s.path 4 [] req hs rfl
  rw [nullPaths_eq_map_path] at this
  obtain ⟨s', hs', he⟩ := List.mem_map.mp this
  cases s; cases s'; cases he; exact hs'

end OFCore.Api
