import OFCore.Lemmas.HeapSysWrites
import OFCore.Lemmas.HeapSysCopies
namespace OFCore.HeapSys
open OFCore.Param

theorem reformSys_inv {h h' : Heap} {src : Oid} {ms : List Mod} {r : Except String Oid}
    (hr : reformSys h src ms = (h', r)) :
    (h' = h ∧ ∃ e, r = .error e) ∨
    ∃ h1 R, reformInit h src = .ok (h1, R) ∧ h' = (applyMods h1 R ms).1 ∧ ∀ R', r = .ok R' → R' = R := by
  unfold reformSys at hr
  cases hi : reformInit h src with
  | error e => rw [hi] at hr; cases hr; exact .inl ⟨rfl, e, rfl⟩
  | ok x =>
    obtain ⟨h1, R⟩ := x
    rw [hi] at hr
    refine .inr ⟨h1, R, rfl, ?_⟩
    dsimp only at hr
    cases ha : applyMods h1 R ms with
    | mk h2 res =>
      rw [ha] at hr
      cases res with
      | ok u => cases u; cases hr; exact ⟨rfl, fun _ e => by cases e; rfl⟩
      | error e => cases hr; exact ⟨rfl, nofun⟩

/-- An invariant of heaps that `clone()`, `Reform.__init__` and one modification of a system created
    at or after `n` preserve: every history that modifies only such systems preserves it
    (`Preserved.by_run`), since the systems a history creates are created at or after `n`. -/
structure Preserved (n : Nat) (P : Heap → Prop) : Prop where
  next : ∀ {h}, P h → n ≤ h.next
  clone : ∀ {h src h' N}, P h → cloneSys h src = .ok (h', N) → P h'
  reform : ∀ {h src h' R}, P h → reformInit h src = .ok (h', R) → P h'
  modify : ∀ {h X} (m : Mod), P h → n ≤ X → P (applyMod h X m).1

def Derived (n k0 : Nat) (l : List Oid) : Prop := ∀ k sid, k0 ≤ k → l[k]? = some sid → n ≤ sid

theorem Derived.init (n : Nat) (l : List Oid) : Derived n l.length l :=
  fun k _ hk he => by rw [List.getElem?_eq_none hk] at he; cases he

theorem Derived.append {n k0 : Nat} {l : List Oid} (hl : Derived n k0 l) {R : Oid} (hR : n ≤ R) :
    Derived n k0 (l ++ [R]) := by
  intro k s hk he
  by_cases hlt : k < l.length
  · rw [List.getElem?_append_left hlt] at he; exact hl k s hk he
  · rw [List.getElem?_append_right (Nat.le_of_not_lt hlt)] at he
    rw [List.mem_singleton.mp (List.mem_of_getElem? he)]; exact hR

section
variable {n : Nat} {P : Heap → Prop} (hp : Preserved n P)
include hp

theorem Preserved.by_reformSys {h h' : Heap} {src : Oid} {ms : List Mod} {r : Except String Oid} (hP : P h)
    (hr : reformSys h src ms = (h', r)) : P h' ∧ ∀ R, r = .ok R → n ≤ R := by
  rcases reformSys_inv hr with ⟨rfl, e, rfl⟩ | ⟨h1, R, hi, rfl, e2⟩
  · exact ⟨hP, nofun⟩
  · have hR : n ≤ R := reformInit_id hi ▸ hp.next hP
    exact ⟨applyMods_ind (fun _ m _ p => hp.modify m p hR) (hp.reform hP hi), fun R' hR' => e2 R' hR' ▸ hR⟩

theorem Preserved.by_applyReforms {h h' : Heap} {cur : Oid} {rs : List (List Mod)} {r : Except String Oid} (hP : P h)
    (hcur : n ≤ cur) (hr : applyReforms h cur rs = (h', r)) : P h' ∧ ∀ R, r = .ok R → n ≤ R := by
  induction rs generalizing h cur with
  | nil => cases hr; exact ⟨hP, fun R hR => by cases hR; exact hcur⟩
  | cons mods rs ih =>
    unfold applyReforms at hr
    cases h1 : reformSys h cur mods with
    | mk h1 res =>
      obtain ⟨p1, hR1⟩ := hp.by_reformSys hP h1
      rw [h1] at hr
      cases res with
      | error e => cases hr; exact ⟨p1, nofun⟩
      | ok R1 => exact ih p1 (hR1 R1 rfl) hr

theorem Preserved.by_testRunnerDerive {h h' : Heap} {src : Oid} {rs : List (List Mod)} {es : List Ext}
    {r : Except String Oid} (hP : P h) (hr : testRunnerDerive h src rs es = (h', r)) :
    P h' ∧ ∀ R, r = .ok R → n ≤ R := by
  unfold testRunnerDerive at hr
  cases hc : cloneSys h src with
  | error e => rw [hc] at hr; cases hr; exact ⟨hP, nofun⟩
  | ok x =>
    obtain ⟨h1, N⟩ := x
    rw [hc] at hr
    dsimp only at hr
    cases ha : applyReforms h1 N rs with
    | mk h2 res =>
      obtain ⟨p2, hR2⟩ := hp.by_applyReforms (hp.clone hP hc) (cloneSys_id hc ▸ hp.next hP) ha
      rw [ha] at hr
      cases res with
      | error e => cases hr; exact ⟨p2, nofun⟩
      | ok R =>
        have p3 : P (loadExtensions h2 R es).1 :=
          loadExtensions_ind (fun _ e _ p => hp.modify (.loadExt e) p (hR2 R rfl)) p2
        dsimp only at hr
        cases hl : loadExtensions h2 R es with
        | mk h3 res3 =>
          rw [hl] at hr p3
          cases res3 with
          | ok u => cases u; cases hr; exact ⟨p3, fun R' hR' => by cases hR'; exact hR2 R rfl⟩
          | error e => cases hr; exact ⟨p3, nofun⟩

theorem Preserved.by_step {k0 : Nat} {st : State} (hP : P st.heap) (hsys : Derived n k0 st.systems) (op : Op)
    (hop : op.targetsDerived k0) :
    P (step st op).1.heap ∧ Derived n k0 (step st op).1.systems ∧
      ∃ l, (step st op).1.systems = st.systems ++ l := by
  have same : ∀ {h' : Heap}, P h' → P h' ∧ Derived n k0 st.systems ∧ ∃ l, st.systems = st.systems ++ l :=
    fun p => ⟨p, hsys, [], (List.append_nil _).symm⟩
  have app : ∀ {h' : Heap} (R : Oid), P h' → n ≤ R →
      P h' ∧ Derived n k0 (st.systems ++ [R]) ∧ ∃ l, st.systems ++ [R] = st.systems ++ l :=
    fun R p hR => ⟨p, hsys.append hR, [R], rfl⟩
  cases op with
  | clone src =>
    dsimp only [step]
    cases hsrc : st.systems[src]? with
    | none => exact same hP
    | some sid =>
      dsimp only
      cases hc : cloneSys st.heap sid with
      | error e => exact same hP
      | ok x => exact app x.2 (hp.clone hP hc) (cloneSys_id hc ▸ hp.next hP)
  | reform src mods =>
    dsimp only [step]
    cases hsrc : st.systems[src]? with
    | none => exact same hP
    | some sid =>
      dsimp only
      cases hr : reformSys st.heap sid mods with
      | mk h' res =>
        obtain ⟨p, hR⟩ := hp.by_reformSys hP hr
        cases res with
        | ok R => exact app R p (hR R rfl)
        | error e => exact same p
  | modify tgt m =>
    dsimp only [step]
    cases htgt : st.systems[tgt]? with
    | none => exact same hP
    | some sid =>
      dsimp only
      have p := hp.modify m hP (hsys tgt sid hop htgt)
      cases hr : applyMod st.heap sid m with
      | mk h' res =>
        rw [hr] at p
        cases res with
        | ok u => cases u; exact same p
        | error e => exact same p
  | testRunner src reforms exts =>
    dsimp only [step]
    cases hsrc : st.systems[src]? with
    | none => exact same hP
    | some sid =>
      dsimp only
      cases lookupMemo (sid, reforms.map (fun r => r.1), nameSet (exts.map (fun e => e.name))) st.memo with
      | some _ => exact same hP
      | none =>
        dsimp only
        cases hr : testRunnerDerive st.heap sid (reforms.map (fun r => r.2)) exts with
        | mk h' res =>
          obtain ⟨p, hR⟩ := hp.by_testRunnerDerive hP hr
          cases res with
          | ok R => exact app R p (hR R rfl)
          | error e => exact same p

theorem Preserved.by_run {k0 : Nat} (ops : List Op) {st : State} (hP : P st.heap) (hsys : Derived n k0 st.systems)
    (hops : ∀ op ∈ ops, op.targetsDerived k0) :
    P (run st ops).heap ∧ Derived n k0 (run st ops).systems ∧ ∃ l, (run st ops).systems = st.systems ++ l := by
  induction ops generalizing st with
  | nil => exact ⟨hP, hsys, [], (List.append_nil _).symm⟩
  | cons op r ih =>
    obtain ⟨p1, s1, l1, e1⟩ := hp.by_step hP hsys op (hops op (List.mem_cons_self ..))
    obtain ⟨p2, s2, l2, e2⟩ := ih p1 s1 (fun o ho => hops o (List.mem_cons_of_mem _ ho))
    exact ⟨p2, s2, l1 ++ l2, by show (run (step st op).1 r).systems = _; rw [e2, e1, List.append_assoc]⟩
end

theorem good_preserved (n : Nat) (h0 : Heap) : Preserved n (Good n h0) where
  next g := g.next
  clone g hc := good_cloneSys g hc
  reform g hc := good_reformInit g hc
  modify m g hX := (applyMod_writes _ _ m).ind (fun w g => w.good g hX) g

theorem consistent_preserved : Preserved 0 Consistent where
  next _ := Nat.zero_le _
  clone hc hcl := consistent_cloneSys hc hcl
  reform hc hr := consistent_reformInit hc hr
  modify m hc _ := (applyMod_writes _ _ m).ind ModWrite.consistent hc

theorem run_frame {n k0 : Nat} (ops : List Op) {h0 : Heap} {st : State} (g : Good n h0 st.heap)
    (hsys : Derived n k0 st.systems) (hops : ∀ op ∈ ops, op.targetsDerived k0) :
    Framed n h0 (run st ops).heap ∧
      ∀ k, k < st.systems.length → (run st ops).systems[k]? = st.systems[k]? := by
  obtain ⟨g, _, l, hl⟩ := (good_preserved n h0).by_run ops g hsys hops
  exact ⟨g.frame, fun k hk => by rw [hl]; exact List.getElem?_append_left hk⟩

theorem consistent_run {st : State} (hc : Consistent st.heap) (ops : List Op) : Consistent (run st ops).heap :=
  (consistent_preserved.by_run (k0 := 0) ops hc (fun _ _ _ _ => Nat.zero_le _)
    (fun op _ => by cases op <;> simp [Op.targetsDerived])).1

theorem sysObs_agree {h h' : Heap} (hA : ∀ i, i < h.next → h'.look i = h.look i) (hC : Closed h) (b : Nat) (hb : b < h.next) :
    sysObs h' b = sysObs h b := by
  have ptr : ∀ {i : Nat} {o : Obj}, h.look i = some o → ∀ j ∈ o.ptrs, j < h.next :=
    fun hl => hC _ (List.mem_of_getElem? hl)
  have obs : ∀ X, X < h.next → varObs h' X = varObs h X := by
    intro X hX
    funext name
    unfold varObs resolve
    rw [getSys_congr (hA X hX)]
    cases hs : h.getSys X with
    | none => rfl
    | some s =>
      dsimp only
      rw [getMap_congr (hA _ (ptr (getSys_iff.1 hs) _ (by simp [Obj.ptrs])))]
      cases hm : h.getMap s.vars with
      | none => rfl
      | some m =>
        dsimp only
        cases hd : dictGet name m with
        | none => rfl
        | some vid =>
          dsimp only
          rw [getVar_congr (hA vid (ptr (getMap_iff.1 hm) vid (List.mem_map.mpr ⟨_, mem_of_dictGet hd, rfl⟩)))]
  have via : ∀ e, e < h.next → varObsVia h' e = varObsVia h e := by
    intro e he
    funext name
    have hg' := getEnt_congr (hA e he)
    cases hg : h.getEnt e with
    | none => unfold varObsVia resolveVia; rw [hg', hg]
    | some eo =>
      rw [hg] at hg'
      cases hsys : eo.system with
      | none => unfold varObsVia resolveVia; rw [hg', hg]; dsimp only; rw [hsys]
      | some sid =>
        rw [varObsVia_of_bound hg' hsys, varObsVia_of_bound hg hsys,
          obs sid (ptr (getEnt_iff.1 hg) sid (by simp [Obj.ptrs, hsys]))]
  unfold sysObs varNames paramObs
  rw [obs b hb, getSys_congr (hA b hb)]
  cases hs : h.getSys b with
  | none => rfl
  | some s =>
    have hp := ptr (getSys_iff.1 hs)
    have hents : ∀ e ∈ s.entities, e < h.next := fun e he => hp e (by simp [Obj.ptrs, he])
    dsimp only
    rw [getMap_congr (hA _ (hp _ (by simp [Obj.ptrs]))), getPar_congr (hA _ (hp _ (by simp [Obj.ptrs]))),
      List.map_congr_left fun e he => via e (hents e he),
      List.map_congr_left fun e he => congrArg (Option.map (·.key)) (getEnt_congr (hA e (hents e he)))]

theorem SysWF.lt_next {h : Heap} {X : Oid} (hw : SysWF h X) : X < h.next := by
  obtain ⟨_, _, _, hs, _⟩ := hw; exact lt_next_of_look (getSys_iff.1 hs)

theorem sysWF_agree {h h' : Heap} (hA : ∀ i, i < h.next → h'.look i = h.look i) {b : Nat} (hw : SysWF h b) : SysWF h' b := by
  obtain ⟨s, m, p, hs, hm, hp, he⟩ := hw
  have ag : ∀ {i : Nat} {o : Obj}, h.look i = some o → h'.look i = some o :=
    fun hl => by rw [hA _ (lt_next_of_look hl)]; exact hl
  exact ⟨s, m, p, getSys_iff.2 (ag (getSys_iff.1 hs)), getMap_iff.2 (ag (getMap_iff.1 hm)),
    getPar_iff.2 (ag (getPar_iff.1 hp)), fun e hmem =>
      let ⟨v, hv⟩ := he e hmem; ⟨v, getVar_iff.2 (ag (getVar_iff.1 hv))⟩⟩

theorem clone_independent {h : Heap} {src : Oid} {h1 : Heap} {N : Oid} (hw : SysWF h src)
    (hc : cloneSys h src = .ok (h1, N)) {T : List String} {B : Bool} {h2 : Heap} (w : Writes src T B h1 h2) :
    (∀ name, varObs h2 N name = varObs h1 N name) ∧ (∀ pn d, paramObs h2 N pn d = paramObs h1 N pn d) := by
  obtain ⟨s, m0, p, hs, hm, hp, _⟩ := id hw  -- `id` keeps `hw`, used below
  have g := good_cloneSys (.init h) hc
  have hN := cloneSys_id hc
  have hsrc := hw.lt_next
  have hvars := lt_next_of_look (getMap_iff.1 hm)
  have hpar := lt_next_of_look (getPar_iff.1 hp)
  have hs1 : h1.getSys src = some s := by rw [getSys_congr (g.frame.1 src hsrc)]; exact hs
  have sp := cloneSys_spec hw hc
  obtain ⟨sN', mN, pN, hsN', hmN, hpN, heN⟩ := sp.wf
  obtain ⟨sN, _, hsN, _, _, hv, hpp, _⟩ := sp.sys
  rw [hsN] at hsN'; cases hsN'
  -- the source's objects existed before the copy, the copy's were created by it
  have other : ∀ i, h.next ≤ i → i < h1.next → h2.look i = h1.look i := fun i hge hlt =>
    w.look_other (sysWF_agree g.frame.1 hw) hs1 hlt (Nat.ne_of_gt (Nat.lt_of_lt_of_le hsrc hge))
      (Nat.ne_of_gt (Nat.lt_of_lt_of_le hvars hge)) (Nat.ne_of_gt (Nat.lt_of_lt_of_le hpar hge))
  refine obs_congr hsN hmN hpN ?_ ?_ ?_ ?_
  · exact other N (Nat.le_of_eq hN.symm) (lt_next_of_look (getSys_iff.1 hsN))
  · exact other _ hv (lt_next_of_look (getMap_iff.1 hmN))
  · exact other _ hpp (lt_next_of_look (getPar_iff.1 hpN))
  · intro name vid hd
    have hge : h.next ≤ vid := sp.fresh name vid (by rw [resolve_eq hsN hmN]; exact hd)
    obtain ⟨v, hv'⟩ := heN _ (mem_of_dictGet hd)
    exact other vid hge (lt_next_of_look (getVar_iff.1 hv'))

theorem reformSys_modify_frame {h : Heap} {b : Oid} {mods : List Mod} {h1 : Heap} {R : Oid}
    (hr : reformSys h b mods = (h1, .ok R)) (m : Mod) : Framed h.next h (applyMod h1 R m).1 := by
  have hp := good_preserved h.next h
  obtain ⟨g1, hR⟩ := hp.by_reformSys (.init h) hr
  exact (hp.modify m g1 (hR R rfl)).frame

theorem Framed.mono {n m : Nat} {h h' : Heap} (a : Framed n h h') (hm : m ≤ n) : Framed m h h' :=
  ⟨fun i hi => a.1 i (Nat.lt_of_lt_of_le hi hm), a.2⟩

theorem view_with_baseline (v : VarObj) (b : Option Oid) : ({ v with baseline := b } : VarObj).view = v.view := rfl

def sysWFb (h : Heap) (X : Oid) : Bool :=
  match h.getSys X with
  | none => false
  | some s =>
    match h.getMap s.vars with
    | none => false
    | some m =>
      match h.getPar s.params with
      | none => false
      | some _ => m.all (fun e => (h.getVar e.2).isSome)

theorem sysWF_of_check {h : Heap} {X : Oid} (hc : sysWFb h X = true) : SysWF h X := by
  unfold sysWFb at hc
  split at hc
  · cases hc
  rename_i s hs
  split at hc
  · cases hc
  rename_i m hm
  split at hc
  · cases hc
  rename_i p hp
  exact ⟨s, m, p, hs, hm, hp, fun e he => Option.isSome_iff_exists.mp (List.all_eq_true.mp hc e he)⟩

def consistentB (h : Heap) : Bool :=
  (List.range h.next).all fun i =>
    match h.getVar i with
    | none => true
    | some v =>
      match cloneVar h v with
      | .ok c => decide (AttrsEq c v)
      | .error _ => false

theorem consistent_of_check {h : Heap} (hb : consistentB h = true) : Consistent h := by
  intro i v hv
  have := List.all_eq_true.mp hb i (List.mem_range.mpr (lt_next_of_look (getVar_iff.1 hv)))
  rw [hv] at this
  dsimp only at this
  split at this
  · rename_i c hc; exact ⟨c, hc, of_decide_eq_true this⟩
  · cases this

end OFCore.HeapSys
