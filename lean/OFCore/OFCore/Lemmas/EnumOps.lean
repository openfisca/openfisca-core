import OFCore.Lemmas.EnumCodec
/-!
Selecting from an `EnumArray` (`take`) and comparing one (`EnumArray.__eq__`, `eqOp`), operand by operand, with numpy's
broadcasting of 1-d operands (`bcastEq`).
-/
namespace OFCore.EnumCodec

theorem take_ok (a : EnumArray) (positions : List Nat) (h : ∀ p ∈ positions, p < a.idx.length) :
    a.take positions = .ok ⟨a.owner, positions.filterMap (fun p => a.idx[p]?)⟩ := by
  have : allOk (pick a.idx) positions = .ok (positions.filterMap (fun p => a.idx[p]?)) := by
    induction positions with
    | nil => rfl
    | cons p ps ih =>
      have hp := List.getElem?_eq_getElem (h p (List.mem_cons_self ..))
      simp only [allOk, pick, hp, ih (fun q hq => h q (List.mem_cons_of_mem _ hq)),
        List.filterMap_cons]
  rw [EnumArray.take, this]

theorem mem_filterMap_getElem? {α : Type} {l : List α} {positions : List Nat} {x : α}
    (h : x ∈ positions.filterMap (fun p => l[p]?)) : x ∈ l := by
  obtain ⟨p, _, hp⟩ := List.mem_filterMap.mp h
  exact List.mem_of_getElem? hp

theorem filterMap_getElem?_map {α β : Type} (f : α → β) (l : List α) (positions : List Nat) :
    positions.filterMap (fun p => (l.map f)[p]?) = (positions.filterMap (fun p => l[p]?)).map f := by
  simp only [List.getElem?_map, List.map_filterMap]

theorem bcastLen_self (k : Nat) : bcastLen k k = .ok k := if_pos rfl

theorem bcastLen_one_right (l : Nat) : bcastLen l 1 = .ok l := by
  unfold bcastLen; split <;> rfl

theorem bcastLen_one_left (k : Nat) : bcastLen 1 k = .ok k := by
  unfold bcastLen
  split
  next h => rw [h]
  next h => rw [if_neg (Ne.symm h)]; rfl

theorem bcastEq_same {α β} (f : α → β → Bool) (xs : List α) (ys : List β) (h : xs.length = ys.length) :
    bcastEq f xs ys = .ok (List.zipWith f xs ys) := by
  unfold bcastEq; rw [if_pos h]

theorem bcastEq_one_right {α β} (f : α → β → Bool) (xs : List α) (y : β) :
    bcastEq f xs [y] = .ok (xs.map fun x => f x y) := by
  unfold bcastEq
  split
  next h => obtain ⟨x, rfl⟩ := List.length_eq_one_iff.mp h; rfl
  next => rfl

theorem bcastEq_one_left {α β} (f : α → β → Bool) (x : α) (ys : List β) :
    bcastEq f [x] ys = .ok (ys.map fun y => f x y) := by
  match ys with
  | [] => rfl
  | [y] => rfl
  | _ :: _ :: _ => rfl

theorem bcastEq_error {α β} (f : α → β → Bool) (xs : List α) (ys : List β)
    (hne : xs.length ≠ ys.length) (hx : xs.length ≠ 1) (hy : ys.length ≠ 1) :
    ∃ m, bcastEq f xs ys = .error m := by
  unfold bcastEq
  rw [if_neg hne]
  -- a list whose length is not 1 is `[]` or `_ :: _ :: _`
  match ys, hy with
  | [y], hy => exact absurd rfl hy
  | [], _ | _ :: _ :: _, _ =>
    match xs, hx with
    | [x], hx => exact absurd rfl hx
    | [], _ | _ :: _ :: _, _ => exact ⟨_, rfl⟩

theorem bcastEq_length {α β} (f : α → β → Bool) (xs : List α) (ys : List β) (bs : List Bool)
    (h : bcastEq f xs ys = .ok bs) : bcastLen xs.length ys.length = .ok bs.length := by
  by_cases hl : xs.length = ys.length
  · rw [bcastEq_same f xs ys hl] at h
    cases h
    rw [List.length_zipWith, hl, Nat.min_self]
    exact bcastLen_self _
  · by_cases hy : ys.length = 1
    · obtain ⟨y, rfl⟩ := List.length_eq_one_iff.mp hy
      rw [bcastEq_one_right] at h
      cases h
      rw [List.length_map]
      exact bcastLen_one_right _
    · by_cases hx : xs.length = 1
      · obtain ⟨x, rfl⟩ := List.length_eq_one_iff.mp hx
        rw [bcastEq_one_left] at h
        cases h
        rw [List.length_map]
        exact bcastLen_one_left _
      · obtain ⟨m, hm⟩ := bcastEq_error f xs ys hl hx hy
        rw [hm] at h
        cases h

theorem maxIdx_spec (idx : List Nat) (mx : Nat) (h : maxIdx idx = some mx) :
    mx ∈ idx ∧ ∀ j ∈ idx, j ≤ mx := by
  have : maxIdx idx = idx.max? := by cases idx <;> rfl
  exact List.max?_eq_some_iff.mp (this ▸ h)

theorem maxIdx_isSome (idx : List Nat) (h : idx ≠ []) : ∃ mx, maxIdx idx = some mx := by
  cases idx with
  | nil => exact absurd rfl h
  | cons i is => exact ⟨_, rfl⟩

theorem range_filter_le (n mx : Nat) (h : mx < n) :
    (List.range n).filter (fun j => decide (j ≤ mx)) = List.range (mx + 1) := by
  obtain ⟨k, rfl⟩ : ∃ k, n = mx + 1 + k := ⟨n - (mx + 1), (Nat.add_sub_cancel' h).symm⟩
  rw [List.range_add, List.filter_append, List.filter_eq_self.mpr, List.filter_eq_nil_iff.mpr,
    List.append_nil]
  · intro j hj hle
    obtain ⟨i, _, rfl⟩ := List.mem_map.mp hj
    exact Nat.not_succ_le_self mx (Nat.le_trans (Nat.le_add_right _ i) (of_decide_eq_true hle))
  · exact fun j hj => decide_eq_true (Nat.le_of_lt_succ (List.mem_range.mp hj))

theorem member_beq (c i j : Nat) : (Elem.member c i == Elem.member c j) = (i == j) := by
  rw [Bool.eq_iff_iff, beq_iff_eq, beq_iff_eq]
  exact ⟨fun h => by injection h, fun h => by rw [h]⟩

theorem eqOp_member_own {n : Nat} {a : EnumArray} {c : Nat} (h : c = a.owner) (i : Nat) :
    eqOp n a (.elem (.member c i)) = .ok (.vec (a.idx.map fun j => j == i)) := by
  simp only [eqOp, if_pos h]

theorem eqOp_member_foreign {n : Nat} {a : EnumArray} {c : Nat} (h : c ≠ a.owner) (i : Nat) :
    eqOp n a (.elem (.member c i)) = .ok (.vec (List.replicate a.idx.length false)) := by
  simp only [eqOp, if_neg h, List.map_const']

theorem eqOp_member_decoded {e : Enumeration} {n : Nat} {a : EnumArray} {ms : List Elem}
    (ho : a.owner = e.cid) (hd : decode e a = .ok ms) (m : Nat) :
    eqOp n a (.elem (.member e.cid m)) = .ok (.vec (ms.map fun d => d == Elem.member e.cid m)) := by
  rw [eqOp_member_own ho.symm, (decode_ok_iff.mp hd).2, List.map_map]
  exact congrArg _ (congrArg _ (List.map_congr_left fun j _ => (member_beq e.cid j m).symm))

/-- `indices[indices <= max(self)]` is `0 … mx` -/
theorem eqOp_cls_own {n : Nat} {a : EnumArray} {mx : Nat} (hmx : maxIdx a.idx = some mx) (hlt : mx < n)
    (k : Nat) {r : Except String (List Bool)}
    (hr : bcastEq (fun i j => i == j) a.idx (List.range (mx + 1)) = r) :
    eqOp n a (.cls a.owner k) = match r with
      | .error m => .error m
      | .ok bs => .ok (.vec bs) := by
  simp only [eqOp, if_true, hmx, range_filter_le n mx hlt, hr]
  cases r <;> rfl

theorem eqOp_arr_ok {n : Nat} {a b : EnumArray} {bs : List Bool}
    (h : bcastEq (fun i j => i == j) a.idx b.idx = .ok bs) : eqOp n a (.arr b) = .ok (.vec bs) := by
  simp only [eqOp, h]

theorem eqOp_arr_error {n : Nat} {a b : EnumArray} {m : String}
    (h : bcastEq (fun i j => i == j) a.idx b.idx = .error m) : eqOp n a (.arr b) = .error m := by
  simp only [eqOp, h]

end OFCore.EnumCodec
