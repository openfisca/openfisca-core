import OFCore.Lemmas.SetInputOrder
import OFCore.Lemmas.SetInputWalk
/-! C16: what an accepted `Holder.set_input` must have been, and whole histories of inputs: a history is a run of `divideOn` /
`dispatchOn` over the pieces of each period, and the builder feeds a document as the history sorted by key. -/
namespace OFCore

theorem ok_of_isOk {r : Except String Store} (h : isOk r = true) : r = .ok (okStore r) := by
  cases r with
  | ok t => rfl
  | error e => cases h

theorem filled_mid {s t : Store} {subs : List Period} {c : Vec} (hf : Filled s subs c t) : Mid s subs c t := by
  intro q
  cases hs : sget s q with
  | some v => exact .inl (hf.of_some hs)
  | none =>
    by_cases hq : q ∈ subs
    · exact .inr ⟨rfl, hq, hf.of_none_mem hs hq⟩
    · exact .inl (hf.of_none_not_mem hs hq)

theorem wf_of_sameStore {n : Nat} {s t : Store} (h : SameStore s t) (hwf : WF n s) : WF n t :=
  fun q v hv => hwf q v (by rw [h q]; exact hv)

theorem toArray_ok_iff {var : VarSpec} {v a : Vec} :
    toArray var v = .ok a ↔ v.length = var.count ∧ a = castVec var.kind v := by
  unfold toArray
  by_cases hl : v.length = var.count
  · rw [if_neg (not_not_intro hl)]
    exact ⟨fun h => ⟨hl, (Except.ok.inj h).symm⟩, fun h => h.2 ▸ rfl⟩
  · rw [if_pos hl]
    exact ⟨nofun, fun h => absurd h.1 hl⟩

/-- the hypothesis is the body `dispatchByPeriod` and `divideByPeriod` share, with their loop as `f` -/
theorem byPeriod_inv {var : VarSpec} {t : Store} {p : Period} {v : Vec}
    {f : List Period → Vec → Except String Store}
    (h : (do
      let a ← toArray var v
      if var.defUnit = DUnit.eternity then .error "eternal" else
      let subs ← walk var.defUnit p
      f subs a) = .ok t) :
    v.length = var.count ∧ var.defUnit ≠ .eternity ∧
    ∃ subs, walk var.defUnit p = .ok subs ∧ f subs (castVec var.kind v) = .ok t := by
  obtain ⟨a, ha, h⟩ := bind_ok h
  obtain ⟨hl, rfl⟩ := toArray_ok_iff.1 ha
  by_cases he : var.defUnit = .eternity
  · rw [if_pos he] at h; cases h
  rw [if_neg he] at h
  obtain ⟨subs, hw, h⟩ := bind_ok h
  exact ⟨hl, he, subs, hw, h⟩

theorem setInput_eq {var : VarSpec} {s : Store} {p : Period} {v : Vec} (hn : var.neutralized = false)
    (hg : ¬ (p.unit = .eternity ∧ var.defUnit ≠ .eternity)) :
    setInput var s p v =
      match var.rule with
      | .dispatch => dispatchByPeriod var s p v
      | .divide => divideByPeriod var s p v
      | .absent => holderSet var s p v := by
  rw [setInput, if_neg hg, hn]; rfl

theorem setInput_rule {var : VarSpec} {s t : Store} {p : Period} {v : Vec}
    (hn : var.neutralized = false) (h : setInput var s p v = .ok t) :
    (match var.rule with
      | .dispatch => dispatchByPeriod var s p v
      | .divide => divideByPeriod var s p v
      | .absent => holderSet var s p v) = .ok t := by
  unfold setInput at h
  split at h
  · cases h
  · rwa [hn, if_neg Bool.false_ne_true] at h

theorem setInput_neutralized {var : VarSpec} {s t : Store} {p : Period} {v : Vec}
    (hn : var.neutralized = true) (h : setInput var s p v = .ok t) : t = s := by
  rw [setInput, hn] at h
  split at h
  · cases h
  · exact (Except.ok.inj h).symm

theorem setInput_divide_inv {var : VarSpec} {k : VKind} {s t : Store} {p : Period} {v : Vec}
    (hr : var.rule = .divide) (hk : var.kind = k) (hn : var.neutralized = false) (h : setInput var s p v = .ok t) :
    v.length = var.count ∧ var.defUnit ≠ .eternity ∧
    ∃ subs, walk var.defUnit p = .ok subs ∧ divideOn k s subs (castVec k v) = .ok t := by
  subst hk
  have h := setInput_rule hn h
  rw [hr] at h
  exact byPeriod_inv (f := divideOn var.kind s) h

theorem setInput_dispatch_inv {var : VarSpec} {s t : Store} {p : Period} {v : Vec} (hr : var.rule = .dispatch)
    (hn : var.neutralized = false) (h : setInput var s p v = .ok t) :
    v.length = var.count ∧ var.defUnit ≠ .eternity ∧
    ∃ subs, walk var.defUnit p = .ok subs ∧ t = dispatchOn s subs (castVec var.kind v) := by
  have h := setInput_rule hn h
  rw [hr] at h
  obtain ⟨hl, he, subs, hw, ht⟩ := byPeriod_inv (f := fun subs a => .ok (dispatchOn s subs a)) h
  exact ⟨hl, he, subs, hw, (Except.ok.inj ht).symm⟩

theorem setInput_of_walk {var : VarSpec} {s : Store} {p : Period} {v : Vec} {subs : List Period}
    (hl : v.length = var.count) (he : var.defUnit ≠ .eternity) (hp : p.unit ≠ .eternity)
    (hn : var.neutralized = false) (hw : walk var.defUnit p = .ok subs) :
    setInput var s p v =
      match var.rule with
      | .dispatch => .ok (dispatchOn s subs (castVec var.kind v))
      | .divide => divideOn var.kind s subs (castVec var.kind v)
      | .absent => holderSet var s p v := by
  rw [setInput_eq hn fun h => hp h.1]
  cases var.rule <;>
    simp [dispatchByPeriod, divideByPeriod, toArray, hl, he, hw, bind, Except.bind]

/-- the input is not dropped by the `end` test of `Simulation.set_input` / the builder -/
def Live (var : VarSpec) (p : Period) : Prop :=
  match var.endDate with
  | none => True
  | some e => dateOk p.start = true ∧ ¬ e.lt p.start

instance (var : VarSpec) (p : Period) : Decidable (Live var p) := by
  unfold Live; cases var.endDate <;> infer_instance

theorem simSetInput_live {var : VarSpec} {s : Store} {p : Period} {v : Vec} (h : Live var p) :
    simSetInput var s p v = setInput var s p v := by
  unfold simSetInput
  unfold Live at h
  cases he : var.endDate with
  | none => rfl
  | some e => rw [he] at h; simp [h.1, h.2]

theorem simSetInput_ok {var : VarSpec} {s t : Store} {p : Period} {v : Vec}
    (h : simSetInput var s p v = .ok t) : setInput var s p v = .ok t ∨ t = s := by
  unfold simSetInput at h
  cases he : var.endDate with
  | none => rw [he] at h; exact .inl h
  | some e =>
    rw [he] at h
    simp only at h
    split at h
    · cases h
    · split at h
      · exact .inr (Except.ok.inj h).symm
      · exact .inl h

theorem setInput_keeps {var : VarSpec} (hr : var.rule ≠ .absent) {s t : Store} {p : Period} {v : Vec}
    (h : setInput var s p v = .ok t) {q : Period} {w : Vec} (hq : sget s q = some w) : sget t q = some w := by
  by_cases hn : var.neutralized = true
  · exact setInput_neutralized hn h ▸ hq
  have hn : var.neutralized = false := by simpa using hn
  cases hrule : var.rule with
  | absent => exact absurd hrule hr
  | dispatch =>
    obtain ⟨_, _, subs, _, rfl⟩ := setInput_dispatch_inv hrule hn h
    rw [sget_dispatchOn, hq]
  | divide =>
    obtain ⟨_, _, subs, _, hd⟩ := setInput_divide_inv hrule rfl hn h
    exact divideOn_keeps hd hq

theorem feedAll_cons_ok {var : VarSpec} {s t : Store} {p : Period} {v : Vec} {r : List (Period × Vec)} :
    feedAll var s ((p, v) :: r) = .ok t ↔ ∃ s', simSetInput var s p v = .ok s' ∧ feedAll var s' r = .ok t := by
  rw [feedAll]
  cases simSetInput var s p v <;> simp

/-- an invariant of `Holder.set_input` holds along every history: the `end` test only drops inputs -/
theorem feedAll_inv {var : VarSpec} (P : Store → Prop) {calls : List (Period × Vec)}
    (step : ∀ s p v s', (p, v) ∈ calls → P s → setInput var s p v = .ok s' → P s') {s t : Store}
    (hs : P s) (h : feedAll var s calls = .ok t) : P t := by
  induction calls generalizing s with
  | nil => exact Except.ok.inj h ▸ hs
  | cons x xs ih =>
    obtain ⟨p, v⟩ := x
    obtain ⟨s', hd, h⟩ := feedAll_cons_ok.1 h
    refine ih (fun s p v s' hm => step s p v s' (List.mem_cons_of_mem _ hm)) ?_ h
    rcases simSetInput_ok hd with hd | rfl
    · exact step s p v s' List.mem_cons_self hs hd
    · exact hs

theorem feedAll_keeps {var : VarSpec} (hr : var.rule ≠ .absent) {calls : List (Period × Vec)} {s t : Store}
    (h : feedAll var s calls = .ok t) (q : Period) (w : Vec) (hq : sget s q = some w) : sget t q = some w :=
  feedAll_inv (fun s => sget s q = some w) (fun _ _ _ _ _ hs hd => setInput_keeps hr hd hs) hq h

theorem holderSet_ok_inv {var : VarSpec} {s t : Store} {p : Period} {v : Vec}
    (h : holderSet var s p v = .ok t) :
    v.length = var.count ∧ (∃ k, t = sput s k (castVec var.kind v)) ∧
      (var.defUnit ≠ .eternity → var.defUnit = p.unit ∧ p.size ≤ 1) := by
  obtain ⟨a, ha, h⟩ := bind_ok h
  obtain ⟨hl, rfl⟩ := toArray_ok_iff.1 ha
  refine ⟨hl, ?_⟩
  split at h
  · split at h
    · cases h
    · rename_i hc
      exact ⟨⟨_, (Except.ok.inj h).symm⟩, fun _ =>
        ⟨Classical.not_not.1 fun hne => hc (.inl hne), Int.not_lt.1 fun hgt => hc (.inr hgt)⟩⟩
  · rename_i he
    exact ⟨⟨_, (Except.ok.inj h).symm⟩, fun h' => absurd h' he⟩

theorem setInput_ok_checks {var : VarSpec} {s t : Store} {p : Period} {v : Vec}
    (hn : var.neutralized = false) (h : setInput var s p v = .ok t) :
    v.length = var.count ∧ (var.rule ≠ .absent → var.defUnit ≠ .eternity) ∧
      (var.rule = .absent → var.defUnit ≠ .eternity → var.defUnit = p.unit ∧ p.size ≤ 1) := by
  have h := setInput_rule hn h
  cases hr : var.rule with
  | absent =>
    rw [hr] at h
    exact ⟨(holderSet_ok_inv h).1, fun h' => absurd rfl h', fun _ => (holderSet_ok_inv h).2.2⟩
  | dispatch =>
    rw [hr] at h
    obtain ⟨hl, he, -⟩ := byPeriod_inv (f := fun subs a => .ok (dispatchOn s subs a)) h
    exact ⟨hl, fun _ => he, nofun⟩
  | divide =>
    rw [hr] at h
    obtain ⟨hl, he, -⟩ := byPeriod_inv (f := divideOn var.kind s) h
    exact ⟨hl, fun _ => he, nofun⟩

theorem sput_wf {n : Nat} {s : Store} (hwf : WF n s) (k : Period) {a : Vec} (ha : a.length = n) :
    WF n (sput s k a) := by
  intro q w hq
  rw [sget_sput] at hq
  split at hq
  · exact Option.some.inj hq ▸ ha
  · exact hwf q w hq

theorem setInput_wf {var : VarSpec} {s t : Store} {p : Period} {v : Vec} (hwf : WF var.count s)
    (h : setInput var s p v = .ok t) : WF var.count t := by
  by_cases hn : var.neutralized = true
  · exact setInput_neutralized hn h ▸ hwf
  have hn : var.neutralized = false := by simpa using hn
  cases hr : var.rule with
  | dispatch =>
    obtain ⟨hl, _, subs, _, rfl⟩ := setInput_dispatch_inv hr hn h
    exact (dispatchOn_filled s subs _).wf hwf (by rw [castVec_length, hl])
  | divide =>
    obtain ⟨hl, _, subs, _, hd⟩ := setInput_divide_inv hr rfl hn h
    exact divideOn_wf hwf (by rw [castVec_length, hl]) hd
  | absent =>
    have h := setInput_rule hn h
    rw [hr] at h
    obtain ⟨hl, ⟨k, rfl⟩, -⟩ := holderSet_ok_inv h
    exact sput_wf hwf k (by rw [castVec_length, hl])

theorem feedAll_wf {var : VarSpec} {calls : List (Period × Vec)} {s t : Store} (hwf : WF var.count s)
    (h : feedAll var s calls = .ok t) : WF var.count t :=
  feedAll_inv (WF var.count) (fun _ _ _ _ _ hs hd => setInput_wf hs hd) hwf h

theorem feedAll_settled {var : VarSpec} (hr : var.rule = .divide) (hk : var.kind = .num)
    (hn : var.neutralized = false) {calls : List (Period × Vec)} {s t : Store} (hwf : WF var.count s)
    (h : feedAll var s calls = .ok t) {p : Period} {v : Vec} (hm : (p, v) ∈ calls) (hlive : Live var p) :
    ∃ subs, walk var.defUnit p = .ok subs ∧ v.length = var.count ∧ Settled t subs v := by
  have hra : var.rule ≠ .absent := by rw [hr]; decide
  induction calls generalizing s with
  | nil => cases hm
  | cons x xs ih =>
    obtain ⟨p', v'⟩ := x
    obtain ⟨s1, hs, h1⟩ := feedAll_cons_ok.1 h
    rcases List.mem_cons.mp hm with e | hm'
    · obtain ⟨rfl, rfl⟩ := Prod.mk.inj e
      rw [simSetInput_live hlive] at hs
      obtain ⟨hl, _, subs, hw, hd⟩ := setInput_divide_inv hr hk hn hs
      exact ⟨subs, hw, hl, (divideOn_settled (hl ▸ hwf) hd).of_keeps (feedAll_keeps hra h1)⟩
    · exact ih ((simSetInput_ok hs).elim (setInput_wf hwf) fun e => e ▸ hwf) h1 hm'

def piecesOf (var : VarSpec) (p : Period) : List Period :=
  match walk var.defUnit p with
  | .ok l => l
  | .error _ => []

/-- a history of `Simulation.set_input` calls on a divide variable (exact values, no input dropped by the `end` test) is
    the sequence of `divide` steps on the pieces of its periods -/
theorem feedAll_runDivide {var : VarSpec} (hr : var.rule = .divide) (hk : var.kind = .num)
    (hn : var.neutralized = false) {calls : List (Period × Vec)} (hlive : ∀ pv, pv ∈ calls → Live var pv.1)
    {s t : Store} (h : feedAll var s calls = .ok t) :
    runDivide .num s (calls.map (fun pv => (piecesOf var pv.1, pv.2))) = .ok t ∧
      ∀ pv, pv ∈ calls → pv.2.length = var.count := by
  induction calls generalizing s with
  | nil => simp only [feedAll] at h; exact ⟨by simpa [runDivide] using h, fun _ hx => by cases hx⟩
  | cons x xs ih =>
    obtain ⟨p, v⟩ := x
    obtain ⟨s1, hs, h⟩ := feedAll_cons_ok.1 h
    rw [simSetInput_live (hlive (p, v) List.mem_cons_self)] at hs
    obtain ⟨hl, _, subs, hw, hd⟩ := setInput_divide_inv hr hk hn hs
    obtain ⟨h1, h2⟩ := ih (fun pv hpv => hlive pv (List.mem_cons_of_mem _ hpv)) h
    refine ⟨?_, ?_⟩
    · simp only [List.map_cons, piecesOf, hw]
      exact runDivide_cons_ok.2 ⟨s1, hd, h1⟩
    · intro pv hpv
      rcases List.mem_cons.mp hpv with rfl | hpv
      · exact hl
      · exact h2 pv hpv

/-- a history of `Simulation.set_input` calls on a dispatch variable is the sequence of `dispatch` steps on the pieces
    of its periods, with the values converted to the variable's type -/
theorem feedAll_runDispatch {var : VarSpec} (hr : var.rule = .dispatch)
    (hn : var.neutralized = false) {calls : List (Period × Vec)} (hlive : ∀ pv, pv ∈ calls → Live var pv.1)
    {s t : Store} (h : feedAll var s calls = .ok t) :
    t = runDispatch s (calls.map (fun pv => (piecesOf var pv.1, castVec var.kind pv.2))) := by
  induction calls generalizing s with
  | nil => simp only [feedAll] at h; injection h with h; subst h; rfl
  | cons x xs ih =>
    obtain ⟨p, v⟩ := x
    obtain ⟨s1, hs, h⟩ := feedAll_cons_ok.1 h
    rw [simSetInput_live (hlive (p, v) List.mem_cons_self)] at hs
    obtain ⟨_, _, subs, hw, rfl⟩ := setInput_dispatch_inv hr hn hs
    have := ih (fun pv hpv => hlive pv (List.mem_cons_of_mem _ hpv)) h
    simp only [List.map_cons, runDispatch, piecesOf, hw]
    exact this

theorem calcAdd_of_known {var : VarSpec} {t : Store} {p : Period} {N : Nat} {v : Vec} {subs : List Period}
    (hf : PieceFacts p var.defUnit N) (hal : AlignedTo p.start var.defUnit) (hn : var.neutralized = false)
    (hwt : WF var.count t) (hw : walk var.defUnit p = .ok subs) (hl : v.length = var.count)
    (hst : Settled t subs v) : calcAdd var t p = .ok (some v, t) := by
  rw [(hf.calcAdd_eq hal hn t hw).2, ← hl, hst.sumOver (hl ▸ hwt)]

theorem sortKeyed_eq (l : List Keyed) : sortKeyed l = Srt.sortBy (fun x y => keyLe x.1 y.1) l :=
  Srt.sortBy_unique (ins := insertKeyed) (fun _ => rfl) (fun _ _ _ => rfl) rfl (fun _ _ => rfl) l

theorem perm_sortKeyed (l : List Keyed) : (sortKeyed l).Perm l :=
  sortKeyed_eq l ▸ Srt.sortBy_perm _ l

theorem mem_sortKeyed (y : Keyed) (l : List Keyed) : y ∈ sortKeyed l ↔ y ∈ l :=
  (perm_sortKeyed l).mem_iff

theorem keyLe_total (a b : Option Int × Int) : keyLe a b = true ∨ keyLe b a = true := by
  obtain ⟨a1, a2⟩ := a
  obtain ⟨b1, b2⟩ := b
  cases a1 <;> cases b1 <;> simp [keyLe] <;> omega

theorem keyLe_trans (a b c : Option Int × Int) (h1 : keyLe a b = true) (h2 : keyLe b c = true) :
    keyLe a c = true := by
  obtain ⟨a1, a2⟩ := a
  obtain ⟨b1, b2⟩ := b
  obtain ⟨c1, c2⟩ := c
  cases a1 <;> cases b1 <;> cases c1 <;> simp [keyLe] at h1 h2 ⊢ <;> omega

def KeySorted : List Keyed → Prop
  | [] => True
  | x :: r => (∀ y, y ∈ r → keyLe x.1 y.1 = true) ∧ KeySorted r

theorem keySorted_iff (l : List Keyed) : KeySorted l ↔ l.Pairwise (fun x y => keyLe x.1 y.1 = true) := by
  induction l with
  | nil => exact ⟨fun _ => .nil, fun _ => trivial⟩
  | cons x r ih => rw [List.pairwise_cons, ← ih]; rfl

theorem keySorted_sort (l : List Keyed) : KeySorted (sortKeyed l) :=
  (keySorted_iff _).2 <| sortKeyed_eq l ▸
    (Srt.sortBy_pairwise (S := fun _ _ => True) (fun a b => keyLe_total a.1 b.1)
      (fun a b c => keyLe_trans a.1 b.1 c.1) l (List.pairwise_of_forall fun _ _ => trivial)).imp And.left

theorem keySorted_after (A : List Keyed) (y : Keyed) (B : List Keyed) (h : KeySorted (A ++ y :: B)) :
    ∀ x, x ∈ B → keyLe y.1 x.1 = true := by
  induction A with
  | nil => exact fun x hx => h.1 x hx
  | cons a r ih => exact ih h.2

theorem keyAll_spec {doc : List (Period × Vec)} {ks : List Keyed} (h : keyAll doc = .ok ks) :
    ks.map (·.2) = doc ∧ ∀ x, x ∈ ks → feedKey x.2.1 = .ok x.1 := by
  induction doc generalizing ks with
  | nil => simp only [keyAll] at h; injection h with h; subst h; simp
  | cons pv r ih =>
    simp only [keyAll] at h
    cases hk : feedKey pv.1 with
    | error e => rw [hk] at h; cases h
    | ok k =>
      rw [hk] at h
      simp only at h
      cases hr : keyAll r with
      | error e => rw [hr] at h; cases h
      | ok ks' =>
        rw [hr] at h
        injection h with h
        subst h
        obtain ⟨h1, h2⟩ := ih hr
        refine ⟨by simp [h1], ?_⟩
        intro x hx
        rcases List.mem_cons.mp hx with rfl | hx
        · exact hk
        · exact h2 x hx

/-- what `finalize_variables_init` consumes is a rearrangement of the document -/
theorem builderFeed_inv {var : VarSpec} {s t : Store} {doc : List (Period × Vec)}
    (h : builderFeed var s doc = .ok t) :
    ∃ ks, keyAll doc = .ok ks ∧ feedAll var s ((sortKeyed ks).map (·.2)) = .ok t ∧
      ((sortKeyed ks).map (·.2)).Perm doc ∧ KeySorted (sortKeyed ks) := by
  unfold builderFeed at h
  cases hk : keyAll doc with
  | error e => rw [hk] at h; cases h
  | ok ks =>
    rw [hk] at h
    exact ⟨ks, rfl, h, (keyAll_spec hk).1 ▸ (perm_sortKeyed ks).map _, keySorted_sort ks⟩

theorem calcOne_piece {var : VarSpec} (hn : var.neutralized = false) (he : var.defUnit ≠ .eternity)
    (s : Store) (q : Period) (hq : q.unit = var.defUnit ∧ q.size = 1) :
    calcOne var s q = .ok (match sget s q with | some v => v | none => vzero var.count,
      (sumStep var.count (vzero var.count, s) q).2) := by
  unfold calcOne
  rw [if_neg (by rintro ⟨_, h | h⟩ <;> [exact h hq.1; exact h hq.2])]
  simp only [getArray, hn, Bool.false_eq_true, if_false, skey, if_neg he, sumStep]
  cases sget s q <;> rfl

theorem truncR_int (n : Int) : truncR (n : Rat) = (n : Rat) := by
  simp [truncR]

theorem truncR_idem (x : Rat) : truncR (truncR x) = truncR x := by
  unfold truncR
  exact truncR_int _

theorem castVec_idem (k : VKind) (v : Vec) : castVec k (castVec k v) = castVec k v := by
  cases k
  · rfl
  · simp only [castVec, List.map_map]
    apply List.map_congr_left
    intro x _
    exact truncR_idem x
  · rfl

theorem holderSet_accepts {var : VarSpec} (he : var.defUnit ≠ .eternity) (s : Store) (q : Period)
    (hu : q.unit = var.defUnit) (hs : q.size ≤ 1) (w : Vec) (hl : w.length = var.count) :
    holderSet var s q w = .ok (sput s q (castVec var.kind w)) := by
  have h2 : ¬ (var.defUnit ≠ q.unit ∨ q.size > 1) := by
    rintro (h | h)
    · exact h hu.symm
    · omega
  simp only [holderSet, toArray_ok_iff.2 ⟨hl, rfl⟩, bind, Except.bind, if_pos he, if_neg h2]

/-- the loops of `dispatch` / `divide` written with `holder._set` (as in the code) are the pure loops of
the model: on pieces of one definition period `_set` cannot raise, and its second conversion to the
variable's dtype is where an `int` variable's share is truncated -/
theorem fillLoop_eq {var : VarSpec} (hn : var.neutralized = false) (he : var.defUnit ≠ .eternity)
    (w : Vec) (hl : w.length = var.count) (subs : List Period)
    (hu : ∀ q, q ∈ subs → q.unit = var.defUnit ∧ q.size = 1) (s : Store) :
    fillLoop var w s subs = .ok (dispatchOn s subs (castVec var.kind w)) := by
  induction subs generalizing s with
  | nil => rfl
  | cons q r ih =>
    have hq := hu q List.mem_cons_self
    have hstep : fillStepSet var w s q = .ok (fillStep (castVec var.kind w) s q) := by
      unfold fillStepSet fillStep
      simp only [getArray, hn, Bool.false_eq_true, if_false, skey, if_neg he]
      cases hs : sget s q with
      | none => exact holderSet_accepts he s q hq.1 (Int.le_of_eq hq.2) w hl
      | some v => rfl
    simp only [fillLoop, hstep, dispatchOn, List.foldl_cons]
    exact ih (fun x hx => hu x (List.mem_cons_of_mem _ hx)) _

/-- `calculate` on every piece in turn, the results added up (what a caller does by hand) -/
def calcEach (var : VarSpec) : Vec × Store → List Period → Except String (Vec × Store)
  | acc, [] => .ok acc
  | acc, q :: r =>
    match calcOne var acc.2 q with
    | .ok (v, s') => calcEach var (vadd acc.1 v, s') r
    | .error e => .error e

theorem calcEach_eq_fold {var : VarSpec} (hn : var.neutralized = false) (he : var.defUnit ≠ .eternity)
    (subs : List Period) (hu : ∀ q, q ∈ subs → q.unit = var.defUnit ∧ q.size = 1) (acc : Vec × Store) :
    calcEach var acc subs = .ok (subs.foldl (sumStep var.count) acc) := by
  induction subs generalizing acc with
  | nil => rfl
  | cons q r ih =>
    rw [calcEach, calcOne_piece hn he acc.2 q (hu q List.mem_cons_self), List.foldl_cons]
    have : sumStep var.count acc q = (vadd acc.1 (match sget acc.2 q with
        | some v => v | none => vzero var.count), (sumStep var.count (vzero var.count, acc.2) q).2) := by
      unfold sumStep; cases sget acc.2 q <;> rfl
    rw [this]
    exact ih (fun x hx => hu x (List.mem_cons_of_mem _ hx)) _

end OFCore
