import OFCore.HeapSys
import OFCore.Lemmas.HeapSysVar
namespace OFCore.HeapSys
open OFCore.Param

theorem alloc_eq_allocs (h : Heap) (o : Obj) : (h.alloc o).1 = h.allocs [o] := rfl
theorem alloc_snd (h : Heap) (o : Obj) : (h.alloc o).2 = h.next := rfl

theorem next_allocs (h : Heap) (os : List Obj) : (h.allocs os).next = h.next + os.length := by
  simp [Heap.next, Heap.allocs]

theorem next_put (h : Heap) (i : Oid) (o : Obj) : (h.put i o).next = h.next := by
  simp [Heap.next, Heap.put]

theorem look_allocs (h : Heap) (os : List Obj) (i : Oid) :
    (h.allocs os).look i = if i < h.next then h.look i else os[i - h.next]? := by
  show (h.objs ++ os)[i]? = if i < h.objs.length then h.objs[i]? else os[i - h.objs.length]?
  exact List.getElem?_append

theorem look_allocs_lt (h : Heap) (os : List Obj) {i : Oid} (hi : i < h.next) :
    (h.allocs os).look i = h.look i := by rw [look_allocs, if_pos hi]

theorem look_allocs_ge (h : Heap) (os : List Obj) (k : Nat) : (h.allocs os).look (h.next + k) = os[k]? := by
  rw [look_allocs, if_neg (Nat.not_lt.mpr (Nat.le_add_right _ _)), Nat.add_sub_cancel_left]

theorem look_put (h : Heap) (i j : Oid) (o : Obj) :
    (h.put i o).look j = if i = j then (if i < h.next then some o else none) else h.look j := by
  show (h.objs.set i o)[j]? = if i = j then (if i < h.objs.length then some o else none) else h.objs[j]?
  exact List.getElem?_set

theorem look_put_ne (h : Heap) {i j : Oid} (o : Obj) (hne : i ≠ j) : (h.put i o).look j = h.look j := by
  rw [look_put, if_neg hne]

theorem look_none_of_ge (h : Heap) {i : Oid} (hi : h.next ≤ i) : h.look i = none := by
  simp only [Heap.look]; exact List.getElem?_eq_none hi

theorem lt_next_of_look {h : Heap} {i : Oid} {o : Obj} (hl : h.look i = some o) : i < h.next := by
  by_cases hi : i < h.next
  · exact hi
  · rw [look_none_of_ge h (Nat.le_of_not_lt hi)] at hl; cases hl

theorem look_alloc_self (h : Heap) (o : Obj) (os : List Obj) : (h.allocs (o :: os)).look h.next = some o := by
  simpa using look_allocs_ge h (o :: os) 0

theorem look_allocs_of_look {h : Heap} (os : List Obj) {i : Oid} {o : Obj} (hl : h.look i = some o) :
    (h.allocs os).look i = some o := by rw [look_allocs_lt h os (lt_next_of_look hl)]; exact hl

theorem look_put_self {h : Heap} {j : Oid} {o : Obj} (o' : Obj) (hl : h.look j = some o) :
    (h.put j o').look j = some o' := by rw [look_put, if_pos rfl, if_pos (lt_next_of_look hl)]

theorem look_put_of_look {h : Heap} {i j : Oid} {o oj : Obj} (o' : Obj) (hi : h.look i = some o)
    (hj : h.look j = some oj) (hne : oj ≠ o) : (h.put j o').look i = some o := by
  rw [look_put_ne h o' (fun e => by subst e; rw [hj] at hi; cases hi; exact hne rfl)]; exact hi

theorem getSys_congr {h h' : Heap} {i j : Oid} (e : h'.look i = h.look j) : h'.getSys i = h.getSys j := by
  simp only [Heap.getSys, e]
theorem getEnt_congr {h h' : Heap} {i j : Oid} (e : h'.look i = h.look j) : h'.getEnt i = h.getEnt j := by
  simp only [Heap.getEnt, e]
theorem getMap_congr {h h' : Heap} {i j : Oid} (e : h'.look i = h.look j) : h'.getMap i = h.getMap j := by
  simp only [Heap.getMap, e]
theorem getVar_congr {h h' : Heap} {i j : Oid} (e : h'.look i = h.look j) : h'.getVar i = h.getVar j := by
  simp only [Heap.getVar, e]
theorem getPar_congr {h h' : Heap} {i j : Oid} (e : h'.look i = h.look j) : h'.getPar i = h.getPar j := by
  simp only [Heap.getPar, e]

theorem getSys_iff {h : Heap} {i : Oid} {s : SysObj} : h.getSys i = some s ↔ h.look i = some (.sys s) := by
  unfold Heap.getSys
  cases h.look i with
  | none => simp
  | some o => cases o <;> simp
theorem getEnt_iff {h : Heap} {i : Oid} {e : EntObj} : h.getEnt i = some e ↔ h.look i = some (.ent e) := by
  unfold Heap.getEnt
  cases h.look i with
  | none => simp
  | some o => cases o <;> simp
theorem getMap_iff {h : Heap} {i : Oid} {m : List (String × Oid)} :
    h.getMap i = some m ↔ h.look i = some (.vmap m) := by
  unfold Heap.getMap
  cases h.look i with
  | none => simp
  | some o => cases o <;> simp
theorem getVar_iff {h : Heap} {i : Oid} {v : VarObj} : h.getVar i = some v ↔ h.look i = some (.var v) := by
  unfold Heap.getVar
  cases h.look i with
  | none => simp
  | some o => cases o <;> simp
theorem getPar_iff {h : Heap} {i : Oid} {p : ParamTree} : h.getPar i = some p ↔ h.look i = some (.par p) := by
  unfold Heap.getPar
  cases h.look i with
  | none => simp
  | some o => cases o <;> simp

theorem bindVar_eq (h : Heap) (s : SysObj) (m : List (String × Oid)) (name : String) (w : VarObj) :
    bindVar h s m name w = (h.allocs [.var w]).put s.vars (.vmap (dictSet name h.next m)) := rfl

theorem dictGet_dictSet_self {α} (k : String) (v : α) (m : List (String × α)) :
    dictGet k (dictSet k v m) = some v := by
  induction m with
  | nil => simp [dictSet, dictGet]
  | cons p r ih => obtain ⟨k', v'⟩ := p; by_cases hk : k' = k <;> simp [dictSet, dictGet, hk, ih]

theorem dictGet_dictSet_ne {α} {k k' : String} (v : α) (m : List (String × α)) (hne : k' ≠ k) :
    dictGet k' (dictSet k v m) = dictGet k' m := by
  induction m with
  | nil => simp [dictSet, dictGet, Ne.symm hne]
  | cons p r ih =>
    obtain ⟨k₀, v₀⟩ := p
    by_cases hk : k₀ = k
    · subst hk
      simp [dictSet, dictGet, Ne.symm hne]
    · by_cases hk' : k₀ = k'
      · subst hk'
        simp [dictSet, dictGet, hne]
      · simp [dictSet, dictGet, hk, hk', ih]

theorem dictGet_dictDel_ne {α} {k k' : String} (m : List (String × α)) (hne : k' ≠ k) :
    dictGet k' (dictDel k m) = dictGet k' m := by
  induction m with
  | nil => rfl
  | cons p r ih =>
    obtain ⟨k₀, v₀⟩ := p
    by_cases hk : k₀ = k
    · subst hk
      simp [dictDel, dictGet, Ne.symm hne]
    · by_cases hk' : k₀ = k'
      · subst hk'
        simp [dictDel, dictGet, hne]
      · simp [dictDel, dictGet, hk, hk', ih]

theorem mem_of_dictGet {α} {k : String} {v : α} {m : List (String × α)} (h : dictGet k m = some v) :
    (k, v) ∈ m := by
  induction m with
  | nil => cases h
  | cons p r ih =>
    obtain ⟨k', v'⟩ := p
    by_cases hk : k' = k
    · simp [dictGet, hk] at h; simp [hk, h]
    · simp [dictGet, hk] at h; exact List.mem_cons_of_mem _ (ih h)

theorem mem_dictSet {α} {k : String} {v : α} {m : List (String × α)} {e : String × α}
    (he : e ∈ dictSet k v m) : e = (k, v) ∨ e ∈ m := by
  induction m with
  | nil => simpa [dictSet] using he
  | cons p r ih =>
    obtain ⟨k', v'⟩ := p
    by_cases hk : k' = k
    · simp only [dictSet, if_pos hk, List.mem_cons] at he ⊢
      exact he.imp_right Or.inr
    · simp only [dictSet, if_neg hk, List.mem_cons] at he ⊢
      rcases he with he | he
      · exact Or.inr (Or.inl he)
      · exact (ih he).imp_right Or.inr

theorem mem_dictDel {α} {k : String} {m : List (String × α)} {e : String × α}
    (he : e ∈ dictDel k m) : e ∈ m := by
  induction m with
  | nil => exact he
  | cons p r ih =>
    obtain ⟨k', v'⟩ := p
    by_cases hk : k' = k
    · simp only [dictDel, if_pos hk] at he; exact List.mem_cons_of_mem _ he
    · simp only [dictDel, if_neg hk, List.mem_cons] at he ⊢
      exact he.imp_right ih

def Framed (n : Nat) (h h' : Heap) : Prop :=
  (∀ i, i < n → h'.look i = h.look i) ∧ h.next ≤ h'.next

theorem Framed.refl (n : Nat) (h : Heap) : Framed n h h := ⟨fun _ _ => rfl, Nat.le_refl _⟩

theorem Framed.trans {n : Nat} {h₁ h₂ h₃ : Heap} (a : Framed n h₁ h₂) (b : Framed n h₂ h₃) : Framed n h₁ h₃ :=
  ⟨fun i hi => (b.1 i hi).trans (a.1 i hi), Nat.le_trans a.2 b.2⟩

theorem framed_allocs {n : Nat} (h : Heap) (os : List Obj) (hn : n ≤ h.next) : Framed n h (h.allocs os) :=
  ⟨fun i hi => look_allocs_lt h os (Nat.lt_of_lt_of_le hi hn), by rw [next_allocs]; exact Nat.le_add_right _ _⟩

theorem framed_put {n : Nat} (h : Heap) {i : Nat} (o : Obj) (hi : n ≤ i) : Framed n h (h.put i o) :=
  ⟨fun j hj => look_put_ne h o (fun e => by subst e; exact absurd hj (Nat.not_lt.mpr hi)), by rw [next_put]; exact Nat.le_refl _⟩

/-- what a system object created at or after `n` must own -/
def SysOK (n : Nat) : Obj → Prop
  | .sys s => n ≤ s.vars ∧ (s.baseline = none → n ≤ s.params)
  | .ent _ => True
  | .vmap _ => True
  | .var _ => True
  | .par _ => True

def Inv (n : Nat) (h : Heap) : Prop := ∀ X o, n ≤ X → h.look X = some o → SysOK n o

theorem inv_allocs {n : Nat} {h : Heap} (hi : Inv n h) (os : List Obj) (hos : ∀ o ∈ os, SysOK n o) :
    Inv n (h.allocs os) := by
  intro X o hX hl
  rw [look_allocs] at hl
  by_cases hlt : X < h.next
  · rw [if_pos hlt] at hl; exact hi X o hX hl
  · rw [if_neg hlt] at hl; exact hos o (List.mem_of_getElem? hl)

theorem inv_put {n : Nat} {h : Heap} (hi : Inv n h) (i : Oid) (o : Obj) (ho : SysOK n o) :
    Inv n (h.put i o) := by
  intro X o' hX hl
  rw [look_put] at hl
  by_cases hx : i = X
  · rw [if_pos hx] at hl
    by_cases hlt : i < h.next
    · rw [if_pos hlt] at hl; cases hl; exact ho
    · rw [if_neg hlt] at hl; cases hl
  · rw [if_neg hx] at hl; exact hi X o' hX hl

theorem inv_sys {n : Nat} {h : Heap} (hi : Inv n h) {X : Oid} {s : SysObj} (hX : n ≤ X)
    (hs : h.getSys X = some s) : n ≤ s.vars ∧ (s.baseline = none → n ≤ s.params) :=
  hi X _ hX (getSys_iff.1 hs)

/-- "the operation only wrote objects created at or after `n`, and kept the ownership invariant" -/
structure Good (n : Nat) (h h' : Heap) : Prop where
  frame : Framed n h h'
  inv : Inv n h'
  next : n ≤ h'.next

theorem Good.trans {n : Nat} {h₁ h₂ h₃ : Heap} (a : Good n h₁ h₂) (b : Good n h₂ h₃) : Good n h₁ h₃ :=
  ⟨a.frame.trans b.frame, b.inv, b.next⟩

theorem Good.allocs {n : Nat} {h h' : Heap} (g : Good n h h') (os : List Obj) (hos : ∀ o ∈ os, SysOK n o) :
    Good n h (h'.allocs os) :=
  g.trans ⟨framed_allocs h' os g.next, inv_allocs g.inv os hos,
    by rw [next_allocs]; exact Nat.le_trans g.next (Nat.le_add_right _ _)⟩

theorem Good.alloc1 {n : Nat} {h h' : Heap} (g : Good n h h') {o : Obj} (ho : SysOK n o) :
    Good n h (h'.allocs [o]) :=
  g.allocs [o] (fun o' ho' => by rw [List.mem_singleton.mp ho']; exact ho)

theorem Good.put {n : Nat} {h h' : Heap} (g : Good n h h') {i : Nat} (o : Obj) (hge : n ≤ i) (ho : SysOK n o) :
    Good n h (h'.put i o) :=
  g.trans ⟨framed_put h' o hge, inv_put g.inv i o ho, by rw [next_put]; exact g.next⟩

theorem inv_init (h : Heap) : Inv h.next h := fun X o hX hl => by rw [look_none_of_ge h hX] at hl; cases hl

theorem Good.init (h : Heap) : Good h.next h h := ⟨Framed.refl _ _, inv_init h, Nat.le_refl _⟩

structure Keeps (h h' : Heap) : Prop where
  keepVar : ∀ i v, h.getVar i = some v → h'.getVar i = some v
  keepEnt : ∀ i eo, h.getEnt i = some eo → h'.getEnt i = some eo
  grows : h.next ≤ h'.next

theorem Keeps.refl (h : Heap) : Keeps h h := ⟨fun _ _ a => a, fun _ _ a => a, Nat.le_refl _⟩

theorem Keeps.trans {h₁ h₂ h₃ : Heap} (a : Keeps h₁ h₂) (b : Keeps h₂ h₃) : Keeps h₁ h₃ :=
  ⟨fun i v hv => b.keepVar i v (a.keepVar i v hv), fun i e he => b.keepEnt i e (a.keepEnt i e he),
   Nat.le_trans a.grows b.grows⟩

def Obj.isVar : Obj → Bool
  | .var _ => true
  | _ => false

/-- variable and entity objects: the model never overwrites one, and where it does `put` the cell is known by its
    constructor, so that `fixed = false` is `rfl` -/
def Obj.fixed : Obj → Bool
  | .ent _ => true
  | o => o.isVar

theorem keeps_put {h : Heap} {i : Nat} {o : Obj} (o' : Obj) (hl : h.look i = some o) (hf : o.fixed = false) :
    Keeps h (h.put i o') :=
  ⟨fun _ _ hj => getVar_iff.2 (look_put_of_look o' (getVar_iff.1 hj) hl (fun e => by subst e; cases hf)),
   fun _ _ hj => getEnt_iff.2 (look_put_of_look o' (getEnt_iff.1 hj) hl (fun e => by subst e; cases hf)),
   by rw [next_put]; exact Nat.le_refl _⟩

theorem keeps_allocs (h : Heap) (os : List Obj) : Keeps h (h.allocs os) :=
  ⟨fun _ _ hj => getVar_iff.2 (look_allocs_of_look os (getVar_iff.1 hj)),
   fun _ _ hj => getEnt_iff.2 (look_allocs_of_look os (getEnt_iff.1 hj)),
   by rw [next_allocs]; exact Nat.le_add_right _ _⟩

/-- the attributes `Variable.__init__` computes: not the formulas nor the neutralised flag, and the label only
    of a variable that is not neutralised (`get_annualized_variable` / `get_neutralized_variable` overwrite
    these on the instance) -/
def AttrsEq (a b : VarObj) : Prop :=
  a.cls = b.cls ∧ a.valueType = b.valueType ∧ a.default = b.default ∧ a.entity = b.entity ∧
  a.defPeriod = b.defPeriod ∧ a.endDate = b.endDate ∧ a.setInput = b.setInput ∧ a.attrs = b.attrs ∧
  (b.isNeutralized = false → a.label = b.label)

instance (a b : VarObj) : Decidable (AttrsEq a b) := by unfold AttrsEq; infer_instance

theorem AttrsEq.refl (a : VarObj) : AttrsEq a a := ⟨rfl, rfl, rfl, rfl, rfl, rfl, rfl, rfl, fun _ => rfl⟩

theorem AttrsEq.set (c : VarObj) (fs : List (Int × Fml)) (n : Bool) (l : Option String) (hl : n = false → c.label = l) :
    AttrsEq c { c with formulas := fs, isNeutralized := n, label := l } := ⟨rfl, rfl, rfl, rfl, rfl, rfl, rfl, rfl, hl⟩

namespace AttrsEq
variable {a b : VarObj} (e : AttrsEq a b)
include e
theorem valueType : a.valueType = b.valueType := e.2.1
theorem default : a.default = b.default := e.2.2.1
theorem entity : a.entity = b.entity := e.2.2.2.1
theorem defPeriod : a.defPeriod = b.defPeriod := e.2.2.2.2.1
theorem endDate : a.endDate = b.endDate := e.2.2.2.2.2.1
theorem setInput : a.setInput = b.setInput := e.2.2.2.2.2.2.1
theorem attrs : a.attrs = b.attrs := e.2.2.2.2.2.2.2.1
theorem label : b.isNeutralized = false → a.label = b.label := e.2.2.2.2.2.2.2.2
end AttrsEq

/-- `Variable.clone()` (repaired, F-C14b) succeeds on every variable object and gives back its
    attributes -/
def Consistent (h : Heap) : Prop := ∀ i v, h.getVar i = some v → ∃ c, cloneVar h v = .ok c ∧ AttrsEq c v

def Rebuilds (h : Heap) (w : VarObj) : Prop := ∃ c, cloneVar h w = .ok c ∧ AttrsEq c w

theorem construct_some {h : Heap} {i : Oid} {b : VarObj} (hb : h.getVar i = some b) (cls : ClassDef) :
    construct h cls (some i) = constructWith cls (some i) (some b) := by
  unfold construct; dsimp only; rw [hb]

theorem construct_keeps {h h' : Heap} (hk : Keeps h h') {cls : ClassDef} {bid : Option Oid} {c : VarObj} (hc : construct h cls bid = .ok c) :
    construct h' cls bid = .ok c := by
  unfold construct at hc ⊢
  cases bid with
  | none => exact hc
  | some i =>
    dsimp only at hc ⊢
    cases hb : h.getVar i with
    | none => rw [hb] at hc; cases hc
    | some b => rw [hb] at hc; rw [hk.keepVar i b hb]; exact hc

theorem Rebuilds.of_keeps {h h' : Heap} (hk : Keeps h h') {w : VarObj} (hr : Rebuilds h w) : Rebuilds h' w :=
  let ⟨c, hcl, ha⟩ := hr; ⟨c, construct_keeps hk hcl, ha⟩

theorem rebuilds_of_construct {h : Heap} {cls : ClassDef} {bid : Option Oid} {c w : VarObj}
    (hc : construct h cls bid = .ok c) (e1 : w.cls = c.cls) (e2 : w.baseline = c.baseline) (ha : AttrsEq c w) :
    Rebuilds h w := by
  obtain ⟨f1, f2, _⟩ := construct_fields hc
  exact ⟨c, by unfold cloneVar; rw [e1, e2, f1, f2]; exact hc, ha⟩

theorem consistent_step {h h' : Heap} (hc : Consistent h) (hk : Keeps h h')
    (hnew : ∀ i w, h'.getVar i = some w → h.getVar i = some w ∨ Rebuilds h' w) : Consistent h' := by
  intro i w hw
  rcases hnew i w hw with hold | hn
  · exact Rebuilds.of_keeps hk (hc i w hold)
  · exact hn

theorem consistent_put {h : Heap} (hc : Consistent h) {j : Nat} {o : Obj} (o' : Obj) (hl : h.look j = some o)
    (hf : o.fixed = false) (hv' : o'.isVar = false) : Consistent (h.put j o') :=
  consistent_step hc (keeps_put o' hl hf)
    (fun i x hg => Or.inl (by
      by_cases hji : j = i
      · subst hji
        rw [getVar_iff, look_put_self o' hl] at hg
        cases hg; cases hv'
      · rw [getVar_congr (look_put_ne h o' hji)] at hg; exact hg))

theorem consistent_allocs {h : Heap} (hc : Consistent h) (os : List Obj)
    (hos : ∀ w, Obj.var w ∈ os → Rebuilds (h.allocs os) w) : Consistent (h.allocs os) :=
  consistent_step hc (keeps_allocs h os) (fun i w hg => by
    have hl := getVar_iff.1 hg
    rw [look_allocs] at hl
    by_cases hlt : i < h.next
    · rw [if_pos hlt] at hl; exact Or.inl (getVar_iff.2 hl)
    · rw [if_neg hlt] at hl; exact Or.inr (hos w (List.mem_of_getElem? hl)))

theorem consistent_alloc_var {h : Heap} (hc : Consistent h) {w : VarObj} (hw : Rebuilds h w) :
    Consistent (h.allocs [.var w]) :=
  consistent_allocs hc _ fun w' hw' => by
    simp only [List.mem_singleton, Obj.var.injEq] at hw'
    rw [hw']; exact hw.of_keeps (keeps_allocs h _)

theorem consistent_allocs_nonvar {h : Heap} (hc : Consistent h) (os : List Obj) (hos : ∀ o ∈ os, o.isVar = false) :
    Consistent (h.allocs os) :=
  consistent_allocs hc os (fun w hw => by cases hos _ hw)

theorem resolve_eq {h : Heap} {X : Oid} {s : SysObj} {m : List (String × Oid)}
    (hs : h.getSys X = some s) (hm : h.getMap s.vars = some m) (name : String) :
    resolve h X name = dictGet name m := by
  unfold resolve; rw [hs]; dsimp only; rw [hm]

theorem resolve_some_inv {h : Heap} {X : Oid} {name : String} {vid : Oid} (hr : resolve h X name = some vid) :
    ∃ s m, h.getSys X = some s ∧ h.getMap s.vars = some m ∧ dictGet name m = some vid := by
  unfold resolve at hr
  split at hr
  · cases hr
  rename_i s hs
  split at hr
  · cases hr
  rename_i m hm
  exact ⟨s, m, hs, hm, hr⟩

def dictObs (h : Heap) (m : List (String × Oid)) (name : String) : Option VarView :=
  match dictGet name m with | none => none | some vid => (h.getVar vid).map (·.view)

theorem varObs_eq {h : Heap} {X : Oid} {s : SysObj} {m : List (String × Oid)}
    (hs : h.getSys X = some s) (hm : h.getMap s.vars = some m) (name : String) :
    varObs h X name = dictObs h m name := by
  unfold varObs resolve; rw [hs]; dsimp only; rw [hm]; rfl

theorem varObs_of_resolve {h : Heap} {X vid : Oid} {name : String} {v : VarObj}
    (hr : resolve h X name = some vid) (hv : h.getVar vid = some v) : varObs h X name = some v.view := by
  unfold varObs; rw [hr]; dsimp only; rw [hv]; rfl

theorem dictObs_cons (h : Heap) (k : String) (vid : Oid) (r : List (String × Oid)) (name : String) :
    dictObs h ((k, vid) :: r) name = if k = name then (h.getVar vid).map (·.view) else dictObs h r name := by
  unfold dictObs
  by_cases hk : k = name
  · simp only [dictGet, if_pos hk]
  · simp only [dictGet, if_neg hk]

theorem dictObs_keeps {h h' : Heap} {m : List (String × Oid)} (he : ∀ e ∈ m, ∃ v, h.getVar e.2 = some v)
    (hk : Keeps h h') (name : String) :
    dictObs h' m name = dictObs h m name := by
  unfold dictObs
  cases hd : dictGet name m with
  | none => rfl
  | some vid =>
    obtain ⟨v, hv⟩ := he _ (mem_of_dictGet hd)
    dsimp only
    rw [hk.keepVar _ _ hv, hv]

theorem paramObs_eq {h : Heap} {X : Oid} {s : SysObj} {p : ParamTree}
    (hs : h.getSys X = some s) (hp : h.getPar s.params = some p) (pn : String) (d : Int) :
    paramObs h X pn d = match dictGet pn p with | none => none | some l => pget l d := by
  unfold paramObs; rw [hs]; dsimp only; rw [hp]; rfl

theorem paramObs_eq_hist (h : Heap) (X : Oid) (pn : String) (d : Int) :
    paramObs h X pn d = match paramHist h X pn with | none => none | some l => pget l d := by
  unfold paramObs paramHist
  cases h.getSys X with
  | none => rfl
  | some s =>
    dsimp only
    cases h.getPar s.params with
    | none => rfl
    | some p => rfl

theorem paramHist_eq {h : Heap} {X : Oid} {s : SysObj} {p : ParamTree}
    (hs : h.getSys X = some s) (hp : h.getPar s.params = some p) (pn : String) :
    paramHist h X pn = dictGet pn p := by
  unfold paramHist; rw [hs]; dsimp only; rw [hp]

theorem varObs_of_keeps {h h' : Heap} {X X' : Oid} {s s' : SysObj} {m m' : List (String × Oid)}
    (hs : h.getSys X = some s) (hm : h.getMap s.vars = some m) (he : ∀ e ∈ m, ∃ v, h.getVar e.2 = some v)
    (hs' : h'.getSys X' = some s') (hm' : h'.getMap s'.vars = some m')
    (hk : Keeps h h') {name : String}
    (hd : dictGet name m' = dictGet name m) : varObs h' X' name = varObs h X name := by
  rw [varObs_eq hs' hm', varObs_eq hs hm, ← dictObs_keeps he hk]
  unfold dictObs
  rw [hd]

theorem varObsVia_of_bound {h : Heap} {e X : Oid} {eo : EntObj} (he : h.getEnt e = some eo)
    (hb : eo.system = some X) (name : String) : varObsVia h e name = varObs h X name := by
  unfold varObsVia varObs resolveVia
  rw [he]; dsimp only; rw [hb]

theorem obs_congr {h h' : Heap} {Z : Oid} {s : SysObj} {m : List (String × Oid)} {p : ParamTree}
    (hs : h.getSys Z = some s) (hm : h.getMap s.vars = some m) (hp : h.getPar s.params = some p)
    (e1 : h'.look Z = h.look Z) (e2 : h'.look s.vars = h.look s.vars) (e3 : h'.look s.params = h.look s.params)
    (e4 : ∀ name vid, dictGet name m = some vid → h'.look vid = h.look vid) :
    (∀ name, varObs h' Z name = varObs h Z name) ∧ (∀ pn d, paramObs h' Z pn d = paramObs h Z pn d) := by
  have hs' : h'.getSys Z = some s := by rw [getSys_congr e1]; exact hs
  have hm' : h'.getMap s.vars = some m := by rw [getMap_congr e2]; exact hm
  have hp' : h'.getPar s.params = some p := by rw [getPar_congr e3]; exact hp
  refine ⟨fun name => ?_, fun pn d => by rw [paramObs_eq hs' hp', paramObs_eq hs hp]⟩
  rw [varObs_eq hs' hm', varObs_eq hs hm]
  unfold dictObs
  cases hd : dictGet name m with
  | none => rfl
  | some vid => dsimp only; rw [getVar_congr (e4 _ _ hd)]

theorem bindVar_spec {h : Heap} {X : Oid} {s : SysObj} {m : List (String × Oid)}
    (hs : h.getSys X = some s) (hm : h.getMap s.vars = some m) (name : String) (w : VarObj) :
    resolve (bindVar h s m name w) X name = some h.next ∧
    (bindVar h s m name w).getVar h.next = some w ∧ Keeps h (bindVar h s m name w) ∧
    (bindVar h s m name w).getSys X = some s ∧
    (bindVar h s m name w).getMap s.vars = some (dictSet name h.next m) := by
  have lX := look_allocs_of_look [Obj.var w] (getSys_iff.1 hs)
  have lM := look_allocs_of_look [Obj.var w] (getMap_iff.1 hm)
  have hs' := getSys_iff.2 (look_put_of_look (.vmap (dictSet name h.next m)) lX lM (by simp))
  have hm' := getMap_iff.2 (look_put_self (.vmap (dictSet name h.next m)) lM)
  rw [bindVar_eq]
  exact ⟨by rw [resolve_eq hs' hm', dictGet_dictSet_self],
    getVar_iff.2 (look_put_of_look _ (look_alloc_self h _ _) lM (by simp)),
    (keeps_allocs h _).trans (keeps_put _ lM rfl), hs', hm'⟩

end OFCore.HeapSys
