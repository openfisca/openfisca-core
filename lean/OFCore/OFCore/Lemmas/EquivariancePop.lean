import OFCore.Lemmas.Selection
import OFCore.Lemmas.GroupAgg
/-!
A closed part of a group population whose persons are listed in population order keeps every group's
members in order (`valuesOf_restrictPop`), hence the same n-th member for every n (`valueNth_restrictPop`).
-/
namespace OFCore.Equivariance
open OFCore OFCore.Engine OFCore.RuleSys OFCore.Grp

variable {p : Pop} {sel gsel : List Nat}

theorem ClosedPop.sel_lt (h : ClosedPop p sel gsel) : ∀ i ∈ sel, i < p.ms.length := h.1
theorem ClosedPop.gsel_lt (h : ClosedPop p sel gsel) : ∀ g ∈ gsel, g < p.n := h.2.1
theorem ClosedPop.sel_increasing (h : ClosedPop p sel gsel) : sel.Pairwise (· < ·) := h.2.2.1
theorem ClosedPop.gsel_nodup (h : ClosedPop p sel gsel) : gsel.Nodup := h.2.2.2.1
theorem ClosedPop.mem_iff (h : ClosedPop p sel gsel) {i : Nat} (hi : i < p.ms.length) :
    i ∈ sel ↔ (p.ms.getD i default).group ∈ gsel := h.2.2.2.2 i hi

theorem ClosedPop.group_mem (h : ClosedPop p sel gsel) {i : Nat} (hi : i ∈ sel) :
    (p.ms.getD i default).group ∈ gsel :=
  (h.mem_iff (h.sel_lt i hi)).1 hi

theorem roleOk_role (role : Option Role) (g : Nat) (m : Member) :
    roleOk role ⟨g, m.role⟩ = roleOk role m := by
  cases role <;> rfl

theorem valuesOf_restrictPop {α : Type} (hcl : ClosedPop p sel gsel)
    (a : List α) (d : α) (ha : a.length = p.ms.length) (role : Option Role) (g' : Nat)
    (hg' : g' < gsel.length) :
    valuesOf (restrictPop p sel gsel) role g' (selArr sel a d) = valuesOf p role (gsel.getD g' 0) a := by
  rw [valuesOf_eq_range p a d ha]
  unfold valuesOf
  rw [show (restrictPop p sel gsel).ms.zip (selArr sel a d) = sel.map fun i =>
      ((⟨posIn gsel (p.ms.getD i default).group, (p.ms.getD i default).role⟩ : Member), a.getD i d)
    from List.zip_map', List.filter_map, List.map_map]
  -- the kept members of the group in selection order, and its members in storage order
  refine congrArg (List.map fun i => a.getD i d)
    (eq_of_increasing (hcl.sel_increasing.filter _) (List.pairwise_lt_range.filter _) fun i => ?_)
  simp only [List.mem_filter, Function.comp, roleOk_role, Bool.and_eq_true, beq_iff_eq, List.mem_range]
  exact kept_group_iff (grp := fun i => (p.ms.getD i default).group) hcl.sel_lt hcl.gsel_nodup
    (fun _ => hcl.mem_iff) hg' i _

theorem restrictPop_group_lt (hcl : ClosedPop p sel gsel) :
    ∀ m ∈ (restrictPop p sel gsel).ms, m.group < (restrictPop p sel gsel).n := by
  intro m hm
  simp only [restrictPop, List.mem_map] at hm
  obtain ⟨i, hi, rfl⟩ := hm
  exact posIn_lt gsel _ (hcl.group_mem hi)

theorem valueNth_restrictPop {α : Type} (hcl : ClosedPop p sel gsel)
    (hg : ∀ m ∈ p.ms, m.group < p.n) (a : List α) (d : α) (ha : a.length = p.ms.length) (hne : sel ≠ []) (k : Nat) :
    ∃ r, valueNth p k a d = .ok r ∧ r.length = p.n ∧
      valueNth (restrictPop p sel gsel) k (selArr sel a d) d = .ok (selArr gsel r d) := by
  obtain ⟨i, hi⟩ := List.exists_mem_of_ne_nil sel hne
  have hpne : p.ms ≠ [] := List.ne_nil_of_length_pos (Nat.zero_lt_of_lt (hcl.sel_lt i hi))
  have hqne : (restrictPop p sel gsel).ms ≠ [] := fun h => hne (List.map_eq_nil_iff.1 h)
  refine ⟨_, valueNth_eq p k a d ha hpne hg, by simp, ?_⟩
  rw [valueNth_eq (restrictPop p sel gsel) k (selArr sel a d) d (by simp [restrictPop, selArr]) hqne
    (restrictPop_group_lt hcl)]
  congr 1
  exact range_map_eq_selArr gsel p.n _ _ d
    (fun g' hg' => by rw [valuesOf_restrictPop hcl a d ha none g' hg']) hcl.gsel_lt

end OFCore.Equivariance
