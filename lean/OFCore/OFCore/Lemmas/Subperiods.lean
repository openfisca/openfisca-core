import OFCore.Lemmas.Period
/-!
`Period.subperiods p u` is `offsetsFrom base u count` for a base period `subBase p u` and a number of pieces
`subCount p u`.  A period aligned to `u` is its own base, and when `u` divides the period's unit (`Divides`) the count
reaches the day after the period: the tiling theorem follows for every such pair without another analysis of the unit.
-/
namespace OFCore

/-- the period `get_subperiods` counts its offsets from -/
def subBase (p : Period) : DUnit → Except String Period
  | .year => p.thisYear
  | .month => p.firstMonth
  | .week => p.firstWeek
  | .day => .ok p.firstDay
  | .weekday => .ok p.firstWeekday
  | .eternity => .error "value"

/-- the number of pieces `get_subperiods` asks for -/
def subCount (p : Period) : DUnit → Except String Int
  | .year => .ok p.size
  | .month => p.sizeInMonths
  | .week => p.sizeInWeeks
  | .day => p.sizeInDays
  | .weekday => p.sizeInWeekdays
  | .eternity => .error "value"

theorem subperiods_eq (p : Period) (u : DUnit) : p.subperiods u =
    if unitWeight p.unit < unitWeight u then .error "value" else
      subBase p u >>= fun b => subCount p u >>= fun n => offsetsFrom b u n := by
  unfold Period.subperiods
  split
  · rfl
  · cases u <;> rfl

theorem subperiods_eq_ok {p : Period} {u : DUnit} {qs : List Period} : p.subperiods u = .ok qs ↔
    ¬ unitWeight p.unit < unitWeight u ∧
      ∃ b n, subBase p u = .ok b ∧ subCount p u = .ok n ∧ offsetsFrom b u n = .ok qs := by
  rw [subperiods_eq]
  by_cases hw : unitWeight p.unit < unitWeight u
  · rw [if_pos hw]; exact ⟨nofun, fun h => absurd hw h.1⟩
  · simp only [if_neg hw, bind_eq_ok]
    exact ⟨fun ⟨b, hb, n, hn, h⟩ => ⟨hw, b, n, hb, hn, h⟩, fun ⟨_, b, n, hb, hn, h⟩ => ⟨b, hb, n, hn, h⟩⟩

theorem subBase_spec {p b : Period} {u : DUnit} (h : subBase p u = .ok b) :
    u ≠ .eternity ∧ b.unit = u ∧ b.size = 1 ∧
      (p.start.Valid → b.start.Valid ∧ AlignedTo b.start u ∧ b.lo ≤ p.lo ∧ p.lo ≤ b.hi) := by
  have first : ∀ s, instOffset p.start .firstOf u = .ok (some s) → p.start.Valid →
      s.Valid ∧ AlignedTo s u ∧ ord s ≤ ord p.start ∧ ord p.start ≤ (Period.mk u s 1).hi := fun s hs hv =>
    let ⟨_, hsv, hal, hlo, hhi, _⟩ := firstOf_spec p.start hv u s hs
    ⟨hsv, hal, hlo, hhi⟩
  cases u
  case eternity => cases h
  case year => cases h; exact ⟨nofun, rfl, rfl, first _ rfl⟩
  case month => cases h; exact ⟨nofun, rfl, rfl, first _ rfl⟩
  case week =>
    obtain ⟨hok, d, hd, rfl⟩ := firstWeek_eq_ok.1 h
    exact ⟨nofun, rfl, rfl, first d (instOffset_firstOf_week_eq_ok.2 ⟨hok, hd⟩)⟩
  case day | weekday =>
    cases h
    exact ⟨nofun, rfl, rfl, fun hv => ⟨hv, trivial, Int.le_refl _, by show ord p.start ≤ ord p.start + 1 - 1; omega⟩⟩

theorem subBase_ok {p : Period} {u : DUnit} {b : Period} (h : subBase p u = .ok b) :
    u ≠ .eternity ∧ b.unit = u ∧ b.size = 1 ∧ (p.start.Valid → b.start.Valid) :=
  let ⟨hu, hbu, hbs, hb⟩ := subBase_spec h
  ⟨hu, hbu, hbs, fun hv => (hb hv).1⟩

theorem subBase_aligned {p : Period} {u : DUnit} {b : Period} (hv : p.start.Valid)
    (hal : AlignedTo p.start u) (h : subBase p u = .ok b) : b = ⟨u, p.start, 1⟩ := by
  cases u
  case eternity => cases h
  case year => cases h; rw [← Date.eq_mk p.start _ _ _ rfl hal.1 hal.2]
  case month => cases h; rw [← Date.eq_mk p.start _ _ _ rfl rfl hal]
  case week =>
    obtain ⟨_, d, hd, rfl⟩ := firstWeek_eq_ok.1 h
    rw [startOfWeek_monday _ hv hal] at hd
    rw [(chk_ok hd).1]
  case day => cases h; rfl
  case weekday => cases h; rfl

theorem AlignedTo.noClip {c : Date} {u : DUnit} (h : AlignedTo c u) : NoClip c u := by
  rintro (rfl | rfl)
  · have : c.d = 1 := h; omega
  · have : c.d = 1 := h.2; omega

/-- `u` divides the periods of unit `pu` exactly; weekdays do not divide years, whose weekdays are counted in whole weeks -/
def Divides (u pu : DUnit) : Prop :=
  u = .day ∨ (u = .weekday ∧ pu ≠ .year) ∨ (u.family = pu.family ∧ u.rank ≤ pu.rank)

instance (u pu : DUnit) : Decidable (Divides u pu) := by unfold Divides; infer_instance

/-- with the weights of the generated table a unit never outweighs one it divides: `get_subperiods` does not refuse -/
theorem Divides.weight {u pu : DUnit} (hd : Divides u pu) (hpu : pu ≠ .eternity) :
    u ≠ .eternity ∧ ¬ unitWeight u > unitWeight pu := by
  revert u pu; decide +kernel

theorem Divides.unit_of {u pu : DUnit} (hd : Divides u pu) (hpu : pu ≠ .eternity) :
    (u = .weekday → pu ≠ .year) ∧ (u = .week → pu = .week) ∧
    (u = .month → pu = .month ∨ pu = .year) ∧ (u = .year → pu = .year) := by
  revert u pu; decide +kernel

theorem subCount_reaches {p : Period} {u : DUnit} {n : Int} (hp : p.WF) (hd : Divides u p.unit)
    (h : subCount p u = .ok n) : 0 ≤ n ∧ shiftDate p.start n u = shiftDate p.start p.size p.unit := by
  obtain ⟨hne, hv, hsz⟩ := hp
  have hp : p.WF := ⟨hne, hv, hsz⟩
  have hd := hd.unit_of hne
  have hll := lo_le_hi p hp
  have hhi := hi_eq_shiftDate p hne
  -- a day count `hi - lo + 1` from the start is the ordinal of the day after, which is a date
  have days : n = p.hi - p.lo + 1 → 0 ≤ n ∧ addDays p.start n = shiftDate p.start p.size p.unit := fun hn => by
    refine ⟨by omega, ?_⟩
    rw [addDays, show ord p.start + n = ord (shiftDate p.start p.size p.unit) by rw [Period.lo] at hn; omega]
    exact ofOrd_ord _ (shiftDate_valid _ hv _ (by omega) _)
  cases u
  case eternity => cases h
  case day => exact days (sizeInDays_count p n h)
  case weekday => exact days (sizeInWeekdays_count p (hd.1 rfl) n h)
  case week =>
    have hpu := hd.2.1 rfl
    simp only [subCount, Period.sizeInWeeks, hpu] at h
    cases h
    rw [hpu]; exact ⟨by omega, rfl⟩
  case month =>
    rcases hd.2.2.1 rfl with hpu | hpu
    · simp only [subCount, Period.sizeInMonths, hpu, reduceCtorEq, if_true, if_false] at h
      cases h
      rw [hpu]; exact ⟨by omega, rfl⟩
    · simp only [subCount, Period.sizeInMonths, hpu, if_true] at h
      cases h
      rw [hpu, shiftDate, shiftDate, Int.mul_comm]; exact ⟨by omega, rfl⟩
  case year =>
    have hpu := hd.2.2.2 rfl
    cases h
    rw [hpu]; exact ⟨by omega, rfl⟩

theorem subperiods_tiles (p : Period) (u : DUnit) (hp : p.WF) (hd : Divides u p.unit)
    (hal : AlignedTo p.start u) (qs : List Period) (h : p.subperiods u = .ok qs) :
    Tiles qs p.lo p.hi ∧ ∀ q ∈ qs, q.unit = u ∧ q.size = 1 := by
  obtain ⟨-, b, n, hb, hn, h⟩ := subperiods_eq_ok.1 h
  have hv := hp.2.1
  have hu := (subBase_ok hb).1
  cases subBase_aligned hv hal hb
  obtain ⟨h0, hr⟩ := subCount_reaches hp hd hn
  have := offsetsFrom_tiles p.start hv u hu hal.noClip n h0 qs h
  rwa [hr, ← hi_eq_shiftDate p hp.1] at this

theorem subperiods_pieces {p : Period} {u : DUnit} {qs : List Period} (hv : p.start.Valid)
    (h : p.subperiods u = .ok qs) : u ≠ .eternity ∧ ∃ s : Date, s.Valid ∧ (AlignedTo p.start u → s = p.start) ∧
      ∀ q ∈ qs, ∃ i : Nat, q = ⟨u, shiftDate s i u, 1⟩ := by
  obtain ⟨-, b, n, hb, -, h⟩ := subperiods_eq_ok.1 h
  obtain ⟨hu, hbu, hbs, hbv⟩ := subBase_ok hb
  refine ⟨hu, b.start, hbv hv, fun hal => by rw [subBase_aligned hv hal hb], fun q hq => ?_⟩
  obtain ⟨-, i, rfl⟩ := offsetsFrom_pieces _ _ _ _ h q hq
  exact ⟨i, by rw [hbu, hbs]⟩

theorem subperiods_wf {p : Period} {u : DUnit} {qs : List Period} (hv : p.start.Valid)
    (h : p.subperiods u = .ok qs) : ∀ q ∈ qs, q.WF := by
  obtain ⟨hu, s, hs, -, hq⟩ := subperiods_pieces hv h
  intro q hq'
  obtain ⟨i, rfl⟩ := hq q hq'
  exact ⟨hu, shiftDate_valid _ hs i (Int.natCast_nonneg i) u, Int.le_refl 1⟩

theorem subperiods_day_pieces (p : Period) (hv : p.start.Valid) (ds : List Period)
    (h : p.subperiods .day = .ok ds) : ∀ q ∈ ds, IsDayPiece q := by
  obtain ⟨-, s, -, hs, hq⟩ := subperiods_pieces hv h
  cases hs trivial
  intro q hq'
  obtain ⟨i, rfl⟩ := hq q hq'
  refine ⟨rfl, rfl, ?_⟩
  simp only [shiftDate, Period.lo, addDays]
  rw [ord_ofOrd_any]

end OFCore
