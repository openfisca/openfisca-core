import Mathlib.Algebra.Order.Field.Rat
import Mathlib.Tactic.Positivity
import OFCore.TaxScale
/-!
# Tax scales: `numpy.round` is monotone (rounded thresholds stay weakly sorted) and keeps 0
-/
namespace OFCore.Sca

/-- `roundHalfEven` as a function of the floor `n` and the fractional part `d` -/
def rheAux (n : Int) (d : Rat) : Int :=
  if d < 1/2 then n else if 1/2 < d then n + 1 else if n % 2 = 0 then n else n + 1

theorem roundHalfEven_eq (q : Rat) : roundHalfEven q = rheAux q.floor (q - (q.floor : Rat)) := rfl

theorem rheAux_bounds (n : Int) (d : Rat) : n ≤ rheAux n d ∧ rheAux n d ≤ n + 1 := by
  unfold rheAux; split_ifs <;> omega

theorem rheAux_mono (n : Int) {d d' : Rat} (h : d ≤ d') : rheAux n d ≤ rheAux n d' := by
  unfold rheAux
  by_cases h1 : d' < 1/2
  · rw [if_pos h1, if_pos (lt_of_le_of_lt h h1)]
  · by_cases h2 : 1/2 < d
    · rw [if_neg h1, if_pos (lt_of_lt_of_le h2 h), if_neg (not_lt.mpr h2.le), if_pos h2]
    · rw [if_neg h1, if_neg h2]; split_ifs <;> omega

theorem roundHalfEven_mono {q q' : Rat} (h : q ≤ q') : roundHalfEven q ≤ roundHalfEven q' := by
  have hf : q.floor ≤ q'.floor := Rat.le_floor_iff.mpr (le_trans (Rat.floor_le q) h)
  rw [roundHalfEven_eq, roundHalfEven_eq]
  rcases Int.lt_or_eq_of_le hf with hlt | heq
  · have := (rheAux_bounds q.floor (q - (q.floor : Rat))).2
    have := (rheAux_bounds q'.floor (q' - (q'.floor : Rat))).1
    omega
  · rw [← heq]
    exact rheAux_mono _ (sub_le_sub_right h _)

theorem roundDec_mono (d : Nat) {q q' : Rat} (h : q ≤ q') : roundDec d q ≤ roundDec d q' := by
  unfold roundDec
  have hp : (0 : Rat) < 10 ^ d := by positivity
  have h1 : q * 10 ^ d ≤ q' * 10 ^ d := mul_le_mul_of_nonneg_right h hp.le
  exact div_le_div_of_nonneg_right (Int.cast_le.mpr (roundHalfEven_mono h1)) hp.le

theorem thrMap_mono (ε f : Rat) (rd : Option Nat) (h : 0 < f + ε) : ∀ a b, a ≤ b → thrMap ε f rd a ≤ thrMap ε f rd b := by
  intro a b hab
  have : (f + ε) * a ≤ (f + ε) * b := mul_le_mul_of_nonneg_left hab h.le
  cases rd with
  | none => exact this
  | some d => exact roundDec_mono d this

theorem roundHalfEven_zero : roundHalfEven 0 = 0 := by decide +kernel

theorem roundDec_zero (d : Nat) : roundDec d 0 = 0 := by
  unfold roundDec
  rw [zero_mul, roundHalfEven_zero, Int.cast_zero, zero_div]

theorem brTerm_zero_rate (rd : Option Nat) (a : Rat) : brTerm rd 0 a = 0 := by
  cases rd with
  | none => exact zero_mul a
  | some d => show roundDec d (0 * roundDec d a) = 0; rw [zero_mul, roundDec_zero]

end OFCore.Sca
