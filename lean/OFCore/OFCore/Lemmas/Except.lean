/-!
A `do` block in `Except ε` answers exactly when each of its steps does (`bind_eq_ok`, `map_eq_ok`), and a `List.mapM`
that answers is a pointwise fact about the two lists (`mapM_eq_ok`), so that what else is needed of it is a fact about
`List.map`. A concrete computation and a decidable fact about its answer are decided together (`exists_ok_of_decide`).
-/
namespace OFCore

section
variable {ε α β : Type}

theorem bind_eq_ok {x : Except ε α} {f : α → Except ε β} {b : β} :
    x >>= f = .ok b ↔ ∃ a, x = .ok a ∧ f a = .ok b := by
  cases x with
  | error e => exact ⟨nofun, nofun⟩
  | ok a => exact ⟨fun h => ⟨a, rfl, h⟩, fun ⟨_, h, hf⟩ => by cases h; exact hf⟩

theorem bind_ok {x : Except ε α} {f : α → Except ε β} {b : β}
    (h : (x >>= f) = .ok b) : ∃ a, x = .ok a ∧ f a = .ok b := bind_eq_ok.1 h

theorem map_eq_ok {x : Except ε α} {f : α → β} {b : β} :
    x.map f = .ok b ↔ ∃ a, x = .ok a ∧ f a = b := by
  cases x with
  | error e => exact ⟨nofun, nofun⟩
  | ok a => exact ⟨fun h => ⟨a, rfl, Except.ok.inj h⟩, fun ⟨_, h, hf⟩ => by cases h; rw [← hf]; rfl⟩

theorem pure_eq_ok {a b : α} : (pure a : Except ε α) = .ok b ↔ a = b :=
  ⟨Except.ok.inj, congrArg _⟩

theorem toBool_ok (a : α) : (Except.ok a : Except ε α).toBool = true := rfl
theorem toBool_error (e : ε) : (Except.error e : Except ε α).toBool = false := rfl

theorem toOption_eq_some {x : Except ε α} {a : α} : x.toOption = some a ↔ x = .ok a := by
  cases x <;> simp [Except.toOption]

theorem toOption_eq_none {x : Except ε α} : x.toOption = none ↔ ∃ e, x = .error e := by
  cases x <;> simp [Except.toOption]

theorem error_of_not_ok {x : Except ε α} (h : ∀ a, x ≠ .ok a) : ∃ e, x = .error e := by
  cases x with
  | error e => exact ⟨e, rfl⟩
  | ok a => exact absurd rfl (h a)

/-- inverts a first-match chain of guards that raise, one guard at a time: `simp only [f, ite_error_eq_ok]` -/
theorem ite_error_eq_ok {c : Prop} [Decidable c] {e : ε} {x : Except ε α} {r : α} :
    (if c then .error e else x) = .ok r ↔ ¬ c ∧ x = .ok r := by
  by_cases h : c
  · rw [if_pos h]; exact ⟨nofun, fun h' => absurd h h'.1⟩
  · rw [if_neg h]; exact ⟨fun h' => ⟨h, h'⟩, fun h' => h'.2⟩

theorem error_iff_of {x : Except ε α} {P : Prop} (hr : P → ∃ e, x = .error e)
    (ha : ¬ P → ∃ r, x = .ok r) : (∃ e, x = .error e) ↔ P := by
  refine ⟨fun ⟨e, he⟩ => Classical.not_not.1 fun hn => ?_, hr⟩
  obtain ⟨r, hr'⟩ := ha hn
  rw [hr'] at he; cases he

/-- `x` is evaluated once, where deciding `x = .ok _` first evaluates it again for every further conjunct -/
theorem exists_ok_of_decide {x : Except ε α} {P : α → Prop}
    (inst : ∀ a, Decidable (P a) := by exact fun _ => inferInstance)
    (h : (match x with | .ok t => decide (P t) | .error _ => false) = true) : ∃ t, x = .ok t ∧ P t := by
  cases x with
  | ok t => exact ⟨t, rfl, of_decide_eq_true h⟩
  | error e => cases h

theorem exists_ok_of_decide₂ {x : Except ε α} {y : Except ε β} {P : α → β → Prop}
    (inst : ∀ a b, Decidable (P a b) := by exact fun _ _ => inferInstance)
    (h : (match x, y with | .ok t, .ok t' => decide (P t t') | _, _ => false) = true) :
    ∃ t t', x = .ok t ∧ y = .ok t' ∧ P t t' := by
  cases x with
  | error e => cases h
  | ok t =>
    cases y with
    | error e => cases h
    | ok t' => exact ⟨t, t', rfl, rfl, of_decide_eq_true h⟩

theorem exists_ok_and {x : Except ε α} {P : α → Prop} (h : x.toBool = true)
    (hP : ∀ t, x = .ok t → P t) : ∃ t, x = .ok t ∧ P t := by
  cases x with
  | ok t => exact ⟨t, rfl, hP t rfl⟩
  | error e => cases h

theorem mapM_cons_eq_ok {f : α → Except ε β} {a : α} {l : List α} {ys : List β} :
    (a :: l).mapM f = .ok ys ↔ ∃ y, f a = .ok y ∧ ∃ ys', l.mapM f = .ok ys' ∧ y :: ys' = ys := by
  simp only [List.mapM_cons, bind_eq_ok, pure_eq_ok]

theorem mapM_eq_ok {f : α → Except ε β} : ∀ {l : List α} {ys : List β},
    l.mapM f = .ok ys ↔ l.map f = ys.map .ok
  | [], ys => by cases ys <;> simp [List.mapM_nil, pure_eq_ok]
  | a :: l, ys => by
    rw [mapM_cons_eq_ok]
    cases ys with
    | nil => simp
    | cons y ys => simp [mapM_eq_ok (l := l)]

theorem mapM_mem_ok {f : α → Except ε β} {xs : List α} {ys : List β}
    (h : xs.mapM f = .ok ys) {y : β} (hy : y ∈ ys) : ∃ x ∈ xs, f x = .ok y := by
  have : Except.ok y ∈ xs.map f := mapM_eq_ok.1 h ▸ List.mem_map_of_mem hy
  simpa using this

theorem mapM_ok_eq_map {f : α → Except ε β} {g : α → β} {l : List α} {ys : List β}
    (hg : ∀ x ∈ l, ∀ y, f x = .ok y → y = g x) (h : l.mapM f = .ok ys) : ys = l.map g := by
  have h := mapM_eq_ok.1 h
  apply List.ext_getElem (by simpa using (congrArg List.length h).symm)
  intro i h1 h2
  have := congrArg (·[i]?) h
  simp only [List.getElem?_map, List.getElem?_eq_getElem h1,
    List.getElem?_eq_getElem (by simpa using h2 : i < l.length), Option.map_some,
    Option.some.injEq] at this
  rw [List.getElem_map]
  exact hg _ (List.getElem_mem _) _ this

theorem mapM_ok_map (f : α → Except ε β) (g : α → β) (l : List α)
    (h : ∀ x ∈ l, f x = .ok (g x)) : l.mapM f = .ok (l.map g) :=
  mapM_eq_ok.2 (by rw [List.map_map]; exact List.map_congr_left h)

end
end OFCore
