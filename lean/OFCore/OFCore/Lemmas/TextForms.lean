import OFCore.Lemmas.Text
namespace OFCore

theorem intText_nat (n : Nat) : intText (n : Int) = natDigits n := by
  unfold intText; simp

theorem digitsVal_isDig (cs : List Char) (hne : cs ≠ []) (h : ∀ c ∈ cs, IsDig c) :
    digitsVal cs = some (foldVal 0 cs) := by
  have key : ∀ (cs : List Char), (∀ c ∈ cs, IsDig c) → ∀ acc : Nat,
      cs.foldl (fun acc c => match acc, digitVal c with
        | some a, some d => some (a * 10 + d) | _, _ => none) (some acc) = some (foldVal acc cs) := by
    intro cs
    induction cs with
    | nil => intro _ acc; rfl
    | cons c cs ih =>
      intro h acc
      obtain ⟨k, _, hv, _⟩ := (h c List.mem_cons_self).val
      simp only [List.foldl_cons, hv]
      rw [ih (fun c' hc' => h c' (List.mem_cons_of_mem _ hc'))]
      simp [foldVal, hv]
  cases cs with
  | nil => exact absurd rfl hne
  | cons c cs => exact key _ h 0

theorem digitsVal_natDigits (n : Nat) : digitsVal (natDigits n) = some n := by
  rw [digitsVal_isDig _ (natDigits_ne_nil n) (natDigits_isDig n), foldVal_natDigits]

theorem year_digits (y : Nat) (h1 : 1000 ≤ y) (h2 : y ≤ 9999) :
    ∃ a b c d, natDigits y = [a, b, c, d] ∧ digitsVal [a, b, c, d] = some y :=
  ⟨_, _, _, _, natDigits4 y h1 h2, natDigits4 y h1 h2 ▸ digitsVal_natDigits y⟩

theorem pad2_digits (m : Nat) (h : m ≤ 99) :
    ∃ a b, pad 2 m = [a, b] ∧ two a b = some m ∧ IsDig a ∧ IsDig b := by
  refine ⟨_, _, pad2 m h, ?_, ⟨_, by omega, rfl⟩, ⟨_, by omega, rfl⟩⟩
  rw [two_dc _ _ (by omega) (by omega)]; congr 1; omega

theorem pad_isDig (w n : Nat) : ∀ c ∈ pad w n, IsDig c := by
  intro c hc
  unfold pad at hc
  rcases List.mem_append.1 hc with h | h
  · have := List.eq_of_mem_replicate h; exact ⟨0, by omega, by rw [this]; rfl⟩
  · exact natDigits_isDig n c h

theorem natDigits_inj (a b : Nat) (h : natDigits a = natDigits b) : a = b := by
  have := foldVal_natDigits a
  rw [h, foldVal_natDigits] at this
  exact this.symm

theorem intText_inj (i j : Int) (h : intText i = intText j) : i = j := by
  unfold intText at h
  have hd : ∀ n : Nat, ∀ cs, '-' :: cs ≠ natDigits n := by
    intro n cs he
    have hmem : '-' ∈ natDigits n := by rw [← he]; exact List.mem_cons_self
    exact (natDigits_isDig n _ hmem).ne_minus rfl
  split at h <;> split at h
  · injection h with _ h
    have := natDigits_inj _ _ h; omega
  · exact absurd h (hd _ _)
  · exact absurd h.symm (hd _ _)
  · have := natDigits_inj _ _ h; omega

theorem intText_no_us (i : Int) : '_' ∉ intText i := by
  unfold intText
  intro hm
  split at hm
  · rcases List.mem_cons.1 hm with h | h
    · cases h
    · exact (natDigits_isDig _ _ h).ne_us rfl
  · exact (natDigits_isDig _ _ hm).ne_us rfl

theorem append_sep_inj (sep : Char) : ∀ (a a' b b' : List Char), sep ∉ a → sep ∉ a' →
    a ++ sep :: b = a' ++ sep :: b' → a = a' ∧ b = b' := by
  intro a
  induction a with
  | nil =>
    intro a' b b' _ h' h
    cases a' with
    | nil => simp only [List.nil_append] at h; injection h with _ h; exact ⟨rfl, h⟩
    | cons c cs =>
      simp only [List.nil_append, List.cons_append] at h
      injection h with h1 _
      exact absurd (h1 ▸ List.mem_cons_self) h'
  | cons x xs ih =>
    intro a' b b' hx h' h
    cases a' with
    | nil =>
      simp only [List.nil_append, List.cons_append] at h
      injection h with h1 _
      exact absurd (h1 ▸ List.mem_cons_self) hx
    | cons c cs =>
      simp only [List.cons_append] at h
      injection h with h1 h2
      obtain ⟨e1, e2⟩ := ih cs b b' (fun hm => hx (List.mem_cons_of_mem _ hm)) (fun hm => h' (List.mem_cons_of_mem _ hm)) h2
      exact ⟨by rw [h1, e1], e2⟩

end OFCore
