import OFCore.Lemmas.HeapBasics
/-!
# `LocI I r m Q`: started on a heap whose region `r` is closed and that satisfies `I`, the computation `m` keeps both, leaves
every other region as it was, opens none, answers `Q`, and its answer and what it makes of region `r` depend on region `r`
alone.  The rules are proved once for every `I`, those of assignment and allocation for every `Stable` one.
-/
namespace OFCore.Heap
open HM

structure LocI {α : Type} (I : Heap → Prop) (r : Nat) (m : HM α) (Q : α → Prop) : Prop where
  frame : ∀ h, Closed r h → I h →
    Closed r (m h).2 ∧ I (m h).2 ∧ (∀ r', r' ≠ r → (m h).2[r']? = h[r']?) ∧ (∀ a, (m h).1 = .ok a → Q a)
  loc : ∀ h1 h2, Closed r h1 → I h1 → h1[r]? = h2[r]? → (m h2).1 = (m h1).1 ∧ (m h2).2[r]? = (m h1).2[r]?
  len : ∀ h, Closed r h → I h → (m h).2.length = h.length

/-- `o` may be assigned where `old` stands without a change to what an invariant of simulations looks at -/
def Kept (old o : Obj) : Prop :=
  o.leafKind ≠ 0
  ∨ (∃ a b, old = .sim a ∧ o = .sim b ∧ b.memConfig = a.memConfig ∧ b.dir = a.dir ∧ b.pops = a.pops ∧ b.persons = a.persons)
  ∨ (∃ a b, old = .pop a ∧ o = .pop b ∧ b.members = a.members ∧ b.sim = a.sim)

/-- what is asked of an invariant for the rules of assignment and allocation; `Disk`: the on-disk storages a new holder of
region `r` may have under it -/
structure Stable (r : Nat) (I : Heap → Prop) (Disk : Option Id → Prop) : Prop where
  disk_reg : ∀ {d : Option Id}, Disk d → ∀ x, d = some x → x.reg = r
  put : ∀ {h : Heap} {p : Id} {old o : Obj}, I h → h.get? p = some old → Kept old o → I (h.put p o)
  push : ∀ {h : Heap} {o : Obj}, I h → o.sim? = none → o.pop? = none → (∀ ho, o = .holder ho → Disk ho.disk) →
    I (h.push r o)

/-- what the open recursion `rec` of the engine is assumed to be (hypotheses `hrec`): local when called on a simulation of
    the region; `LocI.calcF` discharges it by induction on the fuel -/
def LocI.Rec (I : Heap → Prop) (r : Nat) (rec : Id → Var → Period → HM Vec) : Prop :=
  ∀ x v p, x.reg = r → LocI I r (rec x v p) (fun _ => True)

section
variable {I : Heap → Prop} {r : Nat}

theorem LocI.pure {α : Type} {Q : α → Prop} (a : α) (hq : Q a) : LocI I r (pure a : HM α) Q :=
  ⟨fun h c i => ⟨c, i, fun _ _ => rfl, fun b e => by cases e; exact hq⟩, fun _ _ _ _ e => ⟨rfl, e.symm⟩, fun _ _ _ => rfl⟩

theorem LocI.fail {α : Type} {Q : α → Prop} (e : Err) : LocI I r (fail e : HM α) Q :=
  ⟨fun h c i => ⟨c, i, fun _ _ => rfl, fun b e => by cases e⟩, fun _ _ _ _ e => ⟨rfl, e.symm⟩, fun _ _ _ => rfl⟩

theorem LocI.bind {α β : Type} {m : HM α} {f : α → HM β} {Q : α → Prop} {Q' : β → Prop}
    (lm : LocI I r m Q) (lf : ∀ a, Q a → LocI I r (f a) Q') : LocI I r (m >>= f) Q' := by
  refine ⟨fun h c i => ?_, fun h1 h2 c i e => ?_, fun h c i => ?_⟩
  · have fm := lm.frame h c i
    cases hr : (m h).1 with
    | error er => rw [bind_of_fst_error hr]; exact ⟨fm.1, fm.2.1, fm.2.2.1, nofun⟩
    | ok a =>
      have ff := (lf a (fm.2.2.2 a hr)).frame _ fm.1 fm.2.1
      rw [bind_of_fst_ok hr]
      exact ⟨ff.1, ff.2.1, fun r' hr' => (ff.2.2.1 r' hr').trans (fm.2.2.1 r' hr'), ff.2.2.2⟩
  · have l1 := lm.loc h1 h2 c i e
    have fm := lm.frame h1 c i
    cases hr : (m h1).1 with
    | error er => rw [bind_of_fst_error hr, bind_of_fst_error (l1.1.trans hr)]; exact ⟨rfl, l1.2⟩
    | ok a =>
      rw [bind_of_fst_ok hr, bind_of_fst_ok (l1.1.trans hr)]
      exact (lf a (fm.2.2.2 a hr)).loc _ _ fm.1 fm.2.1 l1.2.symm
  · have fm := lm.frame h c i
    cases hr : (m h).1 with
    | error er => rw [bind_of_fst_error hr]; exact lm.len h c i
    | ok a => rw [bind_of_fst_ok hr]; exact ((lf a (fm.2.2.2 a hr)).len _ fm.1 fm.2.1).trans (lm.len h c i)

theorem LocI.ite {α : Type} {c : Prop} [Decidable c] {a b : HM α} {Q : α → Prop}
    (la : c → LocI I r a Q) (lb : ¬ c → LocI I r b Q) : LocI I r (if c then a else b) Q := by
  split
  · exact la ‹_›
  · exact lb ‹_›

theorem LocI.tryFinally {α : Type} {m : HM α} {fin : HM Unit} {Q : α → Prop} {Q' : Unit → Prop}
    (lm : LocI I r m Q) (lf : LocI I r fin Q') : LocI I r (tryFinally m fin) Q := by
  refine ⟨fun h c i => ?_, fun h1 h2 c i e => ?_, fun h c i => ?_⟩
  · have fm := lm.frame h c i
    have ff := lf.frame _ fm.1 fm.2.1
    rw [tryFinally_snd]
    exact ⟨ff.1, ff.2.1, fun r' hr => (ff.2.2.1 r' hr).trans (fm.2.2.1 r' hr), fun a e => fm.2.2.2 a (tryFinally_ok e)⟩
  · have l1 := lm.loc h1 h2 c i e
    have fm := lm.frame h1 c i
    have l2 := lf.loc _ _ fm.1 fm.2.1 l1.2.symm
    rw [tryFinally_snd, tryFinally_snd, tryFinally_fst, tryFinally_fst, l1.1, l2.1]
    exact ⟨rfl, l2.2⟩
  · have fm := lm.frame h c i
    rw [tryFinally_snd]
    exact (lf.len _ fm.1 fm.2.1).trans (lm.len h c i)

theorem LocI.catchSpiral {α : Type} {m handler : HM α} {Q : α → Prop}
    (lm : LocI I r m Q) (lh : LocI I r handler Q) : LocI I r (catchSpiral m handler) Q := by
  refine ⟨fun h c i => ?_, fun h1 h2 c i e => ?_, fun h c i => ?_⟩
  · have fm := lm.frame h c i
    by_cases hs : (m h).1 = .error .spiral
    · have fh := lh.frame _ fm.1 fm.2.1
      rw [catchSpiral_spiral hs]
      exact ⟨fh.1, fh.2.1, fun r' hr => (fh.2.2.1 r' hr).trans (fm.2.2.1 r' hr), fh.2.2.2⟩
    · rw [catchSpiral_other hs]; exact fm
  · have l1 := lm.loc h1 h2 c i e
    have fm := lm.frame h1 c i
    by_cases hs : (m h1).1 = .error .spiral
    · rw [catchSpiral_spiral hs, catchSpiral_spiral (l1.1.trans hs)]
      exact lh.loc _ _ fm.1 fm.2.1 l1.2.symm
    · rw [catchSpiral_other hs, catchSpiral_other (l1.1 ▸ hs)]; exact l1
  · have fm := lm.frame h c i
    by_cases hs : (m h).1 = .error .spiral
    · rw [catchSpiral_spiral hs]; exact (lh.len _ fm.1 fm.2.1).trans (lm.len h c i)
    · rw [catchSpiral_other hs]; exact lm.len h c i

theorem LocI.ofAccess {α : Type} {p : Id} {m : HM α} {Q : α → Prop} {res : Obj → Except Err α}
    {upd : Obj → Option Obj} (a : Access p m res upd) (hp : p.reg = r)
    (hu : ∀ old o, upd old = some o → InReg r old → InReg r o)
    (hi : ∀ h old o, I h → h.get? p = some old → upd old = some o → I (h.put p o))
    (hq : ∀ h old b, I h → h.get? p = some old → InReg r old → res old = .ok b → Q b) : LocI I r m Q := by
  refine ⟨fun h c i => ?_, fun h1 h2 c _ e => ?_, fun h c _ => ?_⟩
  · cases hg : h.get? p with
    | none => rw [a.absent h hg]; exact ⟨c, i, fun _ _ => rfl, nofun⟩
    | some old =>
      rw [a.present h old hg]
      have hin := c.get hp hg
      cases hu' : upd old with
      | none => exact ⟨c, i, fun _ _ => rfl, fun b e => hq h old b i hg hin e⟩
      | some o =>
        exact ⟨c.put p o (fun _ => hu old o hu' hin), hi h old o i hg hu',
          fun r' hr => put_other h p o r' (hp ▸ hr), fun b e => hq h old b i hg hin e⟩
  · have eg : h2.get? p = h1.get? p := (get?_congr (hp ▸ e)).symm
    cases hg : h1.get? p with
    | none => rw [a.absent h1 hg, a.absent h2 (eg.trans hg)]; exact ⟨rfl, e.symm⟩
    | some old =>
      rw [a.present h1 old hg, a.present h2 old (eg.trans hg)]
      cases upd old with
      | none => exact ⟨rfl, e.symm⟩
      | some o => subst hp; exact ⟨rfl, by simp only [put_same, e]⟩
  · cases hg : h.get? p with
    | none => rw [a.absent h hg]
    | some old =>
      rw [a.present h old hg]
      cases upd old with
      | none => rfl
      | some o => exact List.length_modify ..

theorem LocI.rd {p : Id} (hp : p.reg = r) : LocI I r (rd p) (InReg r) :=
  .ofAccess (rd_access p) hp (fun _ _ e => by cases e) (fun _ _ _ _ _ e => by cases e)
    (fun _ _ _ _ _ ho e => by cases e; exact ho)

variable {Disk : Option Id → Prop} (S : Stable r I Disk)
include S

theorem LocI.wrLeaf {p : Id} {o : Obj} (hp : p.reg = r) (ho : InReg r o) : LocI I r (wrLeaf p o) (fun _ => True) :=
  .ofAccess (wrLeaf_access p o) hp (fun _ _ e _ => by split at e <;> cases e; exact ho)
    (fun _ _ _ i hg e => by split at e <;> cases e; rename_i hk; exact S.put i hg (Or.inl hk.2))
    (fun _ _ _ _ _ _ _ => trivial)

theorem LocI.updSim {x : Id} {f : SimObj → SimObj} (hx : x.reg = r)
    (hf : ∀ so, InReg r (.sim so) → InReg r (.sim (f so))) (h1 : ∀ so, (f so).memConfig = so.memConfig)
    (h2 : ∀ so, (f so).dir = so.dir) (h3 : ∀ so, (f so).pops = so.pops) (h4 : ∀ so, (f so).persons = so.persons) :
    LocI I r (updSim x f) (fun _ => True) :=
  .ofAccess (updSim_access x f) hx (fun old _ e hin => by cases old <;> cases e; exact hf _ hin)
    (fun _ old _ i hg e => by
      cases old <;> cases e
      exact S.put i hg (Or.inr (Or.inl ⟨_, _, rfl, rfl, h1 _, h2 _, h3 _, h4 _⟩)))
    (fun _ _ _ _ _ _ _ => trivial)

theorem LocI.updPop {p : Id} {f : PopObj → PopObj} (hp : p.reg = r)
    (hf : ∀ po, InReg r (.pop po) → InReg r (.pop (f po))) (h1 : ∀ po, (f po).members = po.members)
    (h2 : ∀ po, (f po).sim = po.sim) : LocI I r (updPop p f) (fun _ => True) :=
  .ofAccess (updPop_access p f) hp (fun old _ e hin => by cases old <;> cases e; exact hf _ hin)
    (fun _ old _ i hg e => by
      cases old <;> cases e
      exact S.put i hg (Or.inr (Or.inr ⟨_, _, rfl, rfl, h1 _, h2 _⟩)))
    (fun _ _ _ _ _ _ _ => trivial)

theorem LocI.new {o : Obj} (ho : InReg r o) (hs : o.sim? = none) (hp : o.pop? = none)
    (hh : ∀ x, o = .holder x → Disk x.disk) : LocI I r (new r o) (fun p => p.reg = r) := by
  constructor
  · intro h c i
    unfold Heap.new
    cases hg : h[r]? with
    | none => exact ⟨c, i, fun _ _ => rfl, fun a e => by cases e⟩
    | some l =>
      exact ⟨c.push r o (fun _ => ho), S.push i hs hp hh, fun r' hr => push_other h r o r' hr, fun a e => by cases e; rfl⟩
  · intro h1 h2 c _ e
    unfold Heap.new
    rw [← e]
    cases hg : h1[r]? with
    | none => exact ⟨rfl, by rw [← e, hg]⟩
    | some l =>
      refine ⟨rfl, ?_⟩
      simp only [push_same, ← e]
  · intro h _ _
    unfold Heap.new
    cases h[r]? with
    | none => rfl
    | some l => exact List.length_modify ..

end

end OFCore.Heap
