import OFCore.EnumCodec
import OFCore.Lemmas.ListGetD
import OFCore.Lemmas.InsertionSort
/-!
Looking a name up.  The specification's way (`nameIndex?`, and `valueIndex?` of a class body) is `List.findIdx?`,
the first position that holds the name.  numpy's way (`lookupSorted`: sort the names, leftmost binary search,
read the sorter) finds the same position, distinct names or not, because the sort is stable
(`lookupSorted_first`, `lookupSorted_eq`).
-/
namespace OFCore.EnumCodec

theorem slt_trans {a b c : String} : a < b → b < c → a < c := String.lt_trans

/-- `insertPair` tests `q.1 < p.1`, the mirror of `le p q` -/
theorem sortPairs_eq (l : List (String × Nat)) :
    sortPairs l = Srt.sortBy (fun p q => !decide (q.1 < p.1)) l :=
  Srt.sortBy_unique (ins := insertPair) (fun _ => rfl)
    (fun p q qs => by rw [insertPair]; by_cases h : q.1 < p.1 <;> simp [h]) rfl (fun _ _ => rfl) l

theorem sortPairs_perm (l : List (String × Nat)) : (sortPairs l).Perm l :=
  sortPairs_eq l ▸ Srt.sortBy_perm _ l

theorem indexed_eq_zipIdx (k : Nat) (names : List String) : indexed k names = names.zipIdx k := by
  induction names generalizing k with
  | nil => rfl
  | cons s ss ih => rw [indexed, ih, List.zipIdx_cons]

theorem indexed_pairwise (k : Nat) (l : List String) : (indexed k l).Pairwise (fun a b => a.2 < b.2) := by
  rw [indexed_eq_zipIdx, ← List.pairwise_map (f := Prod.snd) (R := (· < ·)), List.zipIdx_map_snd]
  exact List.pairwise_lt_range'

theorem sortPairs_stable (names : List String) :
    (sortPairs (indexed 0 names)).Pairwise fun a b => a.1 ≤ b.1 ∧ (b.1 ≤ a.1 → a.2 < b.2) :=
  sortPairs_eq _ ▸ (Srt.sortBy_pairwise
    (fun a b => by
      simp only [Bool.not_eq_true', decide_eq_false_iff_not, String.not_lt]
      exact String.le_total a.1 b.1)
    (fun a b c h1 h2 => by
      simp only [Bool.not_eq_true', decide_eq_false_iff_not, String.not_lt] at h1 h2 ⊢
      exact String.le_trans h1 h2) _ (indexed_pairwise 0 names)).imp fun h => by
      simpa only [Srt.Before, Bool.not_eq_true', decide_eq_false_iff_not, String.not_lt] using h

/-- non-decreasing, the keys being read as `bsearchLeft` reads them (`getD · ""`) -/
def SortedD (keys : List String) : Prop :=
  ∀ i j, i ≤ j → j < keys.length → keys.getD i "" ≤ keys.getD j ""

theorem sortedNames_sorted (names : List String) : SortedD (sortedNames names) := by
  have hp : (sortedNames names).Pairwise (· ≤ ·) := List.pairwise_map.mpr ((sortPairs_stable names).imp And.left)
  intro i j hij hj
  have hi : i < (sortedNames names).length := Nat.lt_of_le_of_lt hij hj
  rw [List.getD_of_lt _ _ hi, List.getD_of_lt _ _ hj]
  rcases Nat.lt_or_eq_of_le hij with hlt | rfl
  · exact List.pairwise_iff_getElem.mp hp i j hi hj hlt
  · exact String.le_refl _

theorem bsearchLeft_spec (keys : List String) (v : String) (hs : SortedD keys) :
    ∀ fuel lo hi, lo ≤ hi → hi ≤ keys.length → hi ≤ lo + fuel →
      (∀ j, j < lo → keys.getD j "" < v) →
      (∀ j, hi ≤ j → j < keys.length → v ≤ keys.getD j "") →
      (∀ j, j < bsearchLeft keys v fuel lo hi → keys.getD j "" < v) ∧
      (∀ j, bsearchLeft keys v fuel lo hi ≤ j → j < keys.length → v ≤ keys.getD j "") := by
  intro fuel
  induction fuel with
  | zero =>
    intro lo hi hle _ hfuel hL hR
    cases Nat.le_antisymm hle hfuel
    exact ⟨hL, hR⟩
  | succ fuel ih =>
    intro lo hi hle hhi hfuel hL hR
    rw [bsearchLeft]
    by_cases hlt : lo < hi
    · -- of the midpoint only `lo ≤ mid < hi` is used
      have hmid1 : lo ≤ lo + (hi - lo) / 2 := Nat.le_add_right ..
      have hmid2 : lo + (hi - lo) / 2 < hi :=
        Nat.add_lt_of_lt_sub' (Nat.div_lt_self (Nat.sub_pos_of_lt hlt) (by decide))
      simp only [if_pos hlt]
      generalize lo + (hi - lo) / 2 = mid at hmid1 hmid2 ⊢
      have hmidk : mid < keys.length := Nat.lt_of_lt_of_le hmid2 hhi
      by_cases hk : keys.getD mid "" < v
      · rw [if_pos hk]
        exact ih (mid + 1) hi hmid2 hhi (by omega)
          (fun j hj => Std.lt_of_le_of_lt (hs j mid (Nat.le_of_lt_succ hj) hmidk) hk) hR
      · rw [if_neg hk]
        exact ih lo mid hmid1 (Nat.le_of_lt hmidk) (by omega) hL
          fun j hj hjl => String.le_trans (String.not_lt.mp hk) (hs mid j hj hjl)
    · rw [if_neg hlt]
      cases Nat.le_antisymm hle (Nat.le_of_not_lt hlt)
      exact ⟨hL, hR⟩

theorem searchsortedLeft_spec (keys : List String) (v : String) (hs : SortedD keys) :
    (∀ j, j < searchsortedLeft keys v → keys.getD j "" < v) ∧
    (∀ j, searchsortedLeft keys v ≤ j → j < keys.length → v ≤ keys.getD j "") :=
  bsearchLeft_spec keys v hs keys.length 0 keys.length (Nat.zero_le _) (Nat.le_refl _)
    (Nat.zero_add _ ▸ Nat.le_refl _)
    (fun j hj => absurd hj (Nat.not_lt_zero j)) (fun _ hj hj' => absurd hj' (Nat.not_lt.mpr hj))

theorem searchsortedLeft_mem (keys : List String) (v : String) (hs : SortedD keys) (hv : v ∈ keys) :
    ∃ h : searchsortedLeft keys v < keys.length, keys[searchsortedLeft keys v] = v := by
  obtain ⟨hL, hR⟩ := searchsortedLeft_spec keys v hs
  obtain ⟨q, hq, hqv⟩ := List.getElem_of_mem hv
  have hqD : keys.getD q "" = v := by rw [List.getD_of_lt _ _ hq, hqv]
  generalize searchsortedLeft keys v = p at hL hR ⊢
  -- `p ≤ q`, as the key at `q` is not `< v`; so `v ≤ keys[p] ≤ keys[q] = v`
  have hpq : p ≤ q := Nat.le_of_not_lt fun hlt => by
    have := hL q hlt
    rw [hqD] at this
    exact String.lt_irrefl v this
  have hp : p < keys.length := Nat.lt_of_le_of_lt hpq hq
  have hle := hs p q hpq hq
  rw [hqD] at hle
  refine ⟨hp, ?_⟩
  rw [← List.getD_of_lt _ "" hp]
  exact String.le_antisymm hle (hR p (Nat.le_refl _) hp)

theorem mem_sortedNames {names : List String} {v : String} : v ∈ sortedNames names ↔ v ∈ names := by
  unfold sortedNames
  rw [((sortPairs_perm (indexed 0 names)).map Prod.fst).mem_iff, indexed_eq_zipIdx,
    List.zipIdx_map_fst]

theorem argsort_length (names : List String) : (argsort names).length = (sortedNames names).length := by
  simp [argsort, sortedNames]

theorem nameIndex?_eq_findIdx? (names : List String) (s : String) :
    nameIndex? names s = names.findIdx? (fun n => decide (n = s)) := by
  induction names with
  | nil => rfl
  | cons n ns ih => simp only [nameIndex?, List.findIdx?_cons, decide_eq_true_eq, ih]

theorem valueIndex?_eq_findIdx? (vs : List Nat) (v : Nat) :
    valueIndex? vs v = vs.findIdx? (fun w => decide (w = v)) := by
  induction vs with
  | nil => rfl
  | cons w ws ih => simp only [valueIndex?, List.findIdx?_cons, decide_eq_true_eq, ih]

theorem getElem?_of_findIdx?_eq {α : Type} [DecidableEq α] {l : List α} {v : α} {i : Nat}
    (h : l.findIdx? (fun w => decide (w = v)) = some i) : l[i]? = some v := by
  obtain ⟨hlt, hv, _⟩ := List.findIdx?_eq_some_iff_getElem.mp h
  rw [List.getElem?_eq_getElem hlt, of_decide_eq_true hv]

theorem not_mem_of_findIdx?_eq_none {α : Type} [DecidableEq α] {l : List α} {v : α}
    (h : l.findIdx? (fun w => decide (w = v)) = none) : v ∉ l := fun hm =>
  absurd (List.findIdx?_eq_none_iff.mp h v hm) (by simp)

theorem getElem?_nameIndex? {names : List String} {s : String} (hs : s ∈ names) :
    names[(nameIndex? names s).getD 0]? = some s := by
  rw [nameIndex?_eq_findIdx?]
  cases h : names.findIdx? (fun n => decide (n = s)) with
  | none => exact absurd hs (not_mem_of_findIdx?_eq_none h)
  | some i => exact getElem?_of_findIdx?_eq h

theorem findIdx?_eq_of_getElem? {α : Type} [DecidableEq α] {l : List α} (hnd : l.Nodup) {i : Nat}
    {v : α} (h : l[i]? = some v) : l.findIdx? (fun w => decide (w = v)) = some i := by
  obtain ⟨hlt, rfl⟩ := List.getElem?_eq_some_iff.mp h
  rw [List.findIdx?_eq_some_iff_getElem]
  exact ⟨hlt, decide_eq_true rfl, fun j hji hj =>
    (List.pairwise_iff_getElem.mp hnd) j i _ hlt hji (of_decide_eq_true hj)⟩

theorem nameIndex?_of_getElem? {names : List String} (hnd : names.Nodup) {i : Nat} {v : String}
    (h : names[i]? = some v) : nameIndex? names v = some i :=
  (nameIndex?_eq_findIdx? names v).trans (findIdx?_eq_of_getElem? hnd h)

theorem lookupSorted_first (names : List String) (v : String) (hv : v ∈ names) :
    ∃ i, nameIndex? names v = some i ∧ lookupSorted names v = .ok i ∧ names[i]? = some v := by
  obtain ⟨hL, _⟩ := searchsortedLeft_spec (sortedNames names) v (sortedNames_sorted names)
  obtain ⟨hp, hpv⟩ := searchsortedLeft_mem (sortedNames names) v (sortedNames_sorted names)
    (mem_sortedNames.mpr hv)
  have hst := List.pairwise_iff_getElem.mp (sortPairs_stable names)
  have hmem : ∀ {b : String × Nat}, b ∈ sortPairs (indexed 0 names) ↔ names[b.2]? = some b.1 := by
    intro b
    rw [(sortPairs_perm _).mem_iff, indexed_eq_zipIdx, List.mem_zipIdx_iff_getElem?]
  unfold lookupSorted argsort
  generalize searchsortedLeft (sortedNames names) v = p at hL hp hpv
  simp only [sortedNames, List.length_map, List.getElem_map] at hp hpv
  have hi := hmem.mp (List.getElem_mem hp)
  rw [hpv] at hi
  rw [List.getElem?_map, List.getElem?_eq_getElem hp]
  refine ⟨_, ?_, rfl, hi⟩
  obtain ⟨hlt, hiv⟩ := List.getElem?_eq_some_iff.mp hi
  rw [nameIndex?_eq_findIdx?, List.findIdx?_eq_some_iff_getElem]
  refine ⟨hlt, decide_eq_true hiv, fun j hji hj => ?_⟩
  -- an earlier `j` holding `v` sits at some `q` of the sorted pairs: not left of `p` (keys there are `< v`),
  -- not at `p`, and right of `p` its index would be greater
  have hjv : names[j]? = some v := by
    rw [List.getElem?_eq_getElem (Nat.lt_trans hji hlt), of_decide_eq_true hj]
  obtain ⟨q, hq, hqe⟩ := List.getElem_of_mem ((hmem (b := (v, j))).mpr hjv)
  rcases Nat.lt_trichotomy q p with hqp | rfl | hpq
  · have := hL q hqp
    rw [sortedNames, List.getD_of_lt _ _ (by simpa using hq), List.getElem_map, hqe] at this
    exact String.lt_irrefl v this
  · rw [hqe] at hji; exact Nat.lt_irrefl _ hji
  · have := (hst p q hp hq hpq).2
    rw [hqe, hpv] at this
    exact Nat.lt_asymm hji (this (String.le_refl v))

theorem lookupSorted_eq {names : List String} {s : String} (hs : s ∈ names) :
    lookupSorted names s = .ok ((nameIndex? names s).getD 0) := by
  obtain ⟨i, hn, hi, _⟩ := lookupSorted_first names s hs
  rw [hn]; exact hi

end OFCore.EnumCodec
