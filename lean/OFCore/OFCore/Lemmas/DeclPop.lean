import OFCore.Equivariance
import OFCore.Lemmas.RuleSysOps
/-!
On `declPop d` the group operations of the expression language (`f1`) and those of `Group.lean` compute
the same arrays: the holders of a role digit in a group are `valuesOf` at `roleOfDigit`
(`valuesOf_declPop_digit`), and both sides are `(range n).map` of a function of them.
-/
namespace OFCore.Equivariance
open OFCore OFCore.Engine OFCore.RuleSys OFCore.Grp

theorem declPop_ids (d : Decl) : (declPop d).ids = d.mem := by
  simp only [declPop, Pop.ids, List.map_map, Function.comp_def]
  exact List.map_getD_range d.mem 0

theorem declPop_len (d : Decl) : (declPop d).ms.length = d.mem.length := by simp [declPop]

theorem declPop_getD (d : Decl) (i : Nat) (hi : i < d.mem.length) :
    (declPop d).ms.getD i default = ⟨d.mem.getD i 0, d.roles.getD i 0⟩ :=
  List.getD_range_map _ _ hi

theorem declPop_group_lt (d : Decl) (hg : ∀ g ∈ d.mem, g < d.nG) : ∀ m ∈ (declPop d).ms, m.group < (declPop d).n := by
  intro m hm
  simp only [declPop, List.mem_map, List.mem_range] at hm
  obtain ⟨i, hi, rfl⟩ := hm
  exact hg _ (List.getD_mem_of_lt d.mem 0 hi)

theorem roleOk_digit (r ρ : Nat) (g : Nat) (hρ : ρ < 8) :
    roleOk (roleOfDigit r) ⟨g, ρ⟩ = roleMatch r ρ := by
  unfold roleOfDigit roleMatch
  by_cases h9 : r = 9
  · rw [if_pos h9]; exact (decide_eq_true (Or.inl h9)).symm
  rw [if_neg h9]
  by_cases h8 : r = 8
  · -- the first role with its two sub-roles: flattened roles 0 and 1
    subst h8
    rw [if_pos rfl]
    match ρ, hρ with
    | 0, _ => rfl
    | 1, _ => rfl
    | ρ + 2, h => exact (decide_eq_false (by omega)).symm
  · -- a flattened role: that role itself
    rw [if_neg h8]
    show (ρ == r) = _
    rw [Bool.eq_iff_iff, beq_iff_eq, decide_eq_true_iff]
    constructor
    · exact fun h => .inr (.inl h)
    · rintro (h | h | h)
      · exact absurd h h9
      · exact h
      · exact absurd h.1 h8

theorem valuesOf_declPop_digit (d : Decl) (hρ : ∀ ρ ∈ d.roles, ρ < 8) (r : Nat) (x : Val)
    (hx : x.length = d.mem.length) (g : Nat) :
    valuesOf (declPop d) (roleOfDigit r) g x = holderVals d r x g := by
  rw [valuesOf_eq_range (declPop d) x 0 (by rw [declPop_len]; exact hx), declPop_len]
  unfold holderVals
  congr 1
  apply List.filter_congr
  intro i hi
  have hi' := List.mem_range.mp hi
  rw [declPop_getD d i hi', roleOk_digit r _ _ (List.getD_forall hρ (by decide) i)]
  show ((d.mem.getD i 0 == g) && roleMatch r (d.roles.getD i 0))
    = decide (d.mem.getD i 0 = g ∧ roleMatch r (d.roles.getD i 0) = true)
  rw [Bool.decide_and, Bool.decide_eq_true]
  rfl

theorem eint0_foldl_max : ∀ l : List Int, eint0 ((l.map EInt.fin).foldl EInt.max .negInf) = listMax l
  | [] => rfl
  | a :: t => congrArg eint0 (pickFold_max.cons a t)

theorem eint0_foldl_min : ∀ l : List Int, eint0 ((l.map EInt.fin).foldl EInt.min .posInf) = listMin l
  | [] => rfl
  | a :: t => congrArg eint0 (pickFold_min.cons a t)

theorem groupSum_declPop (d : Decl) (hg : ∀ g ∈ d.mem, g < d.nG) (hρ : ∀ ρ ∈ d.roles, ρ < 8)
    (r : Nat) (x : Val) (hx : x.length = d.mem.length) :
    groupSum (declPop d) x (roleOfDigit r) = .ok ((List.range d.nG).map (roleSum d r x)) := by
  rw [groupSum_eq _ x _ (hx.trans (declPop_len d).symm) (declPop_group_lt d hg)]
  exact congrArg _ (List.map_congr_left fun g _ => by
    rw [valuesOf_declPop_digit d hρ r x hx g, roleSum_eq])

theorem project_declPop (d : Decl) (hg : ∀ g ∈ d.mem, g < d.nG) (hρ : ∀ ρ ∈ d.roles, ρ < 8)
    (r : Nat) (hr : r ≤ 9) (y : Val) (hy : y.length = d.nG) :
    project (declPop d) y 0 (roleOfDigit r) = .ok (f1 d (80 + r) y) := by
  rw [project_eq _ y 0 _ hy (declPop_group_lt d hg), f1_rproj d r hr]
  simp only [declPop, List.map_map, Function.comp_def]
  exact congrArg _ (List.map_congr_left fun i _ => by
    rw [roleOk_digit r _ _ (List.getD_forall hρ (by decide) i)])

end OFCore.Equivariance
