import OFCore.EngineTrace
import OFCore.Lemmas.EngineBasic
/-!
# The instrumented evaluators compute what the machine computes, and record exactly the reads

Erasing the log of `runL`/`runLE` gives `run`/`runE`, unfinished evaluations included: by recursion on the
instrumented evaluator.  What a log holds is read off the completed run, rule by rule (`run_logged`).  `runET` is
`runLE` without its log: what is proved of the logs is proved of the recorded reads.
-/
namespace OFCore.Engine

variable {P : Type} [DecidableEq P]

@[simp] theorem runL_zero (sys : Sys P) (s : St P) (v : Nat) (p : P) : runL sys 0 s v p = none := by rw [runL]

theorem runL_leaf {sys : Sys P} {n s v p} (h : Fresh sys s v p → sys.formula v p = none) :
    runL sys (n+1) s v p = (run sys (n+1) s v p).map fun t => (t.1, t.2.1, t.2.2, [((v, p), t.1, [])]) := by
  rw [runL]
  cases hl : lookup s.cache (sys.slot (v, p)) with
  | some xg => obtain ⟨x, g⟩ := xg; rw [run_hit hl]; rfl
  | none =>
    cases hin : sys.input v p with
    | some x => rw [run_input hl hin]; rfl
    | none =>
      by_cases hc : (v, p) ∈ s.stack
      · rw [run_cycle hl hin hc]; simp only [if_pos hc]; rfl
      by_cases hsp : sys.msl ≤ (s.stack.filter (fun k => k.1 = v)).length
      · rw [run_spiral hl hin hc hsp]; simp only [if_neg hc, if_pos hsp]; rfl
      cases hf : sys.formula v p with
      | none => rw [run_default ⟨hl, hin, hc, hsp⟩ hf]; simp only [if_neg hc, if_neg hsp]; rfl
      | some e => exact nomatch hf.symm.trans (h ⟨hl, hin, hc, hsp⟩)

theorem runL_formula {sys : Sys P} {n s v p e} (h : Fresh sys s v p) (hf : sys.formula v p = some e) :
    runL sys (n+1) s v p =
      match runLE sys n { s with stack := (v, p) :: s.stack } e with
      | none => none
      | some (.error er, g, s', t, l) =>
        some (.error er, g, { s' with stack := s'.stack.tail }, ((v, p), .error er, t) :: l)
      | some (.ok x, g, s', t, l) =>
        some (.ok (sys.post v x), g,
          { s' with cache := store sys s'.cache (sys.slot (v, p)) (sys.post v x) g, stack := s'.stack.tail },
          ((v, p), .ok (sys.post v x), t) :: l) := by
  rw [runL, h.miss, h.noInput, hf]; simp only [if_neg h.offStack, if_neg h.belowLimit]
  cases runLE sys n { s with stack := (v, p) :: s.stack } e with
  | none => rfl
  | some t => obtain ⟨r, g, s1, t, l⟩ := t; cases r <;> rfl

theorem runLE_fail (sys : Sys P) (n : Nat) (s : St P) (id : Nat) (a : Expr P) :
    runLE sys n s (.fail id a) = if sys.armed id then some (.error .fault, false, s, [], []) else runLE sys n s a := by
  rw [runLE]

/-- `runL` and `runLE` call each other: the fact about requests at this fuel is a hypothesis,
    discharged by induction on the fuel in `runL_erase` (no mutual induction). -/
theorem runLE_proj_of (sys : Sys P) (n : Nat)
    (hL : ∀ s v p, (runL sys n s v p).map eraseL = run sys n s v p) :
    ∀ (e : Expr P) (s : St P), (runLE sys n s e).map eraseLE = runE sys n s e ∧
      (runLE sys n s e).map (fun u => (u.1, u.2.1, u.2.2.1, u.2.2.2.1)) = runET sys n s e
  | .const k, s => by rw [runLE, runE_const, runET]; exact ⟨rfl, rfl⟩
  | .bad, s => by rw [runLE, runE_bad, runET]; exact ⟨rfl, rfl⟩
  | .ref v p, s => by
    rw [runLE, runE_ref, runET, ← hL s v p]
    cases runL sys n s v p <;> exact ⟨rfl, rfl⟩
  | .fail id a, s => by
    rw [runLE_fail, runE_fail, runET]
    split
    · exact ⟨rfl, rfl⟩
    · exact runLE_proj_of sys n hL a s
  | .op1 o a, s => by
    obtain ⟨h1, h2⟩ := runLE_proj_of sys n hL a s
    rw [runLE, runE, runET, ← h1, ← h2]
    cases runLE sys n s a with
    | none => exact ⟨rfl, rfl⟩
    | some u => obtain ⟨r, g, s1, t, l⟩ := u; cases r <;> exact ⟨rfl, rfl⟩
  | .op2 o a b, s => by
    obtain ⟨h1, h2⟩ := runLE_proj_of sys n hL a s
    rw [runLE, runE, runET, ← h1, ← h2]
    cases runLE sys n s a with
    | none => exact ⟨rfl, rfl⟩
    | some u =>
      obtain ⟨r, g1, s1, t1, l1⟩ := u
      cases r with
      | error e => exact ⟨rfl, rfl⟩
      | ok x =>
        obtain ⟨k1, k2⟩ := runLE_proj_of sys n hL b s1
        simp only [Option.map_some, eraseLE]
        rw [← k1, ← k2]
        cases runLE sys n s1 b with
        | none => exact ⟨rfl, rfl⟩
        | some u2 => obtain ⟨r2, g2, s2, t2, l2⟩ := u2; cases r2 <;> exact ⟨rfl, rfl⟩

theorem runL_erase (sys : Sys P) : ∀ (n : Nat) (s : St P) (v : Nat) (p : P),
    (runL sys n s v p).map eraseL = run sys n s v p
  | 0, _, _, _ => by rw [runL_zero, run_zero]; rfl
  | n+1, s, v, p => by
    by_cases h : Fresh sys s v p → sys.formula v p = none
    · rw [runL_leaf h]
      cases run sys (n+1) s v p <;> rfl
    · obtain ⟨hfr, hf⟩ := Classical.not_imp.1 h
      obtain ⟨e, hf⟩ := Option.ne_none_iff_exists'.1 hf
      rw [runL_formula hfr hf, run_formula hfr hf,
        ← (runLE_proj_of sys n (runL_erase sys n) e { s with stack := (v, p) :: s.stack }).1]
      cases runLE sys n { s with stack := (v, p) :: s.stack } e with
      | none => rfl
      | some u => obtain ⟨r, g, s1, t, l⟩ := u; cases r <;> rfl

theorem runLE_erase (sys : Sys P) : ∀ (n : Nat) (s : St P) (e : Expr P),
    (runLE sys n s e).map eraseLE = runE sys n s e :=
  fun n s e => (runLE_proj_of sys n (runL_erase sys n) e s).1

theorem runLE_toET (sys : Sys P) (n : Nat) (e : Expr P) (s : St P) :
    (runLE sys n s e).map (fun u => (u.1, u.2.1, u.2.2.1, u.2.2.2.1)) = runET sys n s e :=
  (runLE_proj_of sys n (runL_erase sys n) e s).2

theorem runET_erase (sys : Sys P) (n : Nat) : ∀ (e : Expr P) (s : St P),
    (runET sys n s e).map eraseT = runE sys n s e := by
  intro e s
  rw [← runLE_toET, ← runLE_erase, Option.map_map]; rfl

section
omit [DecidableEq P]

/-- every entry of a log is well formed, and every read an entry lists is itself an entry of the
    log (with the result the read returned) -/
def LogOK (sys : Sys P) (l : Log P) : Prop :=
  (∀ en ∈ l, TraceOK sys en) ∧ ∀ en ∈ l, ∀ kr ∈ en.2.2, ∃ t, (kr.1, kr.2, t) ∈ l

theorem logOK_append (sys : Sys P) {l1 l2 : Log P} (h1 : LogOK sys l1) (h2 : LogOK sys l2) : LogOK sys (l1 ++ l2) := by
  refine ⟨fun en hen => ?_, fun en hen kr hkr => ?_⟩
  · rcases List.mem_append.1 hen with h | h
    · exact h1.1 en h
    · exact h2.1 en h
  · rcases List.mem_append.1 hen with h | h
    · obtain ⟨t, ht⟩ := h1.2 en h kr hkr; exact ⟨t, List.mem_append_left _ ht⟩
    · obtain ⟨t, ht⟩ := h2.2 en h kr hkr; exact ⟨t, List.mem_append_right _ ht⟩

theorem logOK_nil (sys : Sys P) : LogOK sys ([] : Log P) :=
  ⟨(fun en hen => by cases hen), (fun en hen => by cases hen)⟩

def ReadsOK (sys : Sys P) (e : Expr P) (r : Res) (t : List (Node P × Res)) (l : Log P) : Prop :=
  LogOK sys l ∧ (t.map (·.1)) <+: refs e ∧
    ((∃ x, r = .ok x) → t.map (·.1) = refs e ∧ ∀ kr ∈ t, ∃ y, kr.2 = .ok y) ∧
    (∀ kr ∈ t, ∃ t', (kr.1, kr.2, t') ∈ l)

theorem readsOK_nil {sys : Sys P} {e r} (h : (∃ x, r = .ok x) → refs e = []) : ReadsOK sys e r [] [] :=
  ⟨logOK_nil sys, List.nil_prefix, fun hx => ⟨(h hx).symm, fun _ hk => by cases hk⟩, fun _ hk => by cases hk⟩

theorem logOK_leaf (sys : Sys P) (k : Node P) (r : Res) : LogOK sys [(k, r, [])] :=
  ⟨fun en hen => by cases List.mem_singleton.1 hen; exact .inl rfl,
    fun en hen kr hkr => by cases List.mem_singleton.1 hen; cases hkr⟩

theorem logOK_node (sys : Sys P) {v p e re r0 t le} (hf : sys.formula v p = some e) (h : ReadsOK sys e re t le)
    (hok : (∃ x, r0 = .ok x) → ∃ x, re = .ok x) : LogOK sys (((v, p), r0, t) :: le) := by
  obtain ⟨hlog, hpre, hall, hrec⟩ := h
  refine ⟨fun en hen => ?_, fun en hen kr hkr => ?_⟩
  · rcases List.mem_cons.1 hen with rfl | hen
    · exact .inr ⟨e, hf, hpre, fun hx => hall (hok hx)⟩
    · exact hlog.1 en hen
  · rcases List.mem_cons.1 hen with rfl | hen
    · obtain ⟨t', ht'⟩ := hrec kr hkr; exact ⟨t', List.mem_cons_of_mem _ ht'⟩
    · obtain ⟨t', ht'⟩ := hlog.2 en hen kr hkr; exact ⟨t', List.mem_cons_of_mem _ ht'⟩

end

/-- the log a request leaves: well formed, it opens with the request itself, alone when no formula ran -/
def EntryOK (sys : Sys P) (s : St P) (v : Nat) (p : P) (r : Res) (l : Log P) : Prop :=
  ∃ t rest, l = ((v, p), r, t) :: rest ∧ LogOK sys l ∧
    ((lookup s.cache (sys.slot (v, p)) ≠ none ∨ sys.input v p ≠ none ∨ sys.formula v p = none) → t = [] ∧ rest = [])

theorem runL_of_leaf {sys : Sys P} {n s v p r g s'} (h : Fresh sys s v p → sys.formula v p = none)
    (hr : run sys (n+1) s v p = some (r, g, s')) :
    ∃ l, runL sys (n+1) s v p = some (r, g, s', l) ∧ EntryOK sys s v p r l :=
  ⟨_, by rw [runL_leaf h, hr]; rfl, [], [], rfl, logOK_leaf .., fun _ => ⟨rfl, rfl⟩⟩

theorem runL_of_formula {sys : Sys P} {n s v p e re r g s' t le} (hfr : Fresh sys s v p) (hf : sys.formula v p = some e)
    (h : runL sys (n+1) s v p = some (r, g, s', ((v, p), r, t) :: le)) (hok : ReadsOK sys e re t le)
    (hre : (∃ x, r = .ok x) → ∃ x, re = .ok x) :
    ∃ l, runL sys (n+1) s v p = some (r, g, s', l) ∧ EntryOK sys s v p r l :=
  ⟨_, h, t, le, rfl, logOK_node sys hf hok hre, by
    rintro (h1 | h1 | h1)
    · exact absurd hfr.miss h1
    · exact absurd hfr.noInput h1
    · rw [hf] at h1; cases h1⟩

/-- Existential: the log is built rule by rule along the run (`run_ind`), so that no instrumented evaluation has
    to be taken apart; `runL_erase` says it is the only log there is. -/
theorem run_logged (sys : Sys P) :
    (∀ n s v p r g s', run sys n s v p = some (r, g, s') →
      ∃ l, runL sys n s v p = some (r, g, s', l) ∧ EntryOK sys s v p r l) ∧
    (∀ n s e r g s', runE sys n s e = some (r, g, s') →
      ∃ t l, runLE sys n s e = some (r, g, s', t, l) ∧ ReadsOK sys e r t l) :=
  run_ind sys
    (M := fun n s v p r g s' => ∃ l, runL sys n s v p = some (r, g, s', l) ∧ EntryOK sys s v p r l)
    (ME := fun n s e r g s' => ∃ t l, runLE sys n s e = some (r, g, s', t, l) ∧ ReadsOK sys e r t l)
    (hit := fun hl => runL_of_leaf (fun hfr => nomatch hl.symm.trans hfr.miss) (run_hit hl))
    (input := fun hl hin => runL_of_leaf (fun hfr => nomatch hin.symm.trans hfr.noInput) (run_input hl hin))
    (cycle := fun hl hin hc => runL_of_leaf (fun hfr => absurd hc hfr.offStack) (run_cycle hl hin hc))
    (spiral := fun hl hin hc hsp => runL_of_leaf (fun hfr => absurd hsp hfr.belowLimit) (run_spiral hl hin hc hsp))
    (default := fun hfr hf => runL_of_leaf (fun _ => hf) (run_default hfr hf))
    (formulaErr := fun hfr hf _ ⟨t, l, h, hok⟩ =>
      runL_of_formula hfr hf (by rw [runL_formula hfr hf, h]) hok nofun)
    (formulaOk := fun {_n _s _v _p _e x _g _s1} hfr hf _ ⟨t, l, h, hok⟩ =>
      runL_of_formula hfr hf (by rw [runL_formula hfr hf, h]) hok fun _ => ⟨x, rfl⟩)
    (const := ⟨[], [], by rw [runLE], readsOK_nil fun _ => rfl⟩)
    (bad := ⟨[], [], by rw [runLE], readsOK_nil fun _ => rfl⟩)
    (ref := fun {_n _s v p r _g _s'} _ ih => by
      obtain ⟨_, h, t0, rest, rfl, hlog, _⟩ := ih
      exact ⟨[((v, p), r)], _, by rw [runLE, h], hlog, List.prefix_refl _,
        by rintro ⟨x, rfl⟩; exact ⟨rfl, fun kr hkr => by cases List.mem_singleton.1 hkr; exact ⟨x, rfl⟩⟩,
        fun kr hkr => by cases List.mem_singleton.1 hkr; exact ⟨t0, List.mem_cons_self⟩⟩)
    (failArmed := fun harm => ⟨[], [], by rw [runLE_fail, if_pos harm], readsOK_nil nofun⟩)
    (failPass := fun harm _ ⟨t, l, h, hok⟩ => ⟨t, l, by rw [runLE_fail, if_neg harm, h], hok⟩)
    (op1 := fun {_n _s _o _a r _g _s'} _ ⟨t, l, h, i1, i2, i3, i4⟩ => ⟨t, l, by rw [runLE, h]; cases r <;> rfl,
      i1, i2, fun hx => i3 (ok_of_map_ok hx), i4⟩)
    (op2Err := fun _ ⟨t, l, h, i1, i2, _, i4⟩ => ⟨t, l, by rw [runLE, h], i1, i2.trans (List.prefix_append _ _), nofun, i4⟩)
    (op2 := fun {_n _s _o _a _b x _g1 _s1 rb _g2 _s2} _ _ ⟨t1, l1, h1, i1, _, i3, i4⟩
        ⟨t2, l2, h2, j1, j2, j3, j4⟩ => by
      obtain ⟨hta, hoka⟩ := i3 ⟨x, rfl⟩
      refine ⟨t1 ++ t2, l1 ++ l2, ?_, logOK_append sys i1 j1, ?_, fun hx => ?_, fun kr hkr => ?_⟩
      · rw [runLE, h1]
        simp only
        rw [h2]
        cases rb <;> rfl
      · rw [List.map_append, hta]; exact (List.prefix_append_right_inj _).2 j2
      · obtain ⟨htb, hokb⟩ := j3 (ok_of_map_ok hx)
        exact ⟨by rw [List.map_append, hta, htb]; rfl, fun kr hkr => (List.mem_append.1 hkr).elim (hoka kr) (hokb kr)⟩
      · rcases List.mem_append.1 hkr with h | h
        · obtain ⟨t', ht'⟩ := i4 kr h; exact ⟨t', List.mem_append_left _ ht'⟩
        · obtain ⟨t', ht'⟩ := j4 kr h; exact ⟨t', List.mem_append_right _ ht'⟩)

theorem runL_entry (sys : Sys P) (n : Nat) (s : St P) (v : Nat) (p : P) (r : Res) (g : Bool) (s' : St P) (l : Log P)
    (h : runL sys n s v p = some (r, g, s', l)) : EntryOK sys s v p r l := by
  have he := runL_erase sys n s v p
  rw [h] at he
  obtain ⟨l', h', hok⟩ := (run_logged sys).1 n s v p r g s' he.symm
  rw [h] at h'; cases h'; exact hok

/-- the first entry of a request's log is the requested calculation itself, with the result returned; a request
    served without running a formula opens nothing else and lists no read -/
theorem runL_head (sys : Sys P) (n : Nat) (s : St P) (v : Nat) (p : P) (r : Res) (g : Bool) (s' : St P) (l : Log P)
    (h : runL sys n s v p = some (r, g, s', l)) :
    ∃ t rest, l = ((v, p), r, t) :: rest ∧
      ((lookup s.cache (sys.slot (v, p)) ≠ none ∨ sys.input v p ≠ none ∨ sys.formula v p = none) → t = [] ∧ rest = []) :=
  let ⟨t, rest, h1, _, h3⟩ := runL_entry sys n s v p r g s' l h
  ⟨t, rest, h1, h3⟩

theorem runL_ok (sys : Sys P) : ∀ (n : Nat) (s : St P) (v : Nat) (p : P) (r : Res) (g : Bool) (s' : St P) (l : Log P),
    runL sys n s v p = some (r, g, s', l) → LogOK sys l :=
  fun n s v p r g s' l h => let ⟨_, _, _, h2, _⟩ := runL_entry sys n s v p r g s' l h; h2

theorem runLE_ok (sys : Sys P) : ∀ (n : Nat) (s : St P) (e : Expr P) (r : Res) (g : Bool) (s' : St P)
    (t : List (Node P × Res)) (l : Log P), runLE sys n s e = some (r, g, s', t, l) →
    LogOK sys l ∧ (t.map (·.1)) <+: refs e ∧
    ((∃ x, r = .ok x) → t.map (·.1) = refs e ∧ ∀ kr ∈ t, ∃ y, kr.2 = .ok y) ∧
    (∀ kr ∈ t, ∃ t', (kr.1, kr.2, t') ∈ l) := by
  intro n s e r g s' t l h
  have he := runLE_erase sys n s e
  rw [h] at he
  obtain ⟨t', l', h', hok⟩ := (run_logged sys).2 n s e r g s' he.symm
  rw [h] at h'; cases h'; exact hok

/-- a completed evaluation recorded every read of the expression, in order, all successful; a failed one recorded
    a prefix -/
theorem runET_reads (sys : Sys P) (n : Nat) : ∀ (e : Expr P) (s : St P) (r : Res) (g : Bool) (s' : St P)
    (t : List (Node P × Res)), runET sys n s e = some (r, g, s', t) →
    (t.map (·.1)) <+: refs e ∧ ((∃ x, r = .ok x) → t.map (·.1) = refs e ∧ ∀ kr ∈ t, ∃ y, kr.2 = .ok y) := by
  intro e s r g s' t h
  rw [← runLE_toET] at h
  obtain ⟨⟨_, _, _, _, l⟩, hu, he⟩ := Option.map_eq_some_iff.1 h
  cases he
  obtain ⟨_, hprefix, hcomplete, _⟩ := runLE_ok sys n s e _ _ _ _ l hu
  exact ⟨hprefix, hcomplete⟩

end OFCore.Engine
