import OFCore.Lemmas.AddBracket
/-!
# Tax scales: the notions the C08 / C09 statements are written in; on a sorted scale `add_bracket` is the one-walk
insertion `ins` (`Lemmas/AddBracket`), and a sorted scale is determined by its thresholds and their rates
-/
namespace OFCore.Sca

def WSorted (s : Scale) : Prop := s.Pairwise (fun a b => a.1 ≤ b.1)

instance (s : Scale) : Decidable (WSorted s) := by unfold WSorted; infer_instance

/-- length of `[lo, hi) ∩ (-∞, x]` (`hi = none`: unbounded bracket) -/
def interLen (lo : Rat) (hi : Option Rat) (x : Rat) : Rat :=
  if x ≤ lo then 0
  else match hi with
    | none => x - lo
    | some h => if h ≤ x then h - lo else x - lo

/-- textbook marginal-rate tax on transformed thresholds: `Σ rate_i × |[τ_i, τ_{i+1}) ∩ (-∞, x]|`
(each bracket part and each bracket tax rounded when `rd` asks for it) -/
def specMR (rd : Option Nat) : Scale → Rat → Rat
  | [], _ => 0
  | [(t, r)], x => brTerm rd r (interLen t none x)
  | (t, r) :: (t', r') :: rest, x => brTerm rd r (interLen t (some t') x) + specMR rd ((t', r') :: rest) x

/-- tax of the complete brackets of a list: `Σ rate_i × (τ_{i+1} − τ_i)` -/
def fullBr : Scale → Rat
  | (t, r) :: (t', r') :: rest => r * (t' - t) + fullBr ((t', r') :: rest)
  | _ => 0

/-- textbook marginal-amount value: the amounts of all thresholds strictly below the base -/
def sumBelow : Scale → Rat → Rat
  | [], _ => 0
  | (t, a) :: rest, x => (if t < x then a else 0) + sumBelow rest x

/-- rate of the last bracket, `pr` when the list is empty -/
def lastRate (pr : Rat) : Scale → Rat
  | [] => pr
  | (_, r) :: rest => lastRate r rest

/-- prefix scan: rate of the last bracket whose threshold is `≤ x`, `prev` when there is none -/
def scanRate (prev : Rat) : Scale → Rat → Rat
  | [], _ => prev
  | (t, r) :: rest, x => if t ≤ x then scanRate r rest x else prev

def cntLe (l : Scale) (x : Rat) : Nat := l.countP (fun b => decide (b.1 ≤ x))

def keysOf (d : List (Rat × Rat)) : List Rat := d.map (·.1)

@[simp] theorem cntLe_nil (x : Rat) : cntLe [] x = 0 := rfl

theorem scanRate_of_lt (prev : Rat) (l : Scale) (x : Rat) (h : ∀ c ∈ l, x < c.1) : scanRate prev l x = prev := by
  cases l with
  | nil => rfl
  | cons a rest => exact if_neg (Rat.not_le.mpr (h a List.mem_cons_self))

theorem thrMap_none (ε f t : Rat) : thrMap ε f none t = (f + ε) * t := rfl

theorem StrictSorted.wsorted {s : Scale} (h : StrictSorted s) : WSorted s :=
  List.Pairwise.imp Rat.le_of_lt h

theorem wsorted_cons {b : Rat × Rat} {s : Scale} :
    WSorted (b :: s) ↔ (∀ c ∈ s, b.1 ≤ c.1) ∧ WSorted s := List.pairwise_cons

theorem strictSorted_append {l₁ l₂ : Scale} : StrictSorted (l₁ ++ l₂) ↔
    StrictSorted l₁ ∧ StrictSorted l₂ ∧ ∀ a ∈ l₁, ∀ b ∈ l₂, a.1 < b.1 := List.pairwise_append

theorem wsorted_append {l₁ l₂ : Scale} : WSorted (l₁ ++ l₂) ↔
    WSorted l₁ ∧ WSorted l₂ ∧ ∀ a ∈ l₁, ∀ b ∈ l₂, a.1 ≤ b.1 := List.pairwise_append

@[simp] theorem hasT_nil (t : Rat) : hasT [] t = false := rfl

theorem hasT_append (a b : Scale) (t : Rat) : hasT (a ++ b) t = (hasT a t || hasT b t) := List.any_append

theorem strictSorted_of_thresholds {s s' : Scale} (h : thresholds s' = thresholds s) (hs : StrictSorted s) :
    StrictSorted s' := by
  have : (thresholds s).Pairwise (· < ·) := List.pairwise_map.mpr hs
  rw [← h] at this
  exact List.pairwise_map.mp this

theorem length_of_thresholds {s s' : Scale} (h : thresholds s' = thresholds s) : s'.length = s.length := by
  have := congrArg List.length h
  rwa [thresholds, thresholds, List.length_map, List.length_map] at this

theorem hasT_eq_thresholds (s : Scale) (t : Rat) : hasT s t = (thresholds s).any (fun u => decide (u = t)) := by
  unfold hasT thresholds; rw [List.any_map]; rfl

theorem hasT_of_thresholds {s s' : Scale} (h : thresholds s' = thresholds s) (t : Rat) : hasT s' t = hasT s t := by
  rw [hasT_eq_thresholds, hasT_eq_thresholds, h]

theorem addBracket_eq_ins (s : Scale) (hs : StrictSorted s) (t r : Rat) : addBracket s t r = ins s t r := by
  induction s with
  | nil => rfl
  | cons b rest ih =>
    obtain ⟨t', r'⟩ := b
    rw [strictSorted_cons] at hs
    have ih := ih hs.2
    unfold addBracket at ih ⊢
    by_cases h1 : t = t'
    · subst h1
      simp [indexT, bumpAt, ins]
    · have h1' : ¬ t' = t := fun e => h1 e.symm
      by_cases h2 : t < t'
      · have hf : hasT rest t = false := hasT_eq_false_of_lt (fun c hc => Std.lt_trans h2 (hs.1 c hc))
        have h3 : ¬ t' < t := Rat.not_lt.mpr (Rat.le_of_lt h2)
        simp [h1, h1', h2, h3, hf, ins, bisectLeft, insertAt]
      · have h3 : t' < t := Rat.lt_of_le_of_ne (Rat.not_lt.mp h2) (fun e => h1 e.symm)
        simp only [ins, h1, h2, if_false]
        rw [← ih]
        by_cases hh : hasT rest t = true
        · simp [hh, indexT, h1', bumpAt]
        · simp [hh, h1', bisectLeft, h3, insertAt]

theorem addBracket_sorted {s : Scale} (hs : StrictSorted s) (t r : Rat) : StrictSorted (addBracket s t r) := by
  rw [addBracket_eq_ins s hs]; exact ins_sorted hs t r

theorem addBracket_nil (t r : Rat) : addBracket [] t r = [(t, r)] := rfl

theorem addBracket_append (acc : Scale) (t r : Rat) (h : ∀ c ∈ acc, c.1 < t) : addBracket acc t r = acc ++ [(t, r)] := by
  have e : hasT acc t = false ∧ insertAt acc (bisectLeft acc t) (t, r) = acc ++ [(t, r)] := by
    induction acc with
    | nil => exact ⟨rfl, rfl⟩
    | cons a rest ih =>
      have h1 : a.1 < t := h a List.mem_cons_self
      obtain ⟨i1, i2⟩ := ih (fun c hc => h c (List.mem_cons_of_mem _ hc))
      rw [hasT_cons, i1, decide_eq_false (Rat.ne_of_lt h1), bisectLeft, if_pos h1, insertAt, i2]
      exact ⟨rfl, rfl⟩
  unfold addBracket
  rw [e.1, e.2]
  rfl

theorem head_le_of_hasT {t r : Rat} {a : Scale} (hs : StrictSorted ((t, r) :: a)) {u : Rat}
    (h : hasT ((t, r) :: a) u = true) : t ≤ u := by
  obtain ⟨c, hc, e⟩ := hasT_iff.mp h
  rcases List.mem_cons.mp hc with rfl | hc
  · exact e ▸ Rat.le_refl
  · exact e ▸ Rat.le_of_lt ((strictSorted_cons.mp hs).1 c hc)

theorem sorted_ext {a b : Scale} (ha : StrictSorted a) (hb : StrictSorted b) (hT : ∀ u, hasT a u = hasT b u)
    (hR : ∀ u, rateOf a u = rateOf b u) : a = b := by
  induction a generalizing b with
  | nil =>
    cases b with
    | nil => rfl
    | cons c b => have := hT c.1; rw [hasT_nil, hasT_cons, decide_eq_true rfl] at this; cases this
  | cons x a ih =>
    obtain ⟨t, r⟩ := x
    cases b with
    | nil => have := hT t; rw [hasT_nil, hasT_cons, decide_eq_true rfl] at this; cases this
    | cons y b =>
      obtain ⟨t2, r2⟩ := y
      have hself : ∀ (t r : Rat) (a : Scale), hasT ((t, r) :: a) t = true := fun t r a => by
        rw [hasT_cons, decide_eq_true rfl]; rfl
      obtain rfl : t = t2 := Rat.le_antisymm (head_le_of_hasT ha ((hT t2).trans (hself t2 r2 b)))
        (head_le_of_hasT hb ((hT t).symm.trans (hself t r a)))
      have ha' := strictSorted_cons.mp ha
      have hb' := strictSorted_cons.mp hb
      have hat := hasT_eq_false_of_lt ha'.1
      have hbt := hasT_eq_false_of_lt hb'.1
      obtain rfl : r = r2 := by
        have := hR t
        rwa [rateOf, rateOf, if_pos rfl, if_pos rfl, rateOf_eq_zero hat, rateOf_eq_zero hbt,
          Rat.add_zero, Rat.add_zero] at this
      rw [ih ha'.2 hb'.2 (fun u => ?_) (fun u => Rat.add_left_cancel _ (hR u))]
      by_cases e : t = u
      · rw [← e, hat, hbt]
      · have := hT u
        rwa [hasT_cons, hasT_cons, decide_eq_false e, Bool.false_or, Bool.false_or] at this

theorem rateOf_perm {l₁ l₂ : List (Rat × Rat)} (h : l₁.Perm l₂) (u : Rat) : rateOf l₁ u = rateOf l₂ u := by
  induction h with
  | nil => rfl
  | cons x _ ih => obtain ⟨t, r⟩ := x; exact congrArg ((if t = u then r else 0) + ·) ih
  | swap x y l => obtain ⟨t, r⟩ := x; obtain ⟨t2, r2⟩ := y; exact Rat.add_left_comm _ _ _
  | trans _ _ ih1 ih2 => exact ih1.trans ih2

theorem foldl_addBracket_spec (l : List (Rat × Rat)) : ∀ s, StrictSorted s →
    StrictSorted (l.foldl (fun s b => addBracket s b.1 b.2) s) ∧
    ∀ u, hasT (l.foldl (fun s b => addBracket s b.1 b.2) s) u = (hasT s u || hasT l u) ∧
      rateOf (l.foldl (fun s b => addBracket s b.1 b.2) s) u = rateOf s u + rateOf l u :=
  foldl_ins_spec addBracket (fun s t r hs => addBracket_eq_ins s hs t r) l

theorem build_sorted (l : List (Rat × Rat)) : StrictSorted (build l) :=
  (foldl_addBracket_spec l [] strictSorted_nil).1

theorem build_spec (l : List (Rat × Rat)) (u : Rat) :
    hasT (build l) u = hasT l u ∧ rateOf (build l) u = rateOf l u := by
  obtain ⟨h1, h2⟩ := (foldl_addBracket_spec l [] strictSorted_nil).2 u
  exact ⟨h1, h2.trans (Rat.zero_add _)⟩

end OFCore.Sca
