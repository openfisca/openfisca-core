import OFCore.Lemmas.Api
/-! `/trace` (C20): every entry of the accumulated trace is the serialised vector of its key (`TraceInv`), and every
requested variable has an entry (`traceEntries_spec`). -/
namespace OFCore.Api

theorem serializeVec_typed (t : VType) : ∀ (vec : List Val), (∀ x ∈ vec, x.family = t) →
    serializeVec t vec = .ok (vec.map renderVal)
  | [], _ => rfl
  | v :: r, h => by
    have hv : v.family = t := h v (by simp)
    have hr := serializeVec_typed t r (fun x hx => h x (by simp [hx]))
    simp only [serializeVec, ← hv, render_of_family]
    rw [hv, hr]; rfl

theorem serializeVec_get (t : VType) : ∀ (vec : List Val) (js : List J), serializeVec t vec = .ok js →
    ∀ (i : Nat) (v : Val), vec[i]? = some v → ∃ j, render t v = .ok j ∧ js[i]? = some j
  | [], js, h, i, v, hv => by simp at hv
  | x :: r, js, h, i, v, hv => by
    unfold serializeVec at h
    split at h
    · cases h
    next j hx =>
    split at h
    · cases h
    next js' hr =>
    cases h
    cases i with
    | zero => simp only [List.getElem?_cons_zero] at hv; cases hv; exact ⟨j, hx, rfl⟩
    | succ i => exact serializeVec_get t r js' hr i v (by simpa using hv)

theorem lookupT_append_new (k k' : TKey) (v : List J) : ∀ (l : List (TKey × List J)),
    lookupT k (l ++ [(k', v)]) = match lookupT k l with
      | some x => some x
      | none => if k' = k then some v else none
  | [] => by simp [lookupT]
  | (k0, v0) :: r => by
    simp only [List.cons_append, lookupT]
    by_cases h : k0 = k
    · simp [h]
    · simp only [if_neg h]; exact lookupT_append_new k k' v r

theorem lookupT_insertNew (k k' : TKey) (v : List J) (l : List (TKey × List J)) :
    lookupT k (insertNew k' v l) = match lookupT k l with
      | some x => some x
      | none => if k' = k then some v else none := by
  unfold insertNew
  cases hk' : lookupT k' l with
  | none => exact lookupT_append_new k k' v l
  | some y =>
    cases hk : lookupT k l with
    | some x => rfl
    | none => rw [if_neg (fun e => by rw [e, hk] at hk'; cases hk')]

/-- the entries of an accumulated trace are the serialised vectors of their keys -/
def TraceInv (w : Sim) (acc : List (TKey × List J)) : Prop :=
  ∀ v c js, lookupT (v, c) acc = some js → ∀ p, w.canon p = c → ∀ vec t, w.calcv v p = .ok vec →
    w.vtype v = some t → serializeVec t vec = .ok js

theorem traceInv_nil (w : Sim) : TraceInv w [] := by
  intro v c js h; simp [lookupT] at h

theorem traceInv_insert {w : Sim} (hc : Coherent w) {acc : List (TKey × List J)} (hi : TraceInv w acc)
    {s : Slot} {vec : List Val} {t : VType} {js : List J} (hv : w.calcv s.var s.period = .ok vec)
    (ht : w.vtype s.var = some t) (hs : serializeVec t vec = .ok js) :
    TraceInv w (insertNew (s.var, w.canon s.period) js acc) := by
  intro v c js' hl p hp vec' t' hv' ht'
  rw [lookupT_insertNew] at hl
  cases hacc : lookupT (v, c) acc with
  | some y => rw [hacc] at hl; cases hl; exact hi v c _ hacc p hp vec' t' hv' ht'
  | none =>
    rw [hacc] at hl
    by_cases hkey : (s.var, w.canon s.period) = (v, c)
    · -- the new entry: the same vector by coherence, serialised under the same type
      simp only [hkey, if_true] at hl; cases hl
      cases hkey
      rw [hc s.var p s.period hp, hv] at hv'; cases hv'
      rw [ht] at ht'; cases ht'
      exact hs
    · simp only [if_neg hkey] at hl; cases hl

theorem traceEntries_spec {w : Sim} (hc : Coherent w) : ∀ (slots : List Slot) (acc tr : List (TKey × List J)),
    traceEntries w slots acc = .ok tr → TraceInv w acc →
    TraceInv w tr ∧ (∀ k x, lookupT k acc = some x → lookupT k tr = some x) ∧
      ∀ s ∈ slots, ∃ x, lookupT (s.var, w.canon s.period) tr = some x
  | [], acc, tr, h, hi => by
    simp only [traceEntries] at h; cases h
    exact ⟨hi, fun _ _ h => h, fun s hs => by simp at hs⟩
  | s :: r, acc, tr, h, hi => by
    unfold traceEntries at h
    split at h
    · cases h
    next vec hv =>
    split at h
    · cases h
    next t ht =>
    split at h
    · cases h
    next js hs =>
    obtain ⟨h1, h2, h3⟩ := traceEntries_spec hc r _ tr h (traceInv_insert hc hi hv ht hs)
    refine ⟨h1, fun k x hk => h2 k x (by rw [lookupT_insertNew, hk]), ?_⟩
    intro s' hs'
    rcases List.mem_cons.mp hs' with rfl | hs'
    · have hx := lookupT_insertNew (s'.var, w.canon s'.period) (s'.var, w.canon s'.period) js acc
      cases hl : lookupT (s'.var, w.canon s'.period) acc with
      | some x => exact ⟨x, h2 _ x (by rw [hx, hl])⟩
      | none => exact ⟨js, h2 _ js (by rw [hx, hl, if_pos rfl])⟩
    · exact h3 s' hs'

theorem traceEntries_ok {w : Sim} (hty : Typed w) : ∀ (slots : List Slot) (acc : List (TKey × List J)),
    (∀ s ∈ slots, ∃ j, slotValue w s = .ok j) → ∃ tr, traceEntries w slots acc = .ok tr
  | [], acc, _ => ⟨acc, rfl⟩
  | s :: r, acc, h => by
    obtain ⟨j, hj⟩ := h s (by simp)
    obtain ⟨t, vec, _, _, ht, hv, _⟩ := slotValue_ok hj
    simp only [traceEntries, hv, ht, serializeVec_typed t vec (hty s.var s.period vec t hv ht)]
    exact traceEntries_ok hty r _ (fun s' hs' => h s' (by simp [hs']))

theorem traceEntries_slots {w : Sim} (hc : Coherent w) (hty : Typed w) {slots : List Slot}
    (hall : ∀ s ∈ slots, ∃ j, slotValue w s = .ok j) :
    ∃ tr, traceEntries w slots [] = .ok tr ∧ ∀ s ∈ slots, ∀ r, slotValue w s = .ok r →
      ∃ js i, lookupT (s.var, w.canon s.period) tr = some js ∧ w.index s.plural s.id = some i ∧ js[i]? = some r := by
  obtain ⟨tr, htr⟩ := traceEntries_ok hty slots [] hall
  obtain ⟨hinv, _, hkeys⟩ := traceEntries_spec hc slots [] tr htr (traceInv_nil w)
  refine ⟨tr, htr, fun s hs r hr => ?_⟩
  obtain ⟨js, hjs⟩ := hkeys s hs
  obtain ⟨t, vec, i, v, ht, hv, hi, hgi, _, hrd⟩ := slotValue_ok hr
  obtain ⟨j, hj, hji⟩ := serializeVec_get t vec js (hinv s.var _ js hjs s.period rfl vec t hv ht) i v hgi
  rw [hrd] at hj; cases hj
  exact ⟨js, i, hjs, hi, hji⟩

end OFCore.Api
