import OFCore.Lemmas.HeapSysCells
namespace OFCore.HeapSys

/-- What `neutralize_variable(name)` and `annualize_variable(name)` share:
    `self.variables[name] = get_…_variable(self.get_variable(name))`, where `get_neutralized_variable` and
    `get_annualized_variable` (`variables/helpers.py`) both take `variable.clone()` and then set instance attributes
    on the clone. `f v c` is the clone `c` of `v` with those attributes set; `err` is what a name that does not
    resolve raises. -/
def recloneVar (err : String) (f : VarObj → VarObj → VarObj) (h : Heap) (sid : Oid) (name : String) :
    Heap × Except String Unit :=
  match h.getSys sid with
  | none => (h, .error "not a system")
  | some s =>
    match h.getMap s.vars with
    | none => (h, .error "ill-formed system")
    | some m =>
      match dictGet name m with
      | none => (h, .error err)
      | some vid =>
        match h.getVar vid with
        | none => (h, .error "dangling variable")
        | some v =>
          match cloneVar h v with
          | .error e => (h, .error e)
          | .ok c => (bindVar h s m name (f v c), .ok ())

theorem neutralizeVar_eq_reclone :
    neutralizeVar = recloneVar "AttributeError: 'NoneType' object has no attribute 'clone'"
      (fun v c => { c with isNeutralized := true, label := some (neutralizedLabel v.label) }) := rfl

theorem annualizeVar_eq_reclone :
    annualizeVar = recloneVar "VariableNotFoundError"
      (fun v c => { c with formulas := v.formulas.map (fun p => (p.1, Fml.annual p.2)),
                           isNeutralized := v.isNeutralized }) := rfl

variable {err : String} {f : VarObj → VarObj → VarObj}

theorem recloneVar_inv (err : String) (f : VarObj → VarObj → VarObj) (h : Heap) (X : Oid) (name : String) :
    (∃ e, recloneVar err f h X name = (h, .error e)) ∨
    (∃ s m vid v c, h.getSys X = some s ∧ h.getMap s.vars = some m ∧ dictGet name m = some vid ∧
        h.getVar vid = some v ∧ cloneVar h v = .ok c ∧
        recloneVar err f h X name = (bindVar h s m name (f v c), .ok ())) := by
  generalize hr : recloneVar err f h X name = r
  unfold recloneVar at hr
  split at hr
  · exact Or.inl ⟨_, hr.symm⟩
  rename_i s hs
  split at hr
  · exact Or.inl ⟨_, hr.symm⟩
  rename_i m hm
  split at hr
  · exact Or.inl ⟨_, hr.symm⟩
  rename_i vid hd
  split at hr
  · exact Or.inl ⟨_, hr.symm⟩
  rename_i v hv
  split at hr
  · exact Or.inl ⟨_, hr.symm⟩
  rename_i c hc
  exact Or.inr ⟨s, m, vid, v, c, hs, hm, hd, hv, hc, hr.symm⟩

theorem recloneVar_eq {h : Heap} {X : Oid} {name : String} {s : SysObj} {m : List (String × Oid)}
    {vid : Oid} {v c : VarObj} (hs : h.getSys X = some s) (hm : h.getMap s.vars = some m)
    (hd : dictGet name m = some vid) (hv : h.getVar vid = some v) (hcl : cloneVar h v = .ok c) :
    recloneVar err f h X name = (bindVar h s m name (f v c), .ok ()) := by
  unfold recloneVar
  rw [hs]; dsimp only; rw [hm]; dsimp only; rw [hd]; dsimp only; rw [hv]; dsimp only; rw [hcl]

theorem recloneVar_ok {h h' : Heap} {X : Oid} {name : String} (hu : recloneVar err f h X name = (h', .ok ())) :
    ∃ vid v c, resolve h X name = some vid ∧ h.getVar vid = some v ∧ cloneVar h v = .ok c ∧
      resolve h' X name = some h.next ∧ h'.getVar h.next = some (f v c) := by
  rcases recloneVar_inv err f h X name with ⟨e, he⟩ | ⟨s, m, vid, v, c, hs, hm, hd, hv, hcl, he⟩
  · rw [he] at hu; cases hu
  · rw [he] at hu; cases hu
    obtain ⟨r1, r2, _⟩ := bindVar_spec hs hm name (f v c)
    exact ⟨vid, v, c, by rw [resolve_eq hs hm, hd], hv, hcl, r1, r2⟩

theorem recloneVar_obs {h : Heap} {X vid : Oid} {name : String} {v c : VarObj} (hr : resolve h X name = some vid)
    (hv : h.getVar vid = some v) (hcl : cloneVar h v = .ok c) :
    (recloneVar err f h X name).2 = .ok () ∧ varObs (recloneVar err f h X name).1 X name = some (f v c).view := by
  obtain ⟨s, m, hs, hm, hd⟩ := resolve_some_inv hr
  rw [recloneVar_eq hs hm hd hv hcl]
  obtain ⟨r1, r2, _⟩ := bindVar_spec hs hm name (f v c)
  exact ⟨rfl, varObs_of_resolve r1 r2⟩

end OFCore.HeapSys
