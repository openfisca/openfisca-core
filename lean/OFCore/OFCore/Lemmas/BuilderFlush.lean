import OFCore.Lemmas.BuilderFolds
import OFCore.Lemmas.InsertionSort
/-!
The flush order (`keyLe`, a total preorder that `sortBy` sorts by: `sortedPeriods_sorted`), what the flush assumes of
`set_input` (`SetInputOK`), and what a flush then does to the cell of one period: unknown until its turn (`flush_unknown`),
written as given (`flush_exact`), kept afterwards (`flush_keeps`).
-/

namespace OFCore.Bld

variable {α : Type}

theorem keyLe_trans (a b c : Option Int × Int) (h1 : keyLe a b = true) (h2 : keyLe b c = true) :
    keyLe a c = true := by
  obtain ⟨a1, a2⟩ := a
  obtain ⟨b1, b2⟩ := b
  obtain ⟨c1, c2⟩ := c
  unfold keyLe at *
  cases a1 <;> cases b1 <;> cases c1 <;> simp at * <;> omega

theorem keyLe_total (a b : Option Int × Int) : (keyLe a b || keyLe b a) = true := by
  obtain ⟨a1, a2⟩ := a
  obtain ⟨b1, b2⟩ := b
  unfold keyLe
  cases a1 <;> cases b1 <;> simp <;> omega

theorem sortBy_eq (le : α → α → Bool) (l : List α) : sortBy le l = Srt.sortBy le l :=
  Srt.sortBy_unique (ins := insertBy le) (srt := sortBy le) (fun _ => rfl) (fun _ _ _ => rfl) rfl (fun _ _ => rfl) l

theorem sortBy_perm (le : α → α → Bool) (l : List α) : (sortBy le l).Perm l :=
  sortBy_eq le l ▸ Srt.sortBy_perm le l

theorem sortBy_pairwise (le : α → α → Bool)
    (htrans : ∀ a b c, le a b = true → le b c = true → le a c = true)
    (htotal : ∀ a b, (le a b || le b a) = true) (l : List α) :
    (sortBy le l).Pairwise (fun a b => le a b = true) :=
  sortBy_eq le l ▸ (Srt.sortBy_pairwise (S := fun _ _ => True) (fun a b => by simpa using htotal a b) htrans l
    (List.pairwise_of_forall fun _ _ => trivial)).imp And.left

theorem sortedPeriods_ok {buf : Buffer} {v : String} {ps : List Period} (h : sortedPeriods buf v = .ok ps) :
    ∃ qs kps, mapE parseBuffered (varKeys buf v) = .ok qs ∧ mapE keyedPeriod qs = .ok kps ∧
      ps = (sortBy (fun a b => keyLe a.1 b.1) kps).map (fun kp => kp.2) := by
  unfold sortedPeriods at h
  split at h
  · cases h
  next qs hq =>
    split at h
    · cases h
    next kps hk => cases h; exact ⟨qs, kps, hq, hk, rfl⟩

theorem parseBuffered_ok {ck : List Char} {p : Period} (h : parseBuffered ck = .ok p) : parsePeriod ck = .ok p := by
  unfold parseBuffered at h
  split at h
  · cases h; assumption
  · cases h

theorem keyedPeriod_ok {p : Period} {kp : (Option Int × Int) × Period} (h : keyedPeriod p = .ok kp) :
    kp.2 = p ∧ flushKey p = .ok kp.1 := by
  unfold keyedPeriod at h
  split at h
  next hk => cases h; exact ⟨rfl, hk⟩
  · cases h

theorem sortedPeriods_sorted {buf : Buffer} {v : String} {ps : List Period} (h : sortedPeriods buf v = .ok ps) :
    ps.Pairwise (fun p q => flushLe p q = true) ∧
    ∃ qs, All₂ (fun ck q => parsePeriod ck = .ok q) (varKeys buf v) qs ∧ ps.Perm qs := by
  obtain ⟨qs, kps, hq, hkp, rfl⟩ := sortedPeriods_ok h
  have hall := mapE_forall₂ hkp
  have hsnd : kps.map (fun kp => kp.2) = qs :=
    (hall.map_eq id (fun kp => kp.2) (fun _ _ h => (keyedPeriod_ok h).1.symm)).symm.trans (List.map_id _)
  have hkeys : ∀ kp ∈ kps, flushKey kp.2 = .ok kp.1 := by
    intro kp hkp
    obtain ⟨p, _, hp⟩ := hall.exists_left hkp
    rw [(keyedPeriod_ok hp).1]; exact (keyedPeriod_ok hp).2
  have hperm := sortBy_perm (fun (a b : (Option Int × Int) × Period) => keyLe a.1 b.1) kps
  refine ⟨?_, qs, (mapE_forall₂ hq).imp (fun _ _ => parseBuffered_ok), hsnd ▸ hperm.map _⟩
  rw [List.pairwise_map]
  refine (sortBy_pairwise _ (fun a b c => keyLe_trans a.1 b.1 c.1) (fun a b => keyLe_total a.1 b.1) kps).imp_of_mem ?_
  intro a b ha hb hab
  unfold flushLe
  rw [hkeys a (hperm.mem_iff.mp ha), hkeys b (hperm.mem_iff.mp hb)]
  exact hab

/-- what one successful step of the flush did: nothing (the period starts after the variable's `end`) or one `set_input` -/
theorem callStep_ok {si : SetInput} {buf : Buffer} {var : Var} {count : Nat} {s s₁ : Store} {q : Period}
    (h : callStep si buf var count s q = .ok s₁) :
    ∃ values, alGet buf (var.name, q.text) = some values ∧ values.length ≠ 0 ∧
      ((endGuard var q = .ok false ∧ s₁ = s) ∨
       (endGuard var q = .ok true ∧ si s var count q (tile (count / values.length) values) = .ok s₁)) := by
  unfold callStep at h
  split at h
  · cases h
  · rename_i values hg
    split at h
    · cases h
    · rename_i hz
      refine ⟨values, hg, hz, ?_⟩
      split at h
      · cases h
      next he => cases h; exact Or.inl ⟨he, rfl⟩
      next he => exact Or.inr ⟨he, h⟩

/-- What is assumed of `Holder.set_input` for a variable that is not eternal (clauses of C16:
"one definition period still unknown is written as given", "a known period is never overwritten",
"only definition periods inside the given period are written" — such a period is never sorted
after the period that contains it): -/
structure SetInputOK (si : SetInput) : Prop where
  exact : ∀ (s : Store) (var : Var) (n : Nat) (p : Period) (a : Vec),
    var.defUnit ≠ .eternity → p.unit = var.defUnit → p.size = 1 → a.length = n →
    alGet s (var.name, p) = none → si s var n p a = .ok (alSet s (var.name, p) a)
  keeps : ∀ (s s' : Store) (var : Var) (n : Nat) (p : Period) (a : Vec),
    var.defUnit ≠ .eternity → si s var n p a = .ok s' →
    ∀ (k : String × Period) (x : Vec), k ≠ (var.name, p) → alGet s k = some x → alGet s' k = some x
  fresh : ∀ (s s' : Store) (var : Var) (n : Nat) (p : Period) (a : Vec),
    var.defUnit ≠ .eternity → si s var n p a = .ok s' →
    ∀ (k : String × Period), alGet s k = none → alGet s' k ≠ none →
    k.1 = var.name ∧ (k.2 = p ∨ flushLe p k.2 = false)

/-- a `set_input` that accepts one definition period at a time; it satisfies `SetInputOK` (the `example` at the head of
`Props/C12.lean`) -/
def plainSetInput : SetInput := fun s var _ p a =>
  if p.unit = var.defUnit ∧ p.size = 1 then .ok (alSet s (var.name, p) a) else .error .situation

theorem flush_unknown {si : SetInput} (hsi : SetInputOK si) {buf : Buffer} {var : Var}
    (hne : var.defUnit ≠ .eternity) {count : Nat} {q : Period} {ps : List Period} {s s' : Store}
    (hk : ∀ q' ∈ ps, q' ≠ q ∧ flushLe q' q = true) (h : foldE (callStep si buf var count) s ps = .ok s') :
    alGet s (var.name, q) = none → alGet s' (var.name, q) = none := by
  refine foldE_inv (fun s => alGet s (var.name, q) = none) ?_ h
  intro s s₁ q' hq' h1 hx
  obtain ⟨values, _, _, ⟨_, rfl⟩ | ⟨_, h1⟩⟩ := callStep_ok h1
  · exact hx
  · cases hq : alGet s₁ (var.name, q) with
    | none => rfl
    | some x =>
      obtain ⟨hneq, hle⟩ := hk q' hq'
      rcases (hsi.fresh s s₁ var count q' _ hne h1 (var.name, q) hx (by rw [hq]; simp)).2 with e | e
      · exact absurd e.symm hneq
      · simp only at e; rw [hle] at e; cases e

theorem flush_exact {si : SetInput} (hsi : SetInputOK si) {buf : Buffer} {var : Var}
    (hne : var.defUnit ≠ .eternity) {count : Nat} {q : Period} {s s' : Store}
    (h : callStep si buf var count s q = .ok s') (hguard : endGuard var q = .ok true)
    (hunit : q.unit = var.defUnit) (hsize : q.size = 1) {values : Vec}
    (hvals : alGet buf (var.name, q.text) = some values)
    (hlen : (tile (count / values.length) values).length = count) :
    alGet s (var.name, q) = none → alGet s' (var.name, q) = some (tile (count / values.length) values) := by
  intro hx
  obtain ⟨values', hv', _, ⟨hg, _⟩ | ⟨_, hset⟩⟩ := callStep_ok h
  · rw [hguard] at hg; cases hg
  · rw [hvals] at hv'; cases hv'
    rw [hsi.exact s var count q _ hne hunit hsize hlen hx] at hset
    cases hset
    exact alGet_alSet_same _ _ _

theorem flush_keeps {si : SetInput} (hsi : SetInputOK si) {buf : Buffer} {var : Var}
    (hne : var.defUnit ≠ .eternity) {count : Nat} {q : Period} {x : Vec} {ps : List Period} {s s' : Store}
    (hk : q ∉ ps) (h : foldE (callStep si buf var count) s ps = .ok s') :
    alGet s (var.name, q) = some x → alGet s' (var.name, q) = some x := by
  refine foldE_inv (fun s => alGet s (var.name, q) = some x) ?_ h
  intro s s₁ q' hq' h1 hx
  obtain ⟨values, _, _, ⟨_, rfl⟩ | ⟨_, h1⟩⟩ := callStep_ok h1
  · exact hx
  · exact hsi.keeps s s₁ var count q' _ hne h1 _ x (fun e => hk ((Prod.mk.inj e).2 ▸ hq')) hx

end OFCore.Bld
