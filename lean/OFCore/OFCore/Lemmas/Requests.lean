import OFCore.AddDivide
import OFCore.Lemmas.Subperiods
/-!
One equivalence per request (`calcPlain_eq_ok`, `calcAdd_eq_ok`, `calcDivide_eq_ok`): the guards that must not fire
and the value returned.  The refusal lemmas are its contrapositive (through `error_of_not_ok`), `calcPlain_ok` its
right-to-left direction.  `calcAdd_pass` and `calcDivide_pass` say what is left once the guards pass, an error of
`subperiods` or `enclosing` included, so they are read off the definition.  No calendar fact is needed here.
-/
namespace OFCore

theorem isDated_false_iff {u : DUnit} : (!isDated u) = true ↔ u = .eternity := by
  cases u <;> decide +kernel

theorem checkPeriodConsistency_eq_ok {u : DUnit} {p : Period} :
    checkPeriodConsistency u p = .ok () ↔ u = .eternity ∨ (p.unit = u ∧ p.size = 1) := by
  unfold checkPeriodConsistency
  cases u <;> simp only [ite_error_eq_ok, reduceCtorEq, if_false, if_true, false_and, true_and, false_or,
    true_or, Classical.not_not, ne_eq, and_true]

theorem checkPeriodConsistency_err (u : DUnit) (p : Period)
    (hu : u ≠ .eternity) (h : p.unit ≠ u ∨ p.size ≠ 1) : ∃ e, checkPeriodConsistency u p = .error e :=
  error_of_not_ok fun _ hr => (checkPeriodConsistency_eq_ok.1 hr).elim hu fun ⟨h1, h2⟩ => h.elim (· h1) (· h2)

theorem holderStoreCheck_ok (u : DUnit) (p : Period)
    (h : u = .eternity ∨ (p.unit = u ∧ p.size = 1)) : holderStoreCheck u p = .ok () := by
  unfold holderStoreCheck
  rcases h with h | ⟨h1, h2⟩
  · rw [if_pos h]
  · by_cases hu : u = .eternity
    · rw [if_pos hu]
    · rw [if_neg hu, if_neg (by rw [h1, h2]; simp)]

/-- whether values are stored plays no role: `Holder._set` accepts whatever `_check_period_consistency` does -/
theorem calcPlain_eq (val : Period → Int) (store : Bool) (u : DUnit) (p : Period) :
    calcPlain val store u p = (checkPeriodConsistency u p).map fun _ => val p := by
  unfold calcPlain
  cases h : checkPeriodConsistency u p with
  | error e => rfl
  | ok _ =>
    cases store
    · rfl
    · simp only [bind, Except.bind, if_true, holderStoreCheck_ok u p (checkPeriodConsistency_eq_ok.1 h)]
      rfl

theorem calcPlain_store (val : Period → Int) (s s' : Bool) (u : DUnit) : calcPlain val s u = calcPlain val s' u :=
  funext fun q => by rw [calcPlain_eq, calcPlain_eq]

theorem calcPlain_eq_ok {val : Period → Int} {store : Bool} {u : DUnit} {p : Period} {r : Int} :
    calcPlain val store u p = .ok r ↔ (u = .eternity ∨ (p.unit = u ∧ p.size = 1)) ∧ val p = r := by
  rw [calcPlain_eq, map_eq_ok, ← checkPeriodConsistency_eq_ok]
  exact ⟨fun ⟨_, h, hr⟩ => ⟨h, hr⟩, fun ⟨h, hr⟩ => ⟨_, h, hr⟩⟩

theorem calcPlain_ok (val : Period → Int) (store : Bool) (u : DUnit) (p : Period)
    (h : u = .eternity ∨ (p.unit = u ∧ p.size = 1)) : calcPlain val store u p = .ok (val p) :=
  calcPlain_eq_ok.2 ⟨h, rfl⟩

theorem calcPlain_err (val : Period → Int) (store : Bool) (u : DUnit) (p : Period)
    (hu : u ≠ .eternity) (h : p.unit ≠ u ∨ p.size ≠ 1) : ∃ e, calcPlain val store u p = .error e :=
  error_of_not_ok fun _ hr => (calcPlain_eq_ok.1 hr).1.elim hu fun ⟨h1, h2⟩ => h.elim (· h1) (· h2)

theorem calcPlain_refused_iff (val : Period → Int) (store : Bool) (u : DUnit) (p : Period) :
    (∃ e, calcPlain val store u p = .error e) ↔ (u ≠ .eternity ∧ (p.unit ≠ u ∨ p.size ≠ 1)) :=
  error_iff_of (fun h => calcPlain_err val store u p h.1 h.2) fun hn =>
    ⟨_, calcPlain_ok val store u p (by
      simpa only [ne_eq, Classical.not_and_iff_not_or_not, not_or, Classical.not_not] using hn)⟩

theorem offsetsFrom_units (b : Period) (u : DUnit) (n : Int) (qs : List Period)
    (h : offsetsFrom b u n = .ok qs) :
    qs.length = n.toNat ∧ ∀ q ∈ qs, q.unit = b.unit ∧ q.size = b.size := by
  rw [offsetsFrom_eq_map h]
  refine ⟨by simp, fun q hq => ?_⟩
  obtain ⟨i, _, rfl⟩ := List.mem_map.1 hq
  exact ⟨rfl, rfl⟩

theorem subperiods_units (p : Period) (u : DUnit) (qs : List Period) (h : p.subperiods u = .ok qs) :
    ∀ q ∈ qs, q.unit = u ∧ q.size = 1 := by
  obtain ⟨-, b, n, hb, -, ho⟩ := subperiods_eq_ok.1 h
  obtain ⟨-, hbu, hbs, -⟩ := subBase_ok hb
  intro q hq
  obtain ⟨h1, h2⟩ := (offsetsFrom_units _ _ _ _ ho).2 q hq
  exact ⟨h1.trans hbu, h2.trans hbs⟩

theorem subBase_eq_enclosing (p : Period) {u : DUnit} (hu : u ≠ .eternity) : subBase p u = enclosing u p := by
  cases u
  case eternity => exact absurd rfl hu
  all_goals rfl

theorem enclosing_shape (u : DUnit) (hu : u ≠ .eternity) (p c : Period) (h : enclosing u p = .ok c) :
    c.unit = u ∧ c.size = 1 :=
  have h' := subBase_ok (subBase_eq_enclosing p hu ▸ h)
  ⟨h'.2.1, h'.2.2.1⟩

theorem mapM_calcPlain {val : Period → Int} {store : Bool} {u : DUnit} {qs : List Period}
    (hq : ∀ q ∈ qs, q.unit = u ∧ q.size = 1) : qs.mapM (calcPlain val store u) = .ok (qs.map val) :=
  mapM_ok_map _ _ _ fun q h => calcPlain_ok val store u q (.inr (hq q h))

theorem calcAdd_eq_ok {val : Period → Int} {store : Bool} {u : DUnit} {p : Period} {r : Int} :
    calcAdd val store u p = .ok r ↔ ¬ unitWeight u > unitWeight p.unit ∧ u ≠ .eternity ∧ p.unit ≠ .eternity ∧
      ∃ qs, p.subperiods u = .ok qs ∧ r = (qs.map val).sum := by
  simp only [calcAdd, ite_error_eq_ok, isDated_false_iff, bind_eq_ok]
  refine and_congr_right fun _ => and_congr_right fun _ => and_congr_right fun _ =>
    exists_congr fun qs => and_congr_right fun hq => ?_
  rw [mapM_calcPlain (subperiods_units p u qs hq)]
  exact ⟨fun ⟨_, h, hr⟩ => by cases h; exact (Except.ok.inj hr).symm, fun h => ⟨_, rfl, by rw [h]⟩⟩

theorem calcAdd_mapM_pieces {val : Period → Int} {store : Bool} {u : DUnit} :
    ∀ {ms : List Period} {rs : List Int}, ms.mapM (calcAdd val store u) = .ok rs →
      ∃ dss, Piecewise (fun m ds => m.subperiods u = .ok ds) ms dss ∧ rs.sum = (dss.flatten.map val).sum
  | [], rs, h => by
    obtain rfl : [] = rs := Except.ok.inj h
    exact ⟨[], trivial, rfl⟩
  | m :: ms, rs, h => by
    obtain ⟨rm, hm, rest, hr, rfl⟩ := mapM_cons_eq_ok.1 h
    obtain ⟨-, -, -, ds, hds, rfl⟩ := calcAdd_eq_ok.1 hm
    obtain ⟨dss, hP, hS⟩ := calcAdd_mapM_pieces hr
    exact ⟨ds :: dss, ⟨hds, hP⟩, by
      simp only [List.sum_cons, List.flatten_cons, List.map_append, List.sum_append, hS]⟩

theorem calcAdd_store (val : Period → Int) (s s' : Bool) (u : DUnit) : calcAdd val s u = calcAdd val s' u :=
  funext fun p => by unfold calcAdd; rw [calcPlain_store val s s' u]

theorem calcAdd_refuses (val : Period → Int) (store : Bool) (u : DUnit) (p : Period)
    (h : unitWeight u > unitWeight p.unit ∨ u = .eternity ∨ p.unit = .eternity) :
    ∃ e, calcAdd val store u p = .error e :=
  error_of_not_ok fun r hr => by
    obtain ⟨h1, h2, h3, -⟩ := calcAdd_eq_ok.1 hr
    exact h.elim h1 (·.elim h2 h3)

theorem calcAdd_guard_weight (val : Period → Int) (store : Bool) (u : DUnit) (p : Period)
    (h : unitWeight u > unitWeight p.unit) : ∃ e, calcAdd val store u p = .error e :=
  calcAdd_refuses val store u p (.inl h)

theorem calcAdd_guard_eternal_variable (val : Period → Int) (store : Bool) (p : Period) :
    ∃ e, calcAdd val store .eternity p = .error e :=
  calcAdd_refuses val store .eternity p (.inr (.inl rfl))

theorem calcAdd_guard_eternal_period (val : Period → Int) (store : Bool) (u : DUnit) (p : Period)
    (h : p.unit = .eternity) : ∃ e, calcAdd val store u p = .error e :=
  calcAdd_refuses val store u p (.inr (.inr h))

theorem calcAdd_pass (val : Period → Int) (store : Bool) (u : DUnit) (p : Period)
    (hw : ¬ unitWeight u > unitWeight p.unit) (hu : u ≠ .eternity) (hp : p.unit ≠ .eternity) :
    calcAdd val store u p =
      match p.subperiods u with
      | .ok qs => .ok (qs.map val).sum
      | .error e => .error e := by
  unfold calcAdd
  rw [if_neg hw, if_neg (mt isDated_false_iff.1 hu), if_neg (mt isDated_false_iff.1 hp)]
  cases hq : p.subperiods u with
  | error e => rfl
  | ok qs => simp only [bind, Except.bind, mapM_calcPlain (subperiods_units p u qs hq)]

theorem calcDivide_eq_ok {val : Period → Int} {store : Bool} {u : DUnit} {p : Period} {r : Rat} :
    calcDivide val store u p = .ok r ↔ ¬ unitWeight u < unitWeight p.unit ∧ p.size = 1 ∧ u ≠ .eternity ∧
      p.unit ≠ .eternity ∧
      ∃ c n, enclosing u p = .ok c ∧ denominator p.unit c = .ok n ∧ r = (val c : Rat) / (n : Rat) := by
  simp only [calcDivide, ite_error_eq_ok, isDated_false_iff, bind_eq_ok, not_or, Classical.not_not]
  constructor
  · rintro ⟨⟨hw, _⟩, hu, ⟨hp, hs⟩, c, hc, n, hn, v, hv, hr⟩
    rw [← (calcPlain_eq_ok.1 hv).2] at hr
    exact ⟨hw, hs, hu, hp, c, n, hc, hn, (Except.ok.inj hr).symm⟩
  · rintro ⟨hw, hs, hu, hp, c, n, hc, hn, rfl⟩
    exact ⟨⟨hw, by omega⟩, hu, ⟨hp, hs⟩, c, hc, n, hn, _,
      calcPlain_ok val store u c (.inr (enclosing_shape u hu p c hc)), rfl⟩

theorem calcDivide_store (val : Period → Int) (s s' : Bool) (u : DUnit) : calcDivide val s u = calcDivide val s' u :=
  funext fun p => by unfold calcDivide; rw [calcPlain_store val s s' u]

theorem calcDivide_guard (val : Period → Int) (store : Bool) (u : DUnit) (p : Period)
    (h : unitWeight u < unitWeight p.unit ∨ p.size ≠ 1 ∨ u = .eternity ∨ p.unit = .eternity) :
    ∃ e, calcDivide val store u p = .error e :=
  error_of_not_ok fun r hr => by
    obtain ⟨h1, h2, h3, h4, -⟩ := calcDivide_eq_ok.1 hr
    exact h.elim h1 (·.elim (· h2) (·.elim h3 h4))

theorem calcDivide_pass (val : Period → Int) (store : Bool) (u : DUnit) (p : Period)
    (hw : ¬ unitWeight u < unitWeight p.unit) (hs : p.size = 1) (hu : u ≠ .eternity)
    (hp : p.unit ≠ .eternity) :
    calcDivide val store u p =
      match enclosing u p with
      | .error e => .error e
      | .ok c =>
        match denominator p.unit c with
        | .error e => .error e
        | .ok n => .ok ((val c : Rat) / (n : Rat)) := by
  unfold calcDivide
  rw [if_neg (by rw [hs]; simp; exact Int.not_lt.mp hw),
    if_neg (by rw [isDated_false_iff]; exact hu),
    if_neg (by rw [isDated_false_iff, hs]; simp; exact hp)]
  cases hc : enclosing u p with
  | error e => rfl
  | ok c =>
    simp only [bind, Except.bind]
    cases hn : denominator p.unit c with
    | error e => rfl
    | ok n =>
      simp only
      rw [calcPlain_ok val store u c (Or.inr (enclosing_shape u hu p c hc))]

theorem callWithOptions_some (val : Period → Int) (store : Bool) (u : DUnit) (p : Period) (os : List Opt) :
    callWithOptions val store u (some p) (some os) =
      if Opt.add ∈ os ∧ Opt.divide ∈ os then .error "incompatible options"
      else if Opt.add ∈ os then (calcAdd val store u p).map (fun (v : Int) => (v : Rat))
      else if Opt.divide ∈ os then calcDivide val store u p
      else .error "invalid option" := by
  simp only [callWithOptions, List.contains_iff_mem]

end OFCore
