import OFCore.Lemmas.ParamView
import OFCore.Lemmas.Except
import OFCore.Lemmas.Rows
import OFCore.Lemmas.InsertionSort
/-!
Vectorial nodes of the parameter-reading model (C07): every index (by keys, by field name, by dates) reads its rows one by
one (`List.mapM` of `fieldOf` or `asofOne`), and on fields sorted the as-of way the number of dates `≤ t` is the position of the
field in force.
-/

namespace OFCore.PView
open OFCore.Param

variable {V W α β : Type}

theorem assoc_insertField (lt : String → String → Bool) (hirr : ∀ a, lt a a = false) (x : String × α)
    (l : List (String × α)) (k : String) :
    assoc k (insertField lt x l) = if x.1 = k then some x.2 else assoc k l := by
  induction l with
  | nil => obtain ⟨a, b⟩ := x; simp [insertField, assoc]
  | cons y r ih =>
    obtain ⟨a, b⟩ := x
    obtain ⟨a', b'⟩ := y
    simp only [insertField]
    by_cases hlt : lt a' a = true
    · rw [if_pos hlt]
      simp only [assoc, ih]
      by_cases h1 : a' = k
      · rw [if_pos h1]
        by_cases h2 : a = k
        · exfalso; rw [h1, h2, hirr] at hlt; cases hlt
        · rw [if_neg h2, if_pos h1]
      · rw [if_neg h1, if_neg h1]
    · rw [if_neg hlt]
      simp only [assoc]

theorem assoc_sortFields (lt : String → String → Bool) (hirr : ∀ a, lt a a = false)
    (l : List (String × α)) (k : String) : assoc k (sortFields lt l) = assoc k l := by
  induction l with
  | nil => rfl
  | cons x r ih =>
    obtain ⟨a, b⟩ := x
    simp only [sortFields, assoc_insertField lt hirr, ih, assoc]

theorem plainLt_irrefl (a : String) : plainLt a a = false := by
  simp [plainLt]

theorem asofLt_irrefl (a : String) : asofLt a a = false := by
  simp [asofLt]

theorem sortFields_eq (lt : String → String → Bool) (l : List (String × α)) :
    sortFields lt l = Srt.sortBy (fun x y => !lt y.1 x.1) l :=
  Srt.sortBy_unique (ins := insertField lt) (fun _ => rfl)
    (fun x y r => by rw [insertField]; cases lt y.1 x.1 <;> rfl) rfl (fun _ _ => rfl) l

theorem perm_sortFields (lt : String → String → Bool) (l : List (String × α)) :
    (sortFields lt l).Perm l :=
  sortFields_eq lt l ▸ Srt.sortBy_perm _ l

def NotAfter (lt : String → String → Bool) (x y : String × α) : Prop := lt y.1 x.1 = false

theorem sorted_sortFields (lt : String → String → Bool)
    (hasymm : ∀ a b, lt a b = true → lt b a = false)
    (htrans : ∀ a b c, lt b a = false → lt c b = false → lt c a = false)
    (l : List (String × α)) : (sortFields lt l).Pairwise (NotAfter lt) :=
  sortFields_eq lt l ▸ (Srt.sortBy_pairwise (S := fun _ _ => True)
    (fun a b => by
      cases h : lt b.1 a.1
      · exact .inl rfl
      · exact .inr (by rw [hasymm _ _ h]; rfl))
    (fun a b c h1 h2 => by
      simp only [Bool.not_eq_true'] at h1 h2 ⊢
      exact htrans _ _ _ h1 h2) l
    (List.pairwise_of_forall fun _ _ => trivial)).imp fun h => by simpa [NotAfter] using h.1

theorem asofLt_eq_false {a b : String} :
    asofLt b a = false ↔ (isBefore a = true ∧ isBefore b = false) ∨ (isBefore a = isBefore b ∧ a ≤ b) := by
  unfold asofLt
  by_cases h : isBefore b = isBefore a
  · rw [if_pos h, h]
    cases isBefore a <;> simp
  · rw [if_neg h]
    cases ha : isBefore a <;> cases hb : isBefore b <;> simp_all

theorem asofLt_asymm (a b : String) (h : asofLt a b = true) : asofLt b a = false := by
  by_cases hb : isBefore a = isBefore b
  · refine asofLt_eq_false.mpr (Or.inr ⟨hb, ?_⟩)
    simp only [asofLt, if_pos hb, decide_eq_true_eq] at h
    exact String.not_lt.mp (String.lt_asymm h)
  · simp only [asofLt, if_neg hb] at h
    refine asofLt_eq_false.mpr (Or.inl ⟨h, ?_⟩)
    cases hbb : isBefore b
    · rfl
    · exact absurd (h.trans hbb.symm) hb

theorem asofLt_trans (a b c : String) (h1 : asofLt b a = false) (h2 : asofLt c b = false) :
    asofLt c a = false := by
  rw [asofLt_eq_false] at h1 h2 ⊢
  rcases h1 with ⟨ha, hb⟩ | ⟨hab, h1⟩ <;> rcases h2 with ⟨hb', hc⟩ | ⟨hbc, h2⟩
  · rw [hb] at hb'; cases hb'
  · exact Or.inl ⟨ha, hbc ▸ hb⟩
  · exact Or.inl ⟨hab ▸ hb', hc⟩
  · exact Or.inr ⟨hab.trans hbc, String.le_trans h1 h2⟩

theorem vectoriseAll_eq (lt : String → String → Bool) (num : V → Option W) (cs : List (String × Snap V)) :
    (vectoriseAll lt num cs).toOption = List.mapM (fun p => (vectorise lt num p.2).toOption.map (p.1, ·)) cs := by
  induction cs with
  | nil => rfl
  | cons p r ih =>
    obtain ⟨k, c⟩ := p
    rw [vectoriseAll, mapM_cons_opt, ← ih]
    cases vectorise lt num c <;> cases vectoriseAll lt num r <;> rfl

theorem vectoriseAll_mapM {lt : String → String → Bool} {num : V → Option W} {cs : List (String × Snap V)}
    {fs : List (String × VRow W)} (h : vectoriseAll lt num cs = .ok fs) :
    List.mapM (fun p => (vectorise lt num p.2).toOption.map (p.1, ·)) cs = some fs :=
  (vectoriseAll_eq lt num cs).symm.trans (toOption_eq_some.mpr h)

theorem vectoriseAll_error (lt : String → String → Bool) (num : V → Option W) (cs : List (String × Snap V))
    (e : String) (h : vectoriseAll lt num cs = .error e) : ∃ p ∈ cs, ∃ e', vectorise lt num p.2 = .error e' := by
  obtain ⟨p, hp, hn⟩ := mapM_eq_none.mp ((vectoriseAll_eq lt num cs).symm.trans (toOption_eq_none.mpr ⟨e, h⟩))
  exact ⟨p, hp, toOption_eq_none.mp (Option.map_eq_none_iff.mp hn)⟩

theorem vectoriseAll_keys (lt : String → String → Bool) (num : V → Option W) (cs : List (String × Snap V))
    (fs : List (String × VRow W)) (h : vectoriseAll lt num cs = .ok fs) : fs.map (·.1) = cs.map (·.1) :=
  (mapM_map_eq (vectoriseAll_mapM h) (·.1) (·.1) (fun p y hy => by
    obtain ⟨x, _, rfl⟩ := Option.map_eq_some_iff.mp hy; rfl)).symm

theorem vectoriseAll_mem (lt : String → String → Bool) (num : V → Option W) (cs : List (String × Snap V))
    (fs : List (String × VRow W)) (h : vectoriseAll lt num cs = .ok fs) (k : String) (x : VRow W) :
    (k, x) ∈ fs ↔ ∃ c, (k, c) ∈ cs ∧ vectorise lt num c = .ok x := by
  rw [mapM_mem (vectoriseAll_mapM h)]
  constructor
  · rintro ⟨⟨k', c⟩, hp, hy⟩
    obtain ⟨x', hx', heq⟩ := Option.map_eq_some_iff.mp hy
    cases heq
    exact ⟨c, hp, toOption_eq_some.mp hx'⟩
  · rintro ⟨c, hc, hx⟩
    exact ⟨(k, c), hc, by rw [toOption_eq_some.mpr hx]; rfl⟩

theorem vectoriseAll_ok (lt : String → String → Bool) (num : V → Option W) (cs : List (String × Snap V))
    (h : ∀ p ∈ cs, ∃ x, vectorise lt num p.2 = .ok x) : ∃ fs, vectoriseAll lt num cs = .ok fs := by
  cases hv : vectoriseAll lt num cs with
  | ok fs => exact ⟨fs, rfl⟩
  | error e =>
    obtain ⟨p, hp, e', he⟩ := vectoriseAll_error lt num cs e hv
    obtain ⟨x, hx⟩ := h p hp
    rw [hx] at he; cases he

theorem assoc_mapM {γ δ : Type} {f : γ → Option δ} {cs : List (String × γ)} {fs : List (String × δ)}
    (h : List.mapM (fun p => (f p.2).map (p.1, ·)) cs = some fs) (k : String) : assoc k fs = (assoc k cs).bind f := by
  induction cs generalizing fs with
  | nil => cases h; rfl
  | cons p r ih =>
    obtain ⟨k', c⟩ := p
    rw [mapM_cons_opt] at h
    cases hc : f c with
    | none => simp only [hc, Option.map_none] at h; cases h
    | some y =>
      cases hr : List.mapM (fun p => (f p.2).map (p.1, ·)) r with
      | none => simp only [hc, hr, Option.map_some] at h; cases h
      | some ys =>
        simp only [hc, hr, Option.map_some] at h
        cases h
        simp only [assoc]
        split
        · rw [Option.bind_some, hc]
        · exact ih hr

theorem fieldOf_vectorise {lt : String → String → Bool} (hirr : ∀ a, lt a a = false) {num : V → Option W}
    {cs : List (String × Snap V)} {row : VRow W} (h : vectorise lt num (.node cs) = .ok row) (k : String) :
    fieldOf k row = (assoc k cs).bind (fun c => (vectorise lt num c).toOption) := by
  simp only [vectorise] at h
  cases hr : vectoriseAll lt num cs with
  | error e => rw [hr] at h; cases h
  | ok fs =>
    rw [hr] at h
    cases h
    simp only [fieldOf, assoc_sortFields lt hirr]
    exact assoc_mapM (f := fun c => (vectorise lt num c).toOption) (vectoriseAll_mapM hr) k

theorem checkNodes_all (keys0 : List String) (l : List (Snap V)) (h : checkNodes keys0 l = .ok ()) :
    ∀ s ∈ l, ∃ cs, s = .node cs := by
  induction l with
  | nil => intro s hs; cases hs
  | cons x r ih =>
    cases x with
    | val v => simp only [checkNodes] at h; cases h
    | scale sc => simp only [checkNodes] at h; cases h
    | node cs =>
      simp only [checkNodes] at h
      by_cases hk : sameKeys keys0 (cs.map (·.1)) = true
      · rw [if_pos hk] at h
        intro s hs
        rcases List.mem_cons.mp hs with hs | hs
        · exact ⟨cs, hs⟩
        · exact ih h s hs
      · rw [if_neg hk] at h; cases h

theorem checkNums_all (num : V → Option W) (l : List (Snap V)) (h : checkNums num l = .ok ()) :
    ∀ s ∈ l, ∃ v w, s = .val v ∧ num v = some w := by
  induction l with
  | nil => intro s hs; cases hs
  | cons x r ih =>
    cases x with
    | node cs => simp only [checkNums] at h; cases h
    | scale sc => simp only [checkNums] at h; cases h
    | val v =>
      simp only [checkNums] at h
      cases hn : num v with
      | none => rw [hn] at h; simp at h
      | some w =>
        rw [hn] at h
        simp only [Option.isSome_some, if_true] at h
        intro s hs
        rcases List.mem_cons.mp hs with hs | hs
        · exact ⟨v, w, hs, hn⟩
        · exact ih h s hs

theorem mem_pool {l : List (Snap V)} {cs : List (String × Snap V)} (h : Snap.node cs ∈ l)
    {p : String × Snap V} (hp : p ∈ cs) : p.2 ∈ pool l := by
  induction l with
  | nil => cases h
  | cons x r ih =>
    simp only [pool, List.mem_append]
    rcases List.mem_cons.mp h with h | h
    · left; rw [← h]; simp only [kids, List.mem_map]; exact ⟨p, hp, rfl⟩
    · right; exact ih h

theorem homog_vectorise (lt : String → String → Bool) {num : V → Option W} {l : List (Snap V)}
    (h : homog num l = .ok ()) : ∀ s ∈ l, ∃ x, vectorise lt num s = .ok x := by
  induction l using homog.induct (num := num) with
  | case1 => simp only [homog] at h; cases h
  | case2 cs rest e he => rw [homog, he] at h; cases h
  | case3 cs rest he ih =>
    rw [homog, he] at h
    simp only at h
    have hall := ih h
    have hnodes : ∀ s ∈ Snap.node cs :: rest, ∃ cs', s = .node cs' := by
      intro s hs
      rcases List.mem_cons.mp hs with hs | hs
      · exact ⟨cs, hs⟩
      · exact checkNodes_all _ _ he s hs
    intro s hs
    obtain ⟨cs', rfl⟩ := hnodes s hs
    obtain ⟨fs, hfs⟩ := vectoriseAll_ok lt num cs' (fun p hp => hall p.2 (mem_pool hs hp))
    exact ⟨.record (sortFields lt fs), by simp only [vectorise, hfs]⟩
  | case4 v rest hv =>
    rw [homog, if_pos hv] at h
    have := checkNums_all num rest h
    intro s hs
    rcases List.mem_cons.mp hs with hs | hs
    · obtain ⟨w, hw⟩ := Option.isSome_iff_exists.mp hv
      exact ⟨.leaf w, by rw [hs]; simp only [vectorise, hw]⟩
    · obtain ⟨v', w, rfl, hw⟩ := this s hs
      exact ⟨.leaf w, by simp only [vectorise, hw]⟩
  | case5 v rest hv => rw [homog, if_neg hv] at h; cases h
  | case6 sc rest => simp only [homog] at h; cases h

theorem vectorise_node_of_homog (lt : String → String → Bool) {num : V → Option W} {cs : List (String × Snap V)}
    (hh : homog num (cs.map (·.2)) = .ok ()) :
    ∃ fs, vectoriseAll lt num cs = .ok fs ∧ vectorise lt num (.node cs) = .ok (.record (sortFields lt fs)) := by
  obtain ⟨fs, hfs⟩ := vectoriseAll_ok lt num cs fun p hp =>
    homog_vectorise lt hh p.2 (List.mem_map.mpr ⟨p, hp, rfl⟩)
  exact ⟨fs, hfs, by simp only [vectorise, hfs]⟩

theorem broadcast_single (r : α) (ks : List β) (h : ks ≠ []) :
    broadcast [r] ks = some (ks.map (fun k => (r, k))) := by
  unfold broadcast
  by_cases hl : [r].length = ks.length
  · rw [if_pos hl]
    cases ks with
    | nil => exact absurd rfl h
    | cons k t =>
      cases t with
      | nil => rfl
      | cons k2 t2 => simp at hl
  · rw [if_neg hl]

theorem pickAll_eq (ps : List (VRow W × String)) : pickAll ps = List.mapM (fun p => fieldOf p.2 p.1) ps := by
  induction ps with
  | nil => rfl
  | cons p r ih =>
    obtain ⟨x, k⟩ := p
    rw [pickAll, mapM_cons_opt, ← ih]
    cases fieldOf k x <;> cases pickAll r <;> rfl

theorem vindex_single_eq (row : VRow W) {ks : List String} (hks : ks ≠ []) :
    (vindex [row] ks).toOption = List.mapM (fun k => fieldOf k row) ks := by
  cases ks with
  | nil => exact absurd rfl hks
  | cons k0 t =>
    rw [vindex]
    cases h0 : fieldOf k0 row with
    | none => simp [h0, Except.toOption]
    | some x0 =>
      simp only [Option.isNone_some, Bool.false_eq_true, if_false, broadcast_single row (k0 :: t) hks, pickAll_eq,
        mapM_map]
      cases List.mapM (fun k => fieldOf k row) (k0 :: t) <;> rfl

theorem vfield_eq (rows : List (VRow W)) (k : String) : (vfield rows k).toOption = List.mapM (fieldOf k) rows := by
  induction rows with
  | nil => rfl
  | cons r rest ih =>
    rw [vfield, mapM_cons_opt, ← ih]
    cases fieldOf k r <;> cases vfield rest k <;> rfl

theorem vfield_error_iff (rows : List (VRow W)) (k : String) :
    (∃ e, vfield rows k = .error e) ↔ ∃ r ∈ rows, fieldOf k r = none := by
  rw [← toOption_eq_none, vfield_eq, mapM_eq_none]

theorem fancy_eq {num : V → Option W} {cs : List (String × Snap V)} {ks : List String}
    (hh : homog num (cs.map (·.2)) = .ok ()) (hks : ks ≠ []) :
    (fancy num (.node cs) ks).toOption
      = List.mapM (fun k => (assoc k cs).bind (fun c => (vectorise plainLt num c).toOption)) ks := by
  obtain ⟨fs, _, hvec⟩ := vectorise_node_of_homog plainLt hh
  simp only [fancy, buildVec, hh, hvec, vindex_single_eq _ hks, fieldOf_vectorise plainLt_irrefl hvec]

theorem fancy_nil (num : V → Option W) (s : Snap V) : ∃ e, fancy num s [] = .error e := by
  unfold fancy
  cases buildVec plainLt num s <;> exact ⟨_, rfl⟩

theorem fancy_ok {num : V → Option W} {cs : List (String × Snap V)} {ks : List String} {rows : List (VRow W)}
    (h : fancy num (.node cs) ks = .ok rows) :
    List.mapM (fun k => (assoc k cs).bind (fun c => (vectorise plainLt num c).toOption)) ks = some rows := by
  cases ks with
  | nil => obtain ⟨e, he⟩ := fancy_nil num (.node cs); rw [he] at h; cases h
  | cons k t =>
    cases hh : homog num (cs.map (·.2)) with
    | error e => simp only [fancy, buildVec, hh] at h; cases h
    | ok u => rw [← fancy_eq hh (List.cons_ne_nil k t), h]; rfl

theorem fancy_error_iff (num : V → Option W) (cs : List (String × Snap V)) (ks : List String) :
    (∃ e, fancy num (.node cs) ks = .error e) ↔
      homog num (cs.map (·.2)) ≠ .ok () ∨ ks = [] ∨ ∃ k ∈ ks, assoc k cs = none := by
  cases hh : homog num (cs.map (·.2)) with
  | error e => exact ⟨fun _ => Or.inl nofun, fun _ => ⟨e, by simp only [fancy, buildVec, hh]⟩⟩
  | ok u =>
    by_cases hks : ks = []
    · exact ⟨fun _ => Or.inr (Or.inl hks), fun _ => hks ▸ fancy_nil num (.node cs)⟩
    · rw [← toOption_eq_none, fancy_eq hh hks, mapM_eq_none]
      refine ⟨fun ⟨k, hk, hn⟩ => Or.inr (Or.inr ⟨k, hk, ?_⟩), fun h => ?_⟩
      · cases hc : assoc k cs with
        | none => rfl
        | some c =>
          -- a child of a homogeneous group vectorises, so a key that reads nothing names no child
          obtain ⟨x, hx⟩ := homog_vectorise plainLt hh c (List.mem_map.mpr ⟨(k, c), mem_of_assoc hc, rfl⟩)
          rw [hc, Option.bind_some, hx] at hn
          cases hn
      · rcases h with h | h | ⟨k, hk, hn⟩
        · exact absurd rfl h
        · exact absurd h hks
        · exact ⟨k, hk, by rw [hn]; rfl⟩

theorem fieldOf_vectorised {lt : String → String → Bool} (hirr : ∀ a, lt a a = false) {num : V → Option W}
    {c : Snap V} {r x : VRow W} {f : String} (hr : vectorise lt num c = .ok r) (hx : fieldOf f r = some x) :
    ∃ cs' c', c = .node cs' ∧ assoc f cs' = some c' ∧ vectorise lt num c' = .ok x := by
  cases c with
  | val v =>
    simp only [vectorise] at hr
    cases hn : num v with
    | none => rw [hn] at hr; cases hr
    | some w => rw [hn] at hr; cases hr; cases hx
  | scale sc => cases hr
  | node cs' =>
    rw [fieldOf_vectorise hirr hr] at hx
    obtain ⟨c', hc', hv⟩ := Option.bind_eq_some_iff.mp hx
    exact ⟨cs', c', rfl, hc', toOption_eq_some.mp hv⟩

theorem afterDates_of_shape (b : String × β) (A : List (String × β)) (hb : isBefore b.1 = true)
    (hA : ∀ a ∈ A, isBefore a.1 = false) (hp : ∀ a ∈ A, (parseAfter a.1).isSome = true) :
    afterDates ((b :: A).map (·.1)) = some (A.map (fun a => dateOf a.1)) := by
  rw [List.map_cons, afterDates, if_pos hb]
  induction A with
  | nil => rfl
  | cons a A ih =>
    obtain ⟨dd, hdd⟩ := Option.isSome_iff_exists.mp (hp a (List.mem_cons_self ..))
    rw [List.map_cons, afterDates, if_neg (by simp [hA a (List.mem_cons_self ..)]), hdd,
      ih (fun x hx => hA x (List.mem_cons_of_mem _ hx)) (fun x hx => hp x (List.mem_cons_of_mem _ hx))]
    simp [dateOf, hdd]

theorem countLE_zero (ds : List Int) (t : Int) (h : ∀ d ∈ ds, t < d) : countLE ds t = 0 := by
  induction ds with
  | nil => rfl
  | cons d r ih =>
    simp only [countLE]
    have h1 := h d (List.mem_cons_self ..)
    rw [if_neg (by omega), ih (fun d' hd' => h d' (List.mem_cons_of_mem _ hd'))]

theorem asofPick_eq (vals : List (VRow W)) (ads ds : List Int) :
    (asofPick vals ads ds).toOption = List.mapM (fun t => vals[countLE ads t]?) ds := by
  induction ds with
  | nil => rfl
  | cons t r ih =>
    rw [asofPick, mapM_cons_opt, ← ih]
    cases vals[countLE ads t]? <;> cases asofPick vals ads r <;> rfl

theorem asofPairs_eq (ps : List (VRow W × Int)) :
    (asofPairs ps).toOption = List.mapM (fun p => (asofOne p.1 p.2).toOption) ps := by
  induction ps with
  | nil => rfl
  | cons p r ih =>
    obtain ⟨x, t⟩ := p
    rw [asofPairs, mapM_cons_opt, ← ih]
    cases asofOne x t <;> cases asofPairs r <;> rfl

theorem asofIndex_eq {fs : List (String × VRow W)} {a : Int} {ads : List Int}
    (h : afterDates (fs.map (·.1)) = some (a :: ads)) (ds : List Int) :
    (asofIndex (.record fs) ds).toOption = List.mapM (fun t => (asofOne (.record fs) t).toOption) ds := by
  have : ∀ t, (asofOne (.record fs) t).toOption = (fs.map (·.2))[countLE (a :: ads) t]? := by
    intro t
    simp only [asofOne, h]
    cases (fs.map (·.2))[countLE (a :: ads) t]? <;> rfl
  simp only [asofIndex, h, asofPick_eq, this]

/-- `x` is in force at `t` among the base `b` and the dated `A` -/
def InForceAt (b : String × β) (A : List (String × β)) (t : Int) (x : String × β) : Prop :=
  (x = b ∧ ∀ a ∈ A, t < dateOf a.1) ∨
  (x ∈ A ∧ dateOf x.1 ≤ t ∧ ∀ a ∈ A, dateOf a.1 ≤ t → dateOf a.1 ≤ dateOf x.1)

theorem chron_pick (b : String × β) (A : List (String × β)) (t : Int)
    (hs : (A.map (fun a => dateOf a.1)).Pairwise (· < ·)) :
    ∃ x, (b :: A)[countLE (A.map (fun a => dateOf a.1)) t]? = some x ∧ InForceAt b A t x := by
  induction A generalizing b with
  | nil => exact ⟨b, rfl, Or.inl ⟨rfl, fun a ha => by cases ha⟩⟩
  | cons a A' ih =>
    simp only [List.map_cons, List.pairwise_cons] at hs
    obtain ⟨h1, h2⟩ := hs
    have h1' : ∀ y ∈ A', dateOf a.1 < dateOf y.1 := fun y hy => h1 _ (List.mem_map.mpr ⟨y, hy, rfl⟩)
    simp only [List.map_cons, countLE]
    by_cases hle : dateOf a.1 ≤ t
    · rw [if_pos hle]
      obtain ⟨x, hx, hin⟩ := ih a h2
      refine ⟨x, ?_, ?_⟩
      · rw [Nat.add_comm, List.getElem?_cons_succ]; exact hx
      · rcases hin with ⟨rfl, hall⟩ | ⟨hmem, hxt, hmax⟩
        · refine Or.inr ⟨List.mem_cons_self .., hle, ?_⟩
          intro y hy hyt
          rcases List.mem_cons.mp hy with hy | hy
          · rw [hy]; exact Int.le_refl _
          · have := hall y hy; omega
        · refine Or.inr ⟨List.mem_cons_of_mem _ hmem, hxt, ?_⟩
          intro y hy hyt
          rcases List.mem_cons.mp hy with hy | hy
          · rw [hy]; have := h1' x hmem; omega
          · exact hmax y hy hyt
    · rw [if_neg hle]
      have hz : countLE (A'.map (fun a => dateOf a.1)) t = 0 := by
        apply countLE_zero
        intro dd hdd
        obtain ⟨y, hy, rfl⟩ := List.mem_map.mp hdd
        have := h1' y hy; omega
      rw [hz]
      refine ⟨b, rfl, Or.inl ⟨rfl, ?_⟩⟩
      intro y hy
      rcases List.mem_cons.mp hy with hy | hy
      · rw [hy]; omega
      · have := h1' y hy; omega

theorem asof_sorted_shape (L : List (String × β)) (hs : L.Pairwise (NotAfter asofLt))
    (hone : (L.filter (fun p => isBefore p.1)).length = 1) :
    ∃ b A, L = b :: A ∧ isBefore b.1 = true ∧ ∀ a ∈ A, isBefore a.1 = false := by
  cases L with
  | nil => simp at hone
  | cons x r =>
    rw [List.pairwise_cons] at hs
    cases hb : isBefore x.1 with
    | true =>
      refine ⟨x, r, rfl, hb, ?_⟩
      rw [List.filter_cons_of_pos (by simpa using hb)] at hone
      simp only [List.length_cons, Nat.succ.injEq] at hone
      have hnil : r.filter (fun p => isBefore p.1) = [] := List.eq_nil_of_length_eq_zero (by omega)
      exact fun a ha => by simpa using List.filter_eq_nil_iff.mp hnil a ha
    | false =>
      exfalso
      rw [List.filter_cons_of_neg (by simpa using hb)] at hone
      have hpos : 0 < (r.filter (fun p => isBefore p.1)).length := by omega
      obtain ⟨y, hy⟩ := List.exists_mem_of_length_pos hpos
      obtain ⟨hyr, hyb⟩ := List.mem_filter.mp hy
      have hyb' : isBefore y.1 = true := by simpa using hyb
      rcases asofLt_eq_false.mp (hs.1 y hyr) with ⟨hx, _⟩ | ⟨hxy, _⟩
      · rw [hb] at hx; cases hx
      · rw [hb, hyb'] at hxy; cases hxy

theorem chron_of_sorted (A : List (String × β)) (hs : A.Pairwise (NotAfter asofLt))
    (hnb : ∀ a ∈ A, isBefore a.1 = false) (hnd : (A.map (·.1)).Nodup)
    (hord : ∀ a ∈ A, ∀ b ∈ A, dateOf a.1 < dateOf b.1 → a.1 < b.1)
    (hinj : ∀ a ∈ A, ∀ b ∈ A, dateOf a.1 = dateOf b.1 → a.1 = b.1) :
    (A.map (fun a => dateOf a.1)).Pairwise (· < ·) := by
  rw [List.pairwise_map]
  have hne : A.Pairwise (fun x y => x.1 ≠ y.1) := List.pairwise_map.mp hnd
  refine List.Pairwise.imp_of_mem ?_ (hs.and hne)
  intro x y hx hy hxy
  obtain ⟨h1, h2⟩ := hxy
  have hle : x.1 ≤ y.1 := by
    rcases asofLt_eq_false.mp h1 with ⟨hbx, _⟩ | ⟨_, h⟩
    · rw [hnb x hx] at hbx; cases hbx
    · exact h
  have h3 : ¬ dateOf y.1 < dateOf x.1 := fun c => String.not_lt.mpr hle (hord y hy x hx c)
  have h4 : dateOf x.1 ≠ dateOf y.1 := fun c => h2 (hinj x hx y hy c)
  omega

theorem inForce_of_inForceAt (names : List String) (b : String × β) (A : List (String × β)) (t : Int)
    (x : String × β) (hnames : ∀ a, a ∈ names ↔ ∃ p ∈ b :: A, p.1 = a)
    (hb : isBefore b.1 = true) (hA : ∀ a ∈ A, isBefore a.1 = false) (h : InForceAt b A t x) :
    InForce names t x.1 := by
  have hafter : ∀ a ∈ names, isBefore a = false → ∃ p ∈ A, p.1 = a := by
    intro a ha hab
    obtain ⟨p, hp, rfl⟩ := (hnames a).mp ha
    rcases List.mem_cons.mp hp with hp | hp
    · rw [hp, hb] at hab; cases hab
    · exact ⟨p, hp, rfl⟩
  rcases h with ⟨rfl, hall⟩ | ⟨hmem, hxt, hmax⟩
  · refine ⟨(hnames _).mpr ⟨x, List.mem_cons_self .., rfl⟩, Or.inl ⟨hb, ?_⟩⟩
    intro a ha hab
    obtain ⟨p, hp, rfl⟩ := hafter a ha hab
    exact hall p hp
  · refine ⟨(hnames _).mpr ⟨x, List.mem_cons_of_mem _ hmem, rfl⟩, Or.inr ⟨hA x hmem, hxt, ?_⟩⟩
    intro a ha hab hat
    obtain ⟨p, hp, rfl⟩ := hafter a ha hab
    exact hmax p hp hat

theorem asof_sorted_spec (fs : List (String × β)) (hwf : AsofWF (fs.map (·.1))) :
    ∃ a ads, afterDates ((sortFields asofLt fs).map (·.1)) = some (a :: ads) ∧
      ∀ t, ∃ x ∈ fs, (sortFields asofLt fs)[countLE (a :: ads) t]? = some x ∧ InForce (fs.map (·.1)) t x.1 := by
  obtain ⟨hnd, hone, htwo, hparse, hord, hinj⟩ := hwf
  have hperm := perm_sortFields asofLt fs
  have hsorted := sorted_sortFields asofLt asofLt_asymm asofLt_trans fs
  have hone' : ((sortFields asofLt fs).filter (fun p => isBefore p.1)).length = 1 := by
    rw [← hone, List.filter_map, List.length_map]; exact (hperm.filter _).length_eq
  obtain ⟨b, A, hS, hb, hA⟩ := asof_sorted_shape _ hsorted hone'
  rw [hS] at hperm hsorted ⊢
  have hnames : ∀ a, a ∈ fs.map (·.1) ↔ ∃ p ∈ b :: A, p.1 = a := fun a => by
    rw [← (hperm.map (·.1)).mem_iff, List.mem_map]
  have hAin : ∀ a ∈ A, a.1 ∈ fs.map (·.1) := fun a ha => (hnames a.1).mpr ⟨a, List.mem_cons_of_mem _ ha, rfl⟩
  have hndA : (A.map (·.1)).Nodup :=
    (List.nodup_cons.mp ((hperm.map (·.1)).nodup_iff.mpr hnd)).2
  have hchron := chron_of_sorted A (List.pairwise_cons.mp hsorted).2 hA hndA
    (fun x hx y hy => hord x.1 (hAin x hx) y.1 (hAin y hy) (hA x hx) (hA y hy))
    (fun x hx y hy => hinj x.1 (hAin x hx) y.1 (hAin y hy) (hA x hx) (hA y hy))
  have hads := afterDates_of_shape b A hb hA (fun a ha => hparse a.1 (hAin a ha) (hA a ha))
  cases A with
  | nil => have := hperm.length_eq; simp only [List.length_cons, List.length_nil, List.length_map] at this htwo; omega
  | cons a0 A0 =>
    refine ⟨_, _, hads, fun t => ?_⟩
    obtain ⟨x, hx, hin⟩ := chron_pick b (a0 :: A0) t hchron
    exact ⟨x, hperm.mem_iff.mp (List.mem_of_getElem? hx), hx, inForce_of_inForceAt _ b _ _ x hnames hb hA hin⟩

theorem asofOne_inForce (num : V → Option W) (cs : List (String × Snap V)) (hwf : AsofWF (cs.map (·.1)))
    (hh : homog num (cs.map (·.2)) = .ok ()) :
    ∃ fs a ads, vectorise asofLt num (.node cs) = .ok (.record fs) ∧ afterDates (fs.map (·.1)) = some (a :: ads) ∧
      ∀ t, ∃ x k c, asofOne (.record fs) t = .ok x ∧ (k, c) ∈ cs ∧ vectorise asofLt num c = .ok x ∧
        InForce (cs.map (·.1)) t k := by
  obtain ⟨fs, hfs, hrow⟩ := vectorise_node_of_homog asofLt hh
  have hkeys := vectoriseAll_keys asofLt num cs fs hfs
  rw [← hkeys] at hwf ⊢
  obtain ⟨a, ads, hads, hpick⟩ := asof_sorted_spec fs hwf
  refine ⟨_, a, ads, hrow, hads, fun t => ?_⟩
  obtain ⟨x, hx, hget, hin⟩ := hpick t
  obtain ⟨c, hc, hcx⟩ := (vectoriseAll_mem asofLt num cs fs hfs x.1 x.2).mp hx
  exact ⟨x.2, x.1, c, by simp only [asofOne, hads, List.getElem?_map, hget, Option.map_some], hc, hcx, hin⟩

end OFCore.PView
