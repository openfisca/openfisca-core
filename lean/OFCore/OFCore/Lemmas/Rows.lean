/-!
Reading a list element by element through a partial function is `List.mapM` in `Option`: all the results, or nothing when
one is missing. What such a reading returns is a fact about `List.map` (`mapM_eq_some`); a reading in `Except` joins
through `Except.toOption` (`toOption_eq_some`, in `Lemmas/Except`).
-/
namespace OFCore
variable {α β γ : Type}

theorem mapM_cons_opt (f : α → Option β) (x : α) (r : List α) :
    (x :: r).mapM f = match f x, r.mapM f with
      | some y, some ys => some (y :: ys)
      | _, _ => none := by
  rw [List.mapM_cons]
  cases f x <;> cases r.mapM f <;> rfl

theorem mapM_eq_some {f : α → Option β} {xs : List α} {out : List β} :
    List.mapM f xs = some out ↔ xs.map f = out.map some := by
  induction xs generalizing out with
  | nil => cases out <;> simp
  | cons x r ih =>
    rw [mapM_cons_opt]
    cases out with
    | nil => cases f x <;> cases List.mapM f r <;> simp
    | cons z zs =>
      rw [List.map_cons, List.map_cons, List.cons.injEq, ← ih]
      cases f x <;> cases List.mapM f r <;> simp

theorem mapM_eq_none {f : α → Option β} {xs : List α} : List.mapM f xs = none ↔ ∃ x ∈ xs, f x = none := by
  induction xs with
  | nil => simp
  | cons x r ih =>
    simp only [mapM_cons_opt, List.mem_cons, exists_eq_or_imp, ← ih]
    cases f x <;> cases List.mapM f r <;> simp

theorem mapM_get {f : α → Option β} {xs : List α} {out : List β} (h : List.mapM f xs = some out) :
    out.length = xs.length ∧ ∀ i (hi : i < xs.length), ∃ y, out[i]? = some y ∧ f xs[i] = some y := by
  have h := mapM_eq_some.mp h
  have hl : xs.length = out.length := by simpa using congrArg List.length h
  refine ⟨hl.symm, fun i hi => ⟨out[i]'(hl ▸ hi), List.getElem?_eq_getElem _, ?_⟩⟩
  have := congrArg (·[i]?) h
  simpa only [List.getElem?_map, List.getElem?_eq_getElem hi, List.getElem?_eq_getElem (hl ▸ hi), Option.map_some,
    Option.some.injEq] using this

theorem mapM_map (f : α → Option β) (g : γ → α) (xs : List γ) :
    List.mapM f (xs.map g) = List.mapM (fun x => f (g x)) xs := by
  induction xs with
  | nil => rfl
  | cons x r ih => simp only [List.map_cons, mapM_cons_opt, ih]

theorem mapM_bind (f : α → Option β) (g : β → Option γ) (xs : List α) :
    (List.mapM f xs).bind (List.mapM g) = List.mapM (fun x => (f x).bind g) xs := by
  induction xs with
  | nil => rfl
  | cons x r ih =>
    simp only [mapM_cons_opt, ← ih]
    cases f x with
    | none => rfl
    | some y =>
      cases hr : List.mapM f r with
      | none => cases g y <;> simp
      | some ys => simp only [Option.bind_some, mapM_cons_opt]

theorem mapM_mem {f : α → Option β} {xs : List α} {out : List β} (h : List.mapM f xs = some out) (y : β) :
    y ∈ out ↔ ∃ x ∈ xs, f x = some y := by
  have h' : some y ∈ xs.map f ↔ some y ∈ out.map some := by rw [mapM_eq_some.mp h]
  simpa [eq_comm] using h'.symm

theorem mapM_map_eq {f : α → Option β} {xs : List α} {out : List β} (h : List.mapM f xs = some out) (g : α → γ) (k : β → γ)
    (hgk : ∀ x y, f x = some y → g x = k y) : xs.map g = out.map k := by
  induction xs generalizing out with
  | nil => cases h; rfl
  | cons x r ih =>
    rw [mapM_cons_opt] at h
    cases hx : f x with
    | none => rw [hx] at h; cases h
    | some y =>
      cases hr : List.mapM f r with
      | none => rw [hx, hr] at h; cases h
      | some ys => rw [hx, hr] at h; cases h; rw [List.map_cons, List.map_cons, hgk x y hx, ih hr]

end OFCore
