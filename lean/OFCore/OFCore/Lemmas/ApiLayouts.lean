import OFCore.Lemmas.ApiVerdict
/-! C20, the three layouts of a test: what `expectations` makes of each, and the by-instance expectations as the whole-vector one
read element by element. -/
namespace OFCore.Api

theorem flattenVar_wrap (ent inst : Option String) (var : String) (pw per : Option String) (y : Y) :
    flattenVar ent inst var per (wrapPeriod pw y) = flattenVar ent inst var (orPeriod pw per) y := by
  cases pw <;> simp [wrapPeriod, flattenVar, flattenPeriods, orPeriod]

theorem flattenInstances_instEntries (pl var : String) (pw per : Option String) :
    ∀ (ids : List String) (es : List Exp),
      flattenInstances pl per (instEntries var pw ids es) = .ok (instExps pl var (orPeriod pw per) ids es)
  | [], _ => rfl
  | _ :: _, [] => rfl
  | id :: ids, e :: es => by
    simp only [instEntries, flattenInstances, flattenInstances_instEntries pl var pw per ids es,
      flattenVars, flattenVar_wrap, flattenVar, instExps, List.append_nil, List.singleton_append,
      List.zip_cons_cons, List.map_cons]

theorem expectations_byVariable {w : Sim} (t : YTest) {var : String} (pw : Option String) (es : List Exp)
    (hvar : (w.vtype var).isSome = true) :
    expectations w { t with output := some (outByVariable var pw es) } =
      .ok [⟨none, none, var, orPeriod pw t.period, .list es⟩] := by
  simp [expectations, outByVariable, expectationsOfOutput, expectationsOfKey, hvar, flattenVar_wrap, flattenVar]

theorem expectations_byEntity {w : Sim} (t : YTest) {sg : String} (var : String) (pw : Option String) (es : List Exp)
    (hsg : w.vtype sg = none ∧ w.singular sg = true) :
    expectations w { t with output := some (outByEntity sg var pw es) } =
      .ok [⟨some sg, none, var, orPeriod pw t.period, .list es⟩] := by
  simp [expectations, outByEntity, expectationsOfOutput, expectationsOfKey, hsg.1, hsg.2, flattenVars,
    flattenVar_wrap, flattenVar]

theorem expectations_byInstance {w : Sim} (t : YTest) {pl : String} (var : String) (pw : Option String)
    (ids : List String) (es : List Exp)
    (hpl : w.vtype pl = none ∧ w.singular pl = false ∧ w.plural pl = true) :
    expectations w { t with output := some (outByInstance pl var pw ids es) } =
      .ok (instExps pl var (orPeriod pw t.period) ids es) := by
  simp [expectations, outByInstance, expectationsOfOutput, expectationsOfKey, hpl.1, hpl.2.1, hpl.2.2,
    flattenInstances_instEntries]

theorem verdictSim_of_expectations {w : Sim} {t : YTest} {out : List (String × Y)} {xs : List Expectation}
    (h : expectations w { t with output := some out } = .ok xs) :
    verdictSim w { t with output := some out } = xs.all (checkExpectation w t) := by
  simp only [verdictSim, h]
  rfl

theorem cmpMode_scalar_of_list (ty : VType) {es : List Exp} (hh : Homogeneous es) {e : Exp} (he : e ∈ es) :
    cmpMode ty (.scalar e) = cmpMode ty (.list es) := by
  cases ty <;> simp only [cmpMode, Target.isNum]
  rcases hh with h | h
  · have : es.all Exp.isNum = true := List.all_eq_true.mpr h
    simp only [h e he, this]
  · have : es.all Exp.isNum = false := List.all_eq_false.mpr ⟨e, he, by rw [h e he]; decide⟩
    simp only [h e he, this]

theorem all_eq_all_of_map_eq {α β : Type} {l₁ : List α} {l₂ : List β} {f : α → Bool} {g : β → Bool}
    (h : l₁.map f = l₂.map g) : l₁.all f = l₂.all g := by
  simpa [List.all_map] using congrArg (List.all · id) h

theorem checkValue_inst {w : Sim} {t : YTest} {pl id var : String} {per : Option String} {c : CmpCtx} {i : Nat}
    {v : Val} (e : Exp) (hc : cmpCtx w t var per = some c) (hi : w.index pl id = some i) (hg : c.vec[i]? = some v) :
    checkValue w t ⟨some pl, some id, var, per, .scalar e⟩ = holds1 (cmpMode c.ty (.scalar e)) c.abs c.rel (v, e) := by
  simp only [checkValue_eq, hc, selectInst, Option.getD_some, hi, hg, assertNear, pairUp, List.map_cons, List.map_nil,
    List.all_cons, List.all_nil, Bool.and_true]

theorem checkValue_list {w : Sim} {t : YTest} {ent : Option String} {var : String} {per : Option String} {c : CmpCtx}
    (es : List Exp) (hc : cmpCtx w t var per = some c) (hl : c.vec.length = es.length) :
    checkValue w t ⟨ent, none, var, per, .list es⟩ =
      (c.vec.zip es).all (holds1 (cmpMode c.ty (.list es)) c.abs c.rel) := by
  simp only [checkValue_eq, hc, selectInst, assertNear, pairUp, if_pos hl]

theorem instExps_all_checkValue {w : Sim} {t : YTest} {pl var : String} {per : Option String} {c : CmpCtx} {m : Mode}
    (hc : cmpCtx w t var per = some c) {ids : List String} {es : List Exp}
    (hlen : es.length = ids.length) (hvl : c.vec.length = ids.length)
    (hidx : ∀ k (h : k < ids.length), w.index pl ids[k] = some k)
    (hm : ∀ e ∈ es, cmpMode c.ty (.scalar e) = m) :
    (instExps pl var per ids es).all (checkValue w t) = (c.vec.zip es).all (holds1 m c.abs c.rel) := by
  rw [instExps, List.all_map]
  apply all_eq_all_of_map_eq
  apply List.ext_getElem
  · simp [hlen, hvl]
  · intro k h1 h2
    have hk : k < ids.length := by simp at h1; omega
    simp only [List.getElem_map, List.getElem_zip, Function.comp]
    rw [checkValue_inst _ hc (hidx k hk) (List.getElem?_eq_getElem (by omega)), hm _ (List.getElem_mem _)]

theorem instExps_all_checkExpectation {w : Sim} (t : YTest) (ent : Option String) {pl var : String}
    (per : Option String) {ids : List String} {es : List Exp}
    (hne : ids ≠ []) (hlen : es.length = ids.length)
    (hidx : ∀ k (h : k < ids.length), w.index pl ids[k] = some k)
    (hvec : ∀ per vec, w.calcv var per = .ok vec → vec.length = ids.length) (hhom : Homogeneous es) :
    (instExps pl var per ids es).all (checkExpectation w t) = checkExpectation w t ⟨ent, none, var, per, .list es⟩ := by
  -- every named instance exists, so each side reads the options first and then compares
  have hx : ∀ x ∈ instExps pl var per ids es, checkExpectation w t x = (shouldIgnore t var || checkValue w t x) := by
    intro x hx
    obtain ⟨p, hp, rfl⟩ := List.mem_map.mp hx
    obtain ⟨k, hk, hid⟩ := List.mem_iff_getElem.mp (List.of_mem_zip hp).1
    simp only [checkExpectation_eq, instKnown, Option.getD_some, ← hid, hidx k hk, Option.isSome_some, Bool.true_and]
  rw [all_eq_all_of_map_eq (List.map_congr_left hx), checkExpectation_eq]
  cases shouldIgnore t var with
  | true => simp [instKnown]
  | false =>
    simp only [instKnown, Bool.false_or, Bool.true_and]
    cases hc : cmpCtx w t var per with
    | none =>
      -- nothing to compare with: the one comparison fails, and so does the first of the (at least one) others
      match ids, es, hne, hlen with
      | id :: ids, e :: es, _, _ => simp [instExps, checkValue_eq, hc]
    | some c =>
      obtain ⟨p, _, _, hv, _⟩ := cmpCtx_eq_some.mp hc
      have hvl := hvec p c.vec hv
      rw [instExps_all_checkValue hc hlen hvl hidx (fun e he => cmpMode_scalar_of_list c.ty hhom he),
        checkValue_list es hc (by omega)]

theorem atoms_instExps {w : Sim} (n : Nat) {pl : String} (var : String) (per : Option String)
    {ids : List String} {es : List Exp} (hlen : es.length = ids.length)
    (hidx : ∀ k (h : k < ids.length), w.index pl ids[k] = some k) :
    (instExps pl var per ids es).flatMap (atomsOf w n) =
      (List.zipIdx es).map (fun (p : Exp × Nat) => ⟨var, per, p.2, p.1⟩) := by
  have key : (instExps pl var per ids es).map (atomsOf w n) =
      (List.zipIdx es).map (fun (p : Exp × Nat) => [(⟨var, per, p.2, p.1⟩ : Atom)]) := by
    rw [instExps, List.map_map]
    apply List.ext_getElem
    · simp [hlen]
    · intro k h1 h2
      have hk : k < ids.length := by simp at h1; omega
      simp only [List.getElem_map, List.getElem_zip, List.getElem_zipIdx, Function.comp, atomsOf,
        Option.getD_some, hidx k hk, Nat.zero_add]
  rw [List.flatMap_def, key, ← List.flatMap_def, ← List.map_eq_flatMap]

end OFCore.Api
