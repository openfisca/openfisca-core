import OFCore.Lemmas.EngineBasic
/-!
# Meaning and machine, for all rule systems

The ghost invariant `runE_gclean` is stated for a system `a` that runs against a system `z` with the same rules and
fewer armed faults; `run_clean` is the case `a = z`.  A statement about `run` is the one about `runE` at `.ref v p`.
-/
namespace OFCore.Engine

variable {P : Type} [DecidableEq P]

theorem denE_mono (sys : Sys P) : ∀ n e r, denE sys n e = some r → denE sys (n+1) e = some r :=
  (den_ind sys (M := fun n v p r => den sys (n+1) v p = some r) (ME := fun n e r => denE sys (n+1) e = some r)
    (input := fun hin => den_input hin)
    (default := fun hin hf => den_default hin hf)
    (formula := fun hin hf _ ih => den_formula_some hin hf ih)
    (const := denE_const ..)
    (bad := denE_bad ..)
    (ref := fun _ ih => by rw [denE_ref]; exact ih)
    (failArmed := fun harm => by rw [denE_fail, if_pos harm])
    (failPass := fun harm _ ih => by rw [denE_fail, if_neg harm]; exact ih)
    (op1 := fun _ ih => denE_op1_some ih)
    (op2Err := fun _ ih => denE_op2_error ih)
    (op2 := fun _ _ iha ihb => denE_op2_some iha ihb)).2

theorem denE_mono_le (sys : Sys P) {n m e r} (h : denE sys n e = some r) (hle : n ≤ m) :
    denE sys m e = some r := by
  induction hle with
  | refl => exact h
  | step _ ih => exact denE_mono sys _ e r ih

theorem den_mono_le (sys : Sys P) {n m v p r} (h : den sys n v p = some r) (hle : n ≤ m) :
    den sys m v p = some r := by
  rw [← denE_ref] at h ⊢; exact denE_mono_le sys h hle

theorem den_det (sys : Sys P) {n m v p r r'} (h1 : den sys n v p = some r)
    (h2 : den sys m v p = some r') : r = r' := by
  have a := den_mono_le sys h1 (Nat.le_max_left n m)
  have b := den_mono_le sys h2 (Nat.le_max_right n m)
  rw [a] at b; exact Option.some.inj b

theorem denE_op2_ok (sys : Sys P) {ma mb o a b x y} (ha : denE sys ma a = some (.ok x))
    (hb : denE sys mb b = some (.ok y)) :
    denE sys (max ma mb) (.op2 o a b) = some (.ok (sys.f2 o x y)) :=
  denE_op2_some (denE_mono_le sys ha (Nat.le_max_left ..)) (denE_mono_le sys hb (Nat.le_max_right ..))

theorem runE_stack (sys : Sys P) : ∀ n s e r g s', runE sys n s e = some (r, g, s') → s'.stack = s.stack :=
  (run_ind sys (M := fun _ s _ _ _ _ s' => s'.stack = s.stack) (ME := fun _ s _ _ _ s' => s'.stack = s.stack)
    (hit := fun _ => by split <;> rfl)
    (input := fun _ _ => rfl)
    (cycle := fun _ _ _ => rfl)
    (spiral := fun _ _ _ _ => rfl)
    (default := fun _ _ => rfl)
    (formulaErr := fun _ _ _ ih => congrArg List.tail ih)
    (formulaOk := fun _ _ _ ih => congrArg List.tail ih)
    (const := rfl)
    (bad := rfl)
    (ref := fun _ ih => ih)
    (failArmed := fun _ => rfl)
    (failPass := fun _ _ ih => ih)
    (op1 := fun _ ih => ih)
    (op2Err := fun _ ih => ih)
    (op2 := fun _ _ iha ihb => ihb.trans iha)).2

/-- stack discipline: the `finally` of `Simulation.calculate` pops, whatever happens -/
theorem run_stack (sys : Sys P) : ∀ n s v p r g s', run sys n s v p = some (r, g, s') → s'.stack = s.stack :=
  fun n s v p r g s' h => runE_stack sys n s (.ref v p) r g s' (by rwa [runE_ref])

/-- nodes stored under the same slot have the same rules (an eternal variable's formula and
    inputs do not depend on the period it is requested for) -/
def KeyCoherent (sys : Sys P) : Prop :=
  ∀ v p p', sys.ckey v p = sys.ckey v p' → sys.formula v p = sys.formula v p' ∧ sys.input v p = sys.input v p'

/-- nodes stored under the same slot have the same meaning: implied by `KeyCoherent`, and trivially true when
    every node has its own slot -/
def SlotCoherent (sys : Sys P) : Prop :=
  ∀ v p p', sys.ckey v p = sys.ckey v p' → ∀ n, den sys n v p = den sys n v p'

theorem slotCoherent_of_keyCoherent (sys : Sys P) (hk : KeyCoherent sys) : SlotCoherent sys :=
  fun v p p' h n => by
    cases n with
    | zero => rw [den_zero, den_zero]
    | succ n => rw [den, den, (hk v p p' h).1, (hk v p p' h).2]

theorem slotCoherent_of_id (sys : Sys P) (hid : ∀ v p, sys.ckey v p = p) : SlotCoherent sys := by
  intro v p p' h n
  rw [hid, hid] at h
  rw [h]

theorem slot_eq_iff (sys : Sys P) (v v' : Nat) (p p' : P) :
    sys.slot (v', p') = sys.slot (v, p) ↔ v' = v ∧ sys.ckey v' p' = sys.ckey v p := by
  simp [Sys.slot]

/-- ghost-clean cache: untainted entries are the meaning of every node stored under their slot -/
def GClean (sys : Sys P) (c : Cache P) : Prop :=
  ∀ v p x, lookup c (sys.slot (v, p)) = some (x, false) → ∃ n, den sys n v p = some (.ok x)

def FewerFaults (a b : Sys P) : Prop :=
  a.formula = b.formula ∧ a.input = b.input ∧ a.dflt = b.dflt ∧ a.post = b.post ∧
  a.f1 = b.f1 ∧ a.f2 = b.f2 ∧ ∀ id, b.armed id = true → a.armed id = true

section
omit [DecidableEq P]

theorem FewerFaults.refl (z : Sys P) : FewerFaults z z := ⟨rfl, rfl, rfl, rfl, rfl, rfl, fun _ h => h⟩

theorem slot_of_id {sys : Sys P} (hid : ∀ v p, sys.ckey v p = p) (k : Node P) : sys.slot k = k := by
  rw [Sys.slot, hid]

theorem slot_of_ckey {a z : Sys P} (hck : a.ckey = z.ckey) (k : Node P) : a.slot k = z.slot k := by
  simp [Sys.slot, hck]

end

theorem gclean_store (a z : Sys P) (hck : a.ckey = z.ckey) (hk : SlotCoherent z) {c : Cache P} {v p x g}
    (hc : GClean z c) (h : g = false → ∃ n, den z n v p = some (.ok x)) :
    GClean z (store a c (a.slot (v, p)) x g) := by
  intro v' p' y hl
  rw [← slot_of_ckey hck] at hl
  rcases lookup_store_some hl with hl | ⟨heq, he⟩
  · exact hc v' p' y (slot_of_ckey hck _ ▸ hl)
  · cases he
    obtain ⟨rfl, hck'⟩ := (slot_eq_iff a v v' p p').1 heq.symm
    obtain ⟨n, hn⟩ := h rfl
    exact ⟨n, by rw [hk v' p' p (hck ▸ hck') n]; exact hn⟩

theorem runE_gclean (a z : Sys P) (hab : FewerFaults a z) (hck : a.ckey = z.ckey) (hk : SlotCoherent z) :
    ∀ n s e r g s', GClean z s.cache → runE a n s e = some (r, g, s') →
      GClean z s'.cache ∧ (g = false → ∀ x, r = .ok x → ∃ m, denE z m e = some (.ok x)) := by
  obtain ⟨e1, e2, e3, e4, e5, e6, e7⟩ := hab
  exact fun n s e r g s' hc h => (run_ind a
    (M := fun _ s v p r g s' => GClean z s.cache →
      GClean z s'.cache ∧ (g = false → ∀ x, r = .ok x → ∃ m, den z m v p = some (.ok x)))
    (ME := fun _ s e r g s' => GClean z s.cache →
      GClean z s'.cache ∧ (g = false → ∀ x, r = .ok x → ∃ m, denE z m e = some (.ok x)))
    (hit := fun hl hc => ⟨by split <;> exact hc, fun hg y hy => by
      cases hy; subst hg; exact hc _ _ _ (slot_of_ckey hck _ ▸ hl)⟩)
    (input := fun _ hin hc => ⟨hc, fun _ y hy => by cases hy; exact ⟨1, den_input (e2 ▸ hin)⟩⟩)
    (cycle := fun _ _ _ hc => ⟨hc, fun _ => nofun⟩)
    (spiral := fun _ _ _ _ hc => ⟨hc, nofun⟩)
    (default := fun {_ _ v p} hfr hf hc =>
      have key : ∃ m, den z m v p = some (.ok (a.post v (a.dflt v))) :=
        ⟨1, by rw [e3, e4]; exact den_default (e2 ▸ hfr.noInput) (e1 ▸ hf)⟩
      ⟨gclean_store a z hck hk hc fun _ => key, fun _ y hy => by cases hy; exact key⟩)
    (formulaErr := fun _ _ _ ih hc => ⟨(ih hc).1, fun _ => nofun⟩)
    (formulaOk := fun {_n _s v p _e x g _s1} hfr hf _ ih hc =>
      have key : g = false → ∃ m, den z m v p = some (.ok (a.post v x)) := fun hg =>
        let ⟨m, hm⟩ := (ih hc).2 hg x rfl
        ⟨m+1, e4 ▸ den_formula_some (e2 ▸ hfr.noInput) (e1 ▸ hf) hm⟩
      ⟨gclean_store a z hck hk (ih hc).1 key, fun hg y hy => by cases hy; exact key hg⟩)
    (const := fun hc => ⟨hc, fun _ y hy => by cases hy; exact ⟨0, denE_const ..⟩⟩)
    (bad := fun hc => ⟨hc, fun _ => nofun⟩)
    (ref := fun _ ih hc => by simpa only [denE_ref] using ih hc)
    (failArmed := fun _ hc => ⟨hc, fun _ => nofun⟩)
    (failPass := fun harm _ ih hc => by
      simpa only [denE_fail, if_neg fun hb => harm (e7 _ hb)] using ih hc)
    (op1 := fun _ ih hc => ⟨(ih hc).1, fun hg y hy => by
      obtain ⟨x, rfl, rfl⟩ := map_eq_ok.1 hy
      obtain ⟨m, hm⟩ := (ih hc).2 hg x rfl
      exact ⟨m, e5 ▸ denE_op1_some hm⟩⟩)
    (op2Err := fun _ ih hc => ⟨(ih hc).1, fun _ => nofun⟩)
    (op2 := fun _ _ iha ihb hc => ⟨(ihb (iha hc).1).1, fun hg w hw => by
      obtain ⟨y, rfl, rfl⟩ := map_eq_ok.1 hw
      obtain ⟨hg1, hg2⟩ := Bool.or_eq_false_iff.1 hg
      obtain ⟨ma, hma⟩ := (iha hc).2 hg1 _ rfl
      obtain ⟨mb, hmb⟩ := (ihb (iha hc).1).2 hg2 y rfl
      exact ⟨_, by rw [e6]; exact denE_op2_ok z hma hmb⟩⟩)).2 n s e r g s' h hc

theorem runE_clean (sys : Sys P) (hk : SlotCoherent sys) : ∀ n s e r g s', GClean sys s.cache → runE sys n s e = some (r, g, s') →
    GClean sys s'.cache ∧ (g = false → ∀ x, r = .ok x → ∃ m, denE sys m e = some (.ok x)) :=
  runE_gclean sys sys (.refl sys) rfl hk

/-- ghost-provenance invariant: every untainted cache entry and every untainted result is the meaning, for all rule
    systems (cyclic, spiralling, faulty) and any spiral limit -/
theorem run_clean (sys : Sys P) (hk : SlotCoherent sys) : ∀ n s v p r g s', GClean sys s.cache → run sys n s v p = some (r, g, s') →
    GClean sys s'.cache ∧ (g = false → ∀ x, r = .ok x → ∃ m, den sys m v p = some (.ok x)) :=
  fun n s v p r g s' hc h => by
    simpa only [denE_ref] using runE_clean sys hk n s (.ref v p) r g s' hc (by rwa [runE_ref])

end OFCore.Engine
