import OFCore.RuleSys
/-!
What `elabRead` can produce: `.bad`, a read of the requested variable, or a sum of two such expressions.
-/
namespace OFCore.RuleSys
open OFCore.Engine

theorem elabRead_ind {C : Expr Period → Prop} (d : Decl) (w : Nat) (q : Except String Period)
    (add : Bool) (bad : C .bad) (ref : ∀ p, C (.ref w p))
    (sum : ∀ a b, C a → C b → C (.op2 0 a b)) : C (elabRead d w q add) := by
  have node : ∀ (u : DUnit) (s : Period),
      C (match servedPeriod u s with | .ok s' => .ref w s' | .error _ => .bad) := by
    intro u s
    cases servedPeriod u s with
    | error _ => exact bad
    | ok s' => exact ref s'
  have fold : ∀ (u : DUnit) (ss : List Period) (acc : Expr Period), C acc →
      C (ss.foldl (fun acc s => .op2 0 acc
        (match servedPeriod u s with | .ok s' => .ref w s' | .error _ => .bad)) acc) := by
    intro u ss
    induction ss with
    | nil => exact fun _ h => h
    | cons s ss ih => exact fun acc h => ih _ (sum _ _ h (node u s))
  have guard : ∀ (c : Prop) [Decidable c] {e : Expr Period}, C e → C (if c then .bad else e) := by
    intro c _ e h
    by_cases hc : c
    · rw [if_pos hc]; exact bad
    · rw [if_neg hc]; exact h
  unfold elabRead
  cases d.vars[w]? with
  | none => exact bad
  | some wv =>
    cases q with
    | error _ => exact bad
    | ok q =>
      cases add <;> simp only [Bool.false_eq_true, if_true, if_false]
      · exact node _ _
      · refine guard _ (guard _ (guard _ ?_))
        cases q.subperiods wv.unit with
        | error _ => exact bad
        | ok l =>
          cases l with
          | nil => exact bad
          | cons s ss => exact fold _ ss _ (node _ s)

end OFCore.RuleSys
