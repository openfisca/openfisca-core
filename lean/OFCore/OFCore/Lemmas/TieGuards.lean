import OFCore.GeneratedGuards
/-!
Each translated first-match chain of `GeneratedGuards.lean` is the Boolean expression `TieBase.lean`
gives for that decision (`Tie.addGuards`, …), or for `holderSetInput_refuses`, which has none there, the one
in the statement; when the translator falls back the two are the same text.
-/
namespace OFCore
open OFCore.Generated

theorem checkPeriodConsistency_raises_eq (du pu : DUnit) (sz : Int) :
    Guards.checkPeriodConsistency_raises du pu sz = Tie.consistencyGuards du pu sz := by
  rw [Bool.eq_iff_iff]
  cases du <;> simp [Guards.checkPeriodConsistency_raises, Tie.consistencyGuards]

-- `Int.lt_iff_add_one_le`: a source that says `size >= 2` for `size > 1` states the same guard
theorem holderSet_raises_eq (du pu : DUnit) (sz : Int) :
    Guards.holderSet_raises du pu sz = Tie.holderSetGuards du pu sz := by
  rw [Bool.eq_iff_iff]
  by_cases h : du = .eternity <;> simp [Guards.holderSet_raises, Tie.holderSetGuards, h, Int.lt_iff_add_one_le]

theorem holderSetInput_refuses_eq (du pu : DUnit) (n : Bool) :
    Guards.holderSetInput_refuses du pu n = (pu == .eternity && du != .eternity) := by
  rw [Bool.eq_iff_iff]
  simp [Guards.holderSetInput_refuses]

theorem calculateAdd_raises_eq (du pu : DUnit) (sz : Int) :
    Guards.calculateAdd_raises du pu sz = Tie.addGuards du pu sz := by
  simp [Guards.calculateAdd_raises, Tie.addGuards, Tie.dated, Bool.or_assoc]

theorem calculateDivide_raises_eq (du pu : DUnit) (sz : Int) :
    Guards.calculateDivide_raises du pu sz = Tie.divideGuards du pu sz := by
  simp [Guards.calculateDivide_raises, Tie.divideGuards, Tie.dated, Bool.or_assoc,
    Int.lt_iff_add_one_le]

theorem calculateDivide_period_eq (du : DUnit) :
    Guards.calculateDivide_period du = Tie.enclosingName du := by
  cases du <;> simp [Guards.calculateDivide_period, Tie.enclosingName]

theorem calculateDivide_denominator_eq (pu : DUnit) :
    Guards.calculateDivide_denominator pu = Tie.denominatorName pu := by
  cases pu <;> simp [Guards.calculateDivide_denominator, Tie.denominatorName]

end OFCore
