import OFCore.Equivariance
import OFCore.Lemmas.EngineRanked
/-!
One rule system simulates another: a sort-indexed map `T` of value vectors that commutes with every
operation on vectors satisfying `I` (`Sim`, `ERel`) relates the meanings at every fuel (`den_sim`).
-/
namespace OFCore.Engine
open OFCore.Equivariance

variable {P : Type} {S : Type}

/-- expression-by-expression relation of two formulas, with sorts: every sub-expression has a sort
    `s`; its value `x` on the left satisfies `I s x` and its value on the right is `T s x` -/
inductive ERel (a b : Sys P) (srt : Nat → S) (T : S → Val → Val) (I : S → Val → Prop) :
    S → Expr P → Expr P → Prop
  | const (s : S) (c c' : Val) : I s c → c' = T s c → ERel a b srt T I s (.const c) (.const c')
  | bad (s : S) : ERel a b srt T I s .bad .bad
  | ref (s : S) (v : Nat) (p : P) : s = srt v → ERel a b srt T I s (.ref v p) (.ref v p)
  | fail (s : S) (id : Nat) (e e' : Expr P) : ERel a b srt T I s e e' →
      ERel a b srt T I s (.fail id e) (.fail id e')
  | op1 (s s1 : S) (o : Nat) (e e' : Expr P) : ERel a b srt T I s1 e e' →
      (∀ x, I s1 x → I s (a.f1 o x) ∧ b.f1 o (T s1 x) = T s (a.f1 o x)) →
      ERel a b srt T I s (.op1 o e) (.op1 o e')
  | op2 (s : S) (o : Nat) (e e' g g' : Expr P) : ERel a b srt T I s e e' → ERel a b srt T I s g g' →
      (∀ x y, I s x → I s y → I s (a.f2 o x y) ∧ b.f2 o (T s x) (T s y) = T s (a.f2 o x y)) →
      ERel a b srt T I s (.op2 o e g) (.op2 o e' g')

/-- variable `v` of system `b` is the `T`-transform of variable `v` of system `a` -/
structure SimVar (a b : Sys P) (srt : Nat → S) (T : S → Val → Val) (I : S → Val → Prop) (v : Nat) :
    Prop where
  input : ∀ p, b.input v p = (a.input v p).map (T (srt v)) ∧ ∀ x, a.input v p = some x → I (srt v) x
  formula : ∀ p, Option.Rel (ERel a b srt T I (srt v)) (a.formula v p) (b.formula v p)
  dflt : I (srt v) (a.post v (a.dflt v)) ∧ b.post v (b.dflt v) = T (srt v) (a.post v (a.dflt v))
  post : ∀ x, I (srt v) x → I (srt v) (a.post v x) ∧ b.post v (T (srt v) x) = T (srt v) (a.post v x)

structure Sim (a b : Sys P) (srt : Nat → S) (T : S → Val → Val) (I : S → Val → Prop) : Prop where
  var : ∀ v, SimVar a b srt T I v
  armed : ∀ id, b.armed id = a.armed id

structure RRel (T : Val → Val) (I : Val → Prop) (a b : Option Res) : Prop where
  eq : b = a.map (mapRes T)
  inv : ∀ x, a = some (.ok x) → I x

section
variable {T T' : Val → Val} {I I' : Val → Prop}

theorem RRel.none : RRel T I .none .none := ⟨rfl, fun _ h => nomatch h⟩

theorem RRel.error (e : Err) : RRel T I (some (.error e)) (some (.error e)) :=
  ⟨rfl, fun _ h => nomatch h⟩

/-- `h` is what `ERel` and `SimVar` say of an operation at `x`: the invariant, and the right value -/
theorem RRel.ok {x y : Val} (h : I x ∧ y = T x) : RRel T I (some (.ok x)) (some (.ok y)) :=
  ⟨h.2 ▸ rfl, fun _ hy => by cases hy; exact h.1⟩

/-- the two `match`es are the ones `den` and `denE` unfold to -/
theorem RRel.bind {a b : Option Res} (h : RRel T I a b) {f g : Val → Option Res}
    (hfg : ∀ x, I x → RRel T' I' (f x) (g (T x))) :
    RRel T' I'
      (match (generalizing := false) a with
        | .none => .none | some (.error e) => some (.error e) | some (.ok x) => f x)
      (match (generalizing := false) b with
        | .none => .none | some (.error e) => some (.error e) | some (.ok x) => g x) := by
  obtain ⟨rfl, hI⟩ := h
  match a, hI with
  | .none, _ => exact .none
  | some (.error e), _ => exact .error e
  | some (.ok x), hI => exact hfg x (hI x rfl)

end

variable {a b : Sys P} {srt : Nat → S} {T : S → Val → Val} {I : S → Val → Prop}

theorem denE_sim_step (harm : ∀ id, b.armed id = a.armed id) (n : Nat)
    (ih : ∀ v p, RRel (T (srt v)) (I (srt v)) (den a n v p) (den b n v p)) :
    ∀ s e e', ERel a b srt T I s e e' → RRel (T s) (I s) (denE a n e) (denE b n e') := by
  intro s e e' h
  induction h with
  | const s c c' hI hc => rw [denE, denE]; exact .ok ⟨hI, hc⟩
  | bad s => rw [denE, denE]; exact .error _
  | ref s v p hs => subst hs; rw [denE, denE]; exact ih v p
  | fail s id e e' _ ihe =>
    rw [denE, denE, harm]
    cases a.armed id
    · exact ihe
    · exact .error _
  | op1 s s1 o e e' _ hop ihe =>
    rw [denE, denE]
    exact ihe.bind fun x hx => .ok (hop x hx)
  | op2 s o e e' g g' _ _ hop ihe ihg =>
    rw [denE, denE]
    exact ihe.bind fun x hx => ihg.bind fun y hy => .ok (hop x y hx hy)

theorem den_sim (h : Sim a b srt T I) : ∀ n v p, RRel (T (srt v)) (I (srt v)) (den a n v p) (den b n v p)
  | 0, v, p => by rw [den, den]; exact .none
  | n + 1, v, p => by
    have hv := h.var v
    rw [den, den, (hv.input p).1]
    cases hin : a.input v p with
    | some x => exact .ok ⟨(hv.input p).2 x hin, rfl⟩
    | none =>
      match a.formula v p, b.formula v p, hv.formula p with
      | _, _, .none => exact .ok hv.dflt
      | _, _, .some hrel =>
        exact (denE_sim_step h.armed n (den_sim h n) _ _ _ hrel).bind fun x hx => .ok (hv.post x hx)

theorem denE_sim (h : Sim a b srt T I) (n : Nat) {s : S} {e e' : Expr P} (hrel : ERel a b srt T I s e e') :
    RRel (T s) (I s) (denE a n e) (denE b n e') :=
  denE_sim_step h.armed n (den_sim h n) s e e' hrel

theorem ERel.refs_eq {s : S} {e e' : Expr P} (h : ERel a b srt T I s e e') : refs e' = refs e := by
  induction h with
  | const => rfl
  | bad => rfl
  | ref => rfl
  | fail _ _ _ _ _ ih => simpa [refs] using ih
  | op1 _ _ _ _ _ _ _ ih => simpa [refs] using ih
  | op2 _ _ _ _ _ _ _ _ _ ih1 ih2 => simp [refs, ih1, ih2]

theorem Sim.varRanked (h : Sim a b srt T I) (rk : Nat → Nat) (hr : VarRanked a rk) : VarRanked b rk := by
  intro v p e' hf' k hk
  have hf := (h.var v).formula p
  rw [hf'] at hf
  match hfa : a.formula v p, hf with
  | some e, .some hrel => exact hr v p e hfa k (hrel.refs_eq ▸ hk)

end OFCore.Engine
