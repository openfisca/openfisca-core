import OFCore.Lemmas.HeapSysReclone
/-!
# A modification is a sequence, of any length, of primitive writes of four kinds (`ModWrite`, `Writes`; C14)
Each invariant is proved for the four kinds; a system with a baseline never writes the tree it holds (repairs F-C14e,
F-C14f).
-/
namespace OFCore.HeapSys
open OFCore.Param

theorem loadVariable_inv (h : Heap) (X : Oid) (cls : ClassDef) (u : Bool) :
    (∃ e, loadVariable h X cls u = (h, .error e)) ∨
    (∃ s m v, h.getSys X = some s ∧ h.getMap s.vars = some m ∧
        ((dictGet cls.name m).isSome && !u) = false ∧ construct h cls (dictGet cls.name m) = .ok v ∧
        loadVariable h X cls u = (bindVar h s m cls.name v, .ok ())) := by
  generalize hr : loadVariable h X cls u = r
  unfold loadVariable at hr
  split at hr
  · exact Or.inl ⟨_, hr.symm⟩
  rename_i s hs
  split at hr
  · exact Or.inl ⟨_, hr.symm⟩
  rename_i m hm
  dsimp only at hr
  split at hr
  · exact Or.inl ⟨_, hr.symm⟩
  rename_i hc
  split at hr
  · exact Or.inl ⟨_, hr.symm⟩
  rename_i v hv
  exact Or.inr ⟨s, m, v, hs, hm, by simpa using hc, hv, hr.symm⟩

theorem loadVariable_ok {h h' : Heap} {X : Oid} {cls : ClassDef} {u : Bool} (hu : loadVariable h X cls u = (h', .ok ())) :
    ∃ v, construct h cls (resolve h X cls.name) = .ok v ∧ resolve h' X cls.name = some h.next ∧
      h'.getVar h.next = some v ∧ Keeps h h' := by
  rcases loadVariable_inv h X cls u with ⟨e, he⟩ | ⟨s, m, v, hs, hm, _, hv, he⟩
  · rw [he] at hu; cases hu
  · rw [he] at hu; cases hu
    obtain ⟨r1, r2, hk, _⟩ := bindVar_spec hs hm cls.name v
    exact ⟨v, by rw [resolve_eq hs hm]; exact hv, r1, r2, hk⟩

theorem modifyParams_inv (h : Heap) (X : Oid) (us : List PUpd) :
    (∃ e, modifyParams h X us = (h, .error e)) ∨
    (∃ s p b p', h.getSys X = some s ∧ h.getPar s.params = some p ∧ s.baseline = some b ∧
        applyUpds p us = (p', .ok ()) ∧
        modifyParams h X us = ((h.allocs [.par p']).put X (.sys { s with params := h.next }), .ok ())) ∨
    (∃ s p p' r, h.getSys X = some s ∧ h.getPar s.params = some p ∧ s.baseline = none ∧
        applyUpds p us = (p', r) ∧ modifyParams h X us = (h.put s.params (.par p'), r)) := by
  generalize hr : modifyParams h X us = r
  unfold modifyParams at hr
  split at hr
  · exact Or.inl ⟨_, hr.symm⟩
  rename_i s hs
  split at hr
  · exact Or.inl ⟨_, hr.symm⟩
  rename_i p hp
  split at hr
  · rename_i b hb
    split at hr
    · exact Or.inl ⟨_, hr.symm⟩
    rename_i p' hu
    exact Or.inr (Or.inl ⟨s, p, b, p', hs, hp, hb, hu, hr.symm⟩)
  · rename_i hb
    split at hr
    rename_i p' r' hu
    exact Or.inr (Or.inr ⟨s, p, p', r', hs, hp, hb, hu, hr.symm⟩)

theorem rebind_reads {h : Heap} {X : Oid} {s : SysObj} (hs : h.getSys X = some s) (p' : ParamTree) :
    ((h.allocs [.par p']).put X (.sys { s with params := h.next })).getSys X = some { s with params := h.next } ∧
    ((h.allocs [.par p']).put X (.sys { s with params := h.next })).getPar h.next = some p' := by
  have lX := look_allocs_of_look [Obj.par p'] (getSys_iff.1 hs)
  exact ⟨getSys_iff.2 (look_put_self _ lX), getPar_iff.2 (look_put_of_look _ (look_alloc_self h _ _) lX (by simp))⟩

theorem putPar_reads {h : Heap} {X : Oid} {s : SysObj} {p : ParamTree} (hs : h.getSys X = some s)
    (hp : h.getPar s.params = some p) (p' : ParamTree) :
    (h.put s.params (.par p')).getSys X = some s ∧ (h.put s.params (.par p')).getPar s.params = some p' :=
  ⟨getSys_iff.2 (look_put_of_look _ (getSys_iff.1 hs) (getPar_iff.1 hp) (by simp)),
   getPar_iff.2 (look_put_self _ (getPar_iff.1 hp))⟩

theorem foldE_ind {α : Type} {f : Heap → α → Heap × Except String Unit}
    {g : Heap → List α → Heap × Except String Unit} (g_nil : ∀ h, g h [] = (h, .ok ()))
    (g_cons : ∀ h a r, g h (a :: r) = match f h a with | (h1, .ok ()) => g h1 r | (h1, .error e) => (h1, .error e))
    {P : Heap → Prop} {l : List α} (step : ∀ h, ∀ a ∈ l, P h → P (f h a).1) {h : Heap} (h0 : P h) :
    P (g h l).1 := by
  induction l generalizing h with
  | nil => rw [g_nil]; exact h0
  | cons a r ih =>
    have p1 := step h a (List.mem_cons_self ..) h0
    rw [g_cons]
    cases hr : f h a with
    | mk h1 res =>
      rw [hr] at p1
      cases res with
      | ok u => cases u; exact ih (fun h b hb => step h b (List.mem_cons_of_mem _ hb)) p1
      | error e => exact p1

theorem addVariables_ind {P : Heap → Prop} {X : Oid} {cs : List ClassDef}
    (step : ∀ h, ∀ c ∈ cs, P h → P (loadVariable h X c false).1) {h : Heap} (h0 : P h) :
    P (addVariables h X cs).1 :=
  foldE_ind (g := fun h cs => addVariables h X cs) (fun _ => rfl) (fun _ _ _ => rfl) step h0

theorem loadExtensions_ind {P : Heap → Prop} {X : Oid} {es : List Ext}
    (step : ∀ h, ∀ e ∈ es, P h → P (loadExtension h X e).1) {h : Heap} (h0 : P h) :
    P (loadExtensions h X es).1 :=
  foldE_ind (g := fun h es => loadExtensions h X es) (fun _ => rfl) (fun _ _ _ => rfl) step h0

theorem applyMods_ind {P : Heap → Prop} {X : Oid} {ms : List Mod}
    (step : ∀ h, ∀ m ∈ ms, P h → P (applyMod h X m).1) {h : Heap} (h0 : P h) : P (applyMods h X ms).1 :=
  foldE_ind (g := fun h ms => applyMods h X ms) (fun _ => rfl) (fun _ _ _ => rfl) step h0

/-- One primitive write of a modification of `X` that may rebind the names in `T` and, if `B`, change
    the parameters. -/
inductive ModWrite (X : Oid) (T : List String) (B : Bool) : Heap → Heap → Prop
  | bind {h : Heap} {s : SysObj} {m : List (String × Oid)} {name : String} {w : VarObj}
      (hs : h.getSys X = some s) (hm : h.getMap s.vars = some m) (hn : name ∈ T) (hw : Rebuilds h w) :
      ModWrite X T B h (bindVar h s m name w)
  | del {h : Heap} {s : SysObj} {m : List (String × Oid)} {name : String}
      (hs : h.getSys X = some s) (hm : h.getMap s.vars = some m) (hn : name ∈ T) :
      ModWrite X T B h (h.put s.vars (.vmap (dictDel name m)))
  | rebind {h : Heap} {s : SysObj} {b : Oid}
      (hs : h.getSys X = some s) (hb : s.baseline = some b) (hB : B = true) (p' : ParamTree) :
      ModWrite X T B h ((h.allocs [.par p']).put X (.sys { s with params := h.next }))
  | putPar {h : Heap} {s : SysObj} {p : ParamTree}
      (hs : h.getSys X = some s) (hp : h.getPar s.params = some p) (hb : s.baseline = none) (hB : B = true)
      (p' : ParamTree) : ModWrite X T B h (h.put s.params (.par p'))

inductive Writes (X : Oid) (T : List String) (B : Bool) : Heap → Heap → Prop
  | refl (h : Heap) : Writes X T B h h
  | step {h h1 h2 : Heap} : ModWrite X T B h h1 → Writes X T B h1 h2 → Writes X T B h h2

section
variable {X : Oid} {T : List String} {B : Bool}

theorem ModWrite.writes {h h' : Heap} (w : ModWrite X T B h h') : Writes X T B h h' := .step w (.refl _)

theorem Writes.trans {h₁ h₂ h₃ : Heap} (a : Writes X T B h₁ h₂) (b : Writes X T B h₂ h₃) : Writes X T B h₁ h₃ := by
  induction a with
  | refl => exact b
  | step w _ ih => exact .step w (ih b)

theorem Writes.ind {P : Heap → Prop} (step : ∀ {h h'}, ModWrite X T B h h' → P h → P h') {h h' : Heap}
    (w : Writes X T B h h') (h0 : P h) : P h' := by
  induction w with
  | refl => exact h0
  | step w _ ih => exact ih (step w h0)

theorem loadVariable_writes (h : Heap) (cls : ClassDef) (u : Bool) (hn : cls.name ∈ T) :
    Writes X T B h (loadVariable h X cls u).1 := by
  rcases loadVariable_inv h X cls u with ⟨e, he⟩ | ⟨s, m, v, hs, hm, _, hv, he⟩
  · rw [he]; exact .refl h
  · rw [he]; exact (ModWrite.bind hs hm hn (rebuilds_of_construct hv rfl rfl (AttrsEq.refl v))).writes

theorem replaceVariable_writes (h : Heap) (cls : ClassDef) (hn : cls.name ∈ T) :
    Writes X T B h (replaceVariable h X cls).1 := by
  unfold replaceVariable
  split
  · exact .refl h
  rename_i s hs
  split
  · exact .refl h
  rename_i m hm
  split
  · exact .step (.del hs hm hn) (loadVariable_writes _ cls false hn)
  · exact loadVariable_writes h cls false hn

theorem recloneVar_writes {err : String} {f : VarObj → VarObj → VarObj} (h : Heap) {name : String} (hn : name ∈ T)
    (hf : ∀ v c, (f v c).cls = c.cls ∧ (f v c).baseline = c.baseline ∧ AttrsEq c (f v c)) :
    Writes X T B h (recloneVar err f h X name).1 := by
  rcases recloneVar_inv err f h X name with ⟨e, he⟩ | ⟨s, m, vid, v, c, hs, hm, _, _, hcl, he⟩
  · rw [he]; exact .refl h
  · rw [he]
    exact (ModWrite.bind hs hm hn (rebuilds_of_construct hcl (hf v c).1 (hf v c).2.1 (hf v c).2.2)).writes

theorem neutralizeVar_writes (h : Heap) {name : String} (hn : name ∈ T) :
    Writes X T B h (neutralizeVar h X name).1 :=
  recloneVar_writes h hn fun _ c => ⟨rfl, rfl, .set c _ _ _ nofun⟩

theorem annualizeVar_writes (h : Heap) {name : String} (hn : name ∈ T) :
    Writes X T B h (annualizeVar h X name).1 :=
  recloneVar_writes h hn fun _ c => ⟨rfl, rfl, .set c _ _ _ fun _ => rfl⟩

theorem modifyParams_writes (h : Heap) (us : List PUpd) (hB : B = true) :
    Writes X T B h (modifyParams h X us).1 := by
  rcases modifyParams_inv h X us with ⟨e, he⟩ | ⟨s, p, b, p', hs, _, hb, _, he⟩ | ⟨s, p, p', r, hs, hp, hb, _, he⟩
  · rw [he]; exact .refl h
  · rw [he]; exact (ModWrite.rebind hs hb hB p').writes
  · rw [he]; exact (ModWrite.putPar hs hp hb hB p').writes

theorem addVariables_writes (h : Heap) {cs : List ClassDef} (hT : ∀ c ∈ cs, c.name ∈ T) :
    Writes X T B h (addVariables h X cs).1 :=
  addVariables_ind (P := Writes X T B h)
    (fun h1 c hc w => w.trans (loadVariable_writes h1 c false (hT c hc))) (.refl h)

theorem loadExtension_writes (h : Heap) (e : Ext) (hT : ∀ c ∈ e.vars, c.name ∈ T)
    (hB : e.params ≠ [] → B = true) : Writes X T B h (loadExtension h X e).1 := by
  have w1 : Writes X T B h (addVariables h X e.vars).1 := addVariables_writes h hT
  unfold loadExtension
  split
  · rename_i h1 er ha; rw [ha] at w1; exact w1
  rename_i h1 ha
  rw [ha] at w1
  split
  · exact w1
  rename_i q qs hq
  have hB' : B = true := hB (by rw [hq]; exact List.cons_ne_nil _ _)
  split
  · exact w1
  rename_i s hs
  split
  · exact w1
  rename_i p hp
  split
  · rename_i b hb; exact w1.trans (ModWrite.rebind hs hb hB' _).writes
  · rename_i hb; exact w1.trans (ModWrite.putPar hs hp hb hB' _).writes

theorem applyMod_writes_within (h : Heap) (m : Mod) (hT : ∀ n ∈ m.touched, n ∈ T) (hB : m.isParams = true → B = true) :
    Writes X T B h (applyMod h X m).1 := by
  cases m with
  | add c => exact loadVariable_writes h c false (hT _ (List.mem_singleton.mpr rfl))
  | update c => exact loadVariable_writes h c true (hT _ (List.mem_singleton.mpr rfl))
  | replace c => exact replaceVariable_writes h c (hT _ (List.mem_singleton.mpr rfl))
  | neutralize nm => exact neutralizeVar_writes h (hT _ (List.mem_singleton.mpr rfl))
  | annualize nm => exact annualizeVar_writes h (hT _ (List.mem_singleton.mpr rfl))
  | params us => exact modifyParams_writes h us (hB rfl)
  | loadExt e =>
    refine loadExtension_writes h e (fun c hc => hT _ (List.mem_map.mpr ⟨c, hc, rfl⟩)) (fun hq => hB ?_)
    cases hp : e.params with
    | nil => exact absurd hp hq
    | cons q qs => simp [Mod.isParams, hp]

theorem applyMod_writes (h : Heap) (X : Oid) (m : Mod) : Writes X m.touched m.isParams h (applyMod h X m).1 :=
  applyMod_writes_within h m (fun _ hn => hn) (fun hb => hb)

theorem applyMods_writes (h : Heap) (X : Oid) (ms : List Mod) :
    Writes X (ms.flatMap Mod.touched) (ms.any Mod.isParams) h (applyMods h X ms).1 :=
  applyMods_ind (P := Writes X _ _ h) (fun h1 m hm w => w.trans (applyMod_writes_within h1 m
      (fun _ hn => List.mem_flatMap.mpr ⟨m, hm, hn⟩) (fun hb => List.any_eq_true.mpr ⟨m, hm, hb⟩)))
    (.refl h)

theorem ModWrite.good {n : Nat} {h0 h h' : Heap} (w : ModWrite X T B h h') (g : Good n h0 h) (hX : n ≤ X) :
    Good n h0 h' := by
  cases w with
  | @bind _ _ _ w hs _ _ _ => exact (g.alloc1 (o := .var w) trivial).put _ (inv_sys g.inv hX hs).1 trivial
  | del hs _ _ => exact g.put _ (inv_sys g.inv hX hs).1 trivial
  | rebind hs hb _ p' =>
    exact (g.alloc1 (o := .par p') trivial).put _ hX ⟨(inv_sys g.inv hX hs).1, fun hnone => by simp [hb] at hnone⟩
  | putPar hs _ hb _ _ => exact g.put _ ((inv_sys g.inv hX hs).2 hb) trivial

theorem ModWrite.keeps {h h' : Heap} (w : ModWrite X T B h h') : Keeps h h' := by
  cases w with
  | bind hs hm _ _ => exact (bindVar_spec hs hm _ _).2.2.1
  | del _ hm _ => exact keeps_put _ (getMap_iff.1 hm) rfl
  | rebind hs _ _ p' =>
    exact (keeps_allocs h _).trans (keeps_put _ (look_allocs_of_look _ (getSys_iff.1 hs)) rfl)
  | putPar _ hp _ _ _ => exact keeps_put _ (getPar_iff.1 hp) rfl

theorem ModWrite.consistent {h h' : Heap} (w : ModWrite X T B h h') (hc : Consistent h) : Consistent h' := by
  cases w with
  | bind _ hm _ hw =>
    exact consistent_put (consistent_alloc_var hc hw) _ (look_allocs_of_look _ (getMap_iff.1 hm)) rfl rfl
  | del _ hm _ => exact consistent_put hc _ (getMap_iff.1 hm) rfl rfl
  | rebind hs _ _ p' =>
    exact consistent_put (consistent_allocs_nonvar hc _ (List.forall_mem_singleton.2 rfl)) _ (look_allocs_of_look _ (getSys_iff.1 hs)) rfl rfl
  | putPar _ hp _ _ _ => exact consistent_put hc _ (getPar_iff.1 hp) rfl rfl

theorem ModWrite.look_other {h h' : Heap} (w : ModWrite X T B h h') {s : SysObj} (hs : h.getSys X = some s)
    {i : Nat} (hi : i < h.next) (h1 : i ≠ X) (h2 : i ≠ s.vars) (h3 : i ≠ s.params) : h'.look i = h.look i := by
  cases w with
  | bind hs' _ _ _ =>
    rw [hs] at hs'; cases hs'
    rw [bindVar_eq, look_put_ne _ _ (Ne.symm h2), look_allocs_lt h _ hi]
  | del hs' _ _ => rw [hs] at hs'; cases hs'; exact look_put_ne _ _ (Ne.symm h2)
  | rebind _ _ _ _ => rw [look_put_ne _ _ (Ne.symm h1), look_allocs_lt h _ hi]
  | putPar hs' _ _ _ _ => rw [hs] at hs'; cases hs'; exact look_put_ne _ _ (Ne.symm h3)

structure ModSpec (h : Heap) (X : Oid) (T : List String) (B : Bool) (h' : Heap) : Prop where
  wf : SysWF h' X
  vars : ∀ name, name ∉ T → varObs h' X name = varObs h X name
  pars : B = false → ∀ pn d, paramObs h' X pn d = paramObs h X pn d
  keeps : Keeps h h'
  sysSame : ∀ s, h.getSys X = some s → ∃ s', h'.getSys X = some s' ∧ s'.entities = s.entities ∧
              s'.baseline = s.baseline ∧ s'.vars = s.vars ∧ (s'.params = s.params ∨ h.next ≤ s'.params)

theorem ModSpec.refl {h : Heap} (hw : SysWF h X) : ModSpec h X T B h :=
  ⟨hw, fun _ _ => rfl, fun _ _ _ => rfl, Keeps.refl h, fun s hs => ⟨s, hs, rfl, rfl, rfl, Or.inl rfl⟩⟩

theorem ModSpec.trans {h₁ h₂ h₃ : Heap} (a : ModSpec h₁ X T B h₂) (c : ModSpec h₂ X T B h₃) :
    ModSpec h₁ X T B h₃ := by
  refine ⟨c.wf, fun nm hnm => by rw [c.vars nm hnm, a.vars nm hnm],
    fun hb pn d => by rw [c.pars hb pn d, a.pars hb pn d], a.keeps.trans c.keeps, fun s hs => ?_⟩
  obtain ⟨s1, hs1, e1, e2, e3, e4⟩ := a.sysSame s hs
  obtain ⟨s2, hs2, f1, f2, f3, f4⟩ := c.sysSame s1 hs1
  refine ⟨s2, hs2, f1.trans e1, f2.trans e2, f3.trans e3, ?_⟩
  rcases f4 with f4 | f4
  · rw [f4]; exact e4
  · exact Or.inr (Nat.le_trans a.keeps.grows f4)

theorem ModSpec.of_reads {h h' : Heap} {s s' : SysObj} {m m' : List (String × Oid)} {p p' : ParamTree}
    (hs : h.getSys X = some s) (hm : h.getMap s.vars = some m) (hp : h.getPar s.params = some p)
    (he : ∀ e ∈ m, ∃ v, h.getVar e.2 = some v) (hk : Keeps h h')
    (hs' : h'.getSys X = some s') (hm' : h'.getMap s'.vars = some m') (hp' : h'.getPar s'.params = some p')
    (he' : ∀ e ∈ m', e ∈ m ∨ ∃ v, h'.getVar e.2 = some v)
    (hmm : ∀ name, name ∉ T → dictGet name m' = dictGet name m) (hpp : B = false → p' = p)
    (hss : s'.entities = s.entities ∧ s'.baseline = s.baseline ∧ s'.vars = s.vars ∧
      (s'.params = s.params ∨ h.next ≤ s'.params)) : ModSpec h X T B h' := by
  refine ⟨⟨s', m', p', hs', hm', hp', fun e hmem => ?_⟩, fun name hn => ?_, fun hb pn d => ?_, hk, fun s0 hs0 => ?_⟩
  · rcases he' e hmem with hin | hv
    · obtain ⟨v, hv⟩ := he e hin; exact ⟨v, hk.keepVar _ _ hv⟩
    · exact hv
  · exact varObs_of_keeps hs hm he hs' hm' hk (hmm name hn)
  · rw [paramObs_eq hs' hp', paramObs_eq hs hp, hpp hb]
  · rw [hs] at hs0; cases hs0; exact ⟨s', hs', hss⟩

theorem ModWrite.spec {h h' : Heap} (w : ModWrite X T B h h') (hw : SysWF h X) : ModSpec h X T B h' := by
  obtain ⟨s, m, p, hs, hm, hp, he⟩ := hw
  have lX := getSys_iff.1 hs
  have lM := getMap_iff.1 hm
  have lP := getPar_iff.1 hp
  have hk := w.keeps
  cases w with
  | @bind _ _ name w hs0 hm0 hn _ =>
    rw [hs] at hs0; cases hs0
    rw [hm] at hm0; cases hm0
    obtain ⟨_, hv', _, hs', hm'⟩ := bindVar_spec hs hm name w
    refine .of_reads hs hm hp he hk hs' hm' (getPar_iff.2 ?_) (fun e hmem => ?_)
      (fun n' hn' => dictGet_dictSet_ne _ _ (fun e => hn' (by rw [e]; exact hn))) (fun _ => rfl)
      ⟨rfl, rfl, rfl, Or.inl rfl⟩
    · exact look_put_of_look _ (look_allocs_of_look _ lP) (look_allocs_of_look _ lM) (by simp)
    · rcases mem_dictSet hmem with rfl | hin
      · exact Or.inr ⟨w, hv'⟩
      · exact Or.inl hin
  | @del _ _ name hs0 hm0 hn =>
    rw [hs] at hs0; cases hs0
    rw [hm] at hm0; cases hm0
    exact .of_reads hs hm hp he hk (getSys_iff.2 (look_put_of_look _ lX lM (by simp)))
      (getMap_iff.2 (look_put_self _ lM)) (getPar_iff.2 (look_put_of_look _ lP lM (by simp)))
      (fun e hmem => Or.inl (mem_dictDel hmem))
      (fun n' hn' => dictGet_dictDel_ne _ (fun e => hn' (by rw [e]; exact hn))) (fun _ => rfl)
      ⟨rfl, rfl, rfl, Or.inl rfl⟩
  | rebind hs0 _ hB p' =>
    rw [hs] at hs0; cases hs0
    have lX1 := look_allocs_of_look [Obj.par p'] lX
    exact .of_reads hs hm hp he hk (rebind_reads hs p').1
      (getMap_iff.2 (look_put_of_look _ (look_allocs_of_look _ lM) lX1 (by simp))) (rebind_reads hs p').2
      (fun e hmem => Or.inl hmem) (fun _ _ => rfl) (fun hb' => by rw [hB] at hb'; cases hb')
      ⟨rfl, rfl, rfl, Or.inr (Nat.le_refl _)⟩
  | putPar hs0 _ _ hB p' =>
    rw [hs] at hs0; cases hs0
    exact .of_reads hs hm hp he hk (putPar_reads hs hp p').1
      (getMap_iff.2 (look_put_of_look _ lM lP (by simp))) (putPar_reads hs hp p').2
      (fun e hmem => Or.inl hmem) (fun _ _ => rfl) (fun hb' => by rw [hB] at hb'; cases hb')
      ⟨rfl, rfl, rfl, Or.inl rfl⟩

theorem Writes.spec {h h' : Heap} (w : Writes X T B h h') (hw : SysWF h X) : ModSpec h X T B h' :=
  w.ind (fun w sp => sp.trans (w.spec sp.wf)) (.refl hw)

theorem Writes.look_other {h h' : Heap} (w : Writes X T B h h') (hw : SysWF h X) {s : SysObj}
    (hs : h.getSys X = some s) {i : Nat} (hi : i < h.next) (h1 : i ≠ X) (h2 : i ≠ s.vars) (h3 : i ≠ s.params) :
    h'.look i = h.look i := by
  induction w generalizing s with
  | refl => rfl
  | step w _ ih =>
    have sp := w.spec hw
    obtain ⟨s1, hs1, _, _, ev, ep⟩ := sp.sysSame s hs
    have hne : i ≠ s1.params := by
      rcases ep with ep | ep
      · rw [ep]; exact h3
      · exact Nat.ne_of_lt (Nat.lt_of_lt_of_le hi ep)
    rw [ih sp.wf hs1 (Nat.lt_of_lt_of_le hi sp.keeps.grows) (by rw [ev]; exact h2) hne,
      w.look_other hs hi h1 h2 h3]

end

/-- a modifier that returns normally named only parameters that exist and has applied, to each parameter, the updates
    that name it, in order -/
theorem applyUpds_ok {p : ParamTree} {us : List PUpd} {p' : ParamTree} (hu : applyUpds p us = (p', .ok ())) :
    (∀ u ∈ us, (dictGet u.name p).isSome = true) ∧
    ∀ pn, dictGet pn p' = (dictGet pn p).map
      (fun l => updates l ((us.filter (fun u => u.name = pn)).map PUpd.toUpd)) := by
  induction us generalizing p with
  | nil =>
    simp only [applyUpds, Prod.mk.injEq] at hu
    rw [← hu.1]
    refine ⟨fun u hu' => ?_, fun pn => ?_⟩
    · cases hu'
    · cases dictGet pn p <;> rfl
  | cons u r ih =>
    unfold applyUpds at hu
    cases hd : dictGet u.name p with
    | none => rw [hd] at hu; simp at hu
    | some l =>
      rw [hd] at hu
      dsimp only at hu
      obtain ⟨ih1, ih2⟩ := ih hu
      refine ⟨fun a hmem => ?_, fun pn => ?_⟩
      · rcases List.mem_cons.mp hmem with rfl | hmem
        · rw [hd]; rfl
        · have := ih1 a hmem
          by_cases hn : a.name = u.name
          · rw [hn, hd]; rfl
          · rw [dictGet_dictSet_ne _ _ hn] at this; exact this
      · rw [ih2 pn]
        by_cases hn : u.name = pn
        · subst hn
          rw [dictGet_dictSet_self, hd]
          simp only [Option.map_some, List.filter_cons, decide_true, if_true, List.map_cons]
          rfl
        · rw [dictGet_dictSet_ne _ _ (Ne.symm hn)]
          simp only [List.filter_cons, hn, decide_false]
          rfl

variable {h h' : Heap} {X : Oid} {us : List PUpd} (hm : modifyParams h X us = (h', .ok ()))
include hm

theorem modifyParams_ok :
    ∃ p p', applyUpds p us = (p', .ok ()) ∧ (∀ pn, paramHist h X pn = dictGet pn p) ∧
      ∀ pn, paramHist h' X pn = dictGet pn p' := by
  rcases modifyParams_inv h X us with ⟨e, he⟩ | ⟨s, p, b, p', hs, hp, hb, hu, he⟩ | ⟨s, p, p', r, hs, hp, hb, hu, he⟩
  · rw [he] at hm; cases hm
  · rw [he] at hm; cases hm
    obtain ⟨hs', hp'⟩ := rebind_reads hs p'
    exact ⟨p, p', hu, paramHist_eq hs hp, paramHist_eq hs' hp'⟩
  · rw [he] at hm; cases hm
    obtain ⟨hs', hp'⟩ := putPar_reads hs hp p'
    exact ⟨p, p', hu, paramHist_eq hs hp, paramHist_eq hs' hp'⟩

theorem modifyParams_absent {pn : String} (hl : paramHist h X pn = none) : us.filter (fun u => u.name = pn) = [] := by
  obtain ⟨p, p', hu, e, _⟩ := modifyParams_ok hm
  rw [List.filter_eq_nil_iff]
  intro u hmem hname
  have := (applyUpds_ok hu).1 u hmem
  rw [of_decide_eq_true hname, ← e, hl] at this
  cases this

/-- the histories of `X` after a parameter modifier that returned normally (`hm`) -/
theorem modifyParams_hist (pn : String) :
    paramHist h' X pn = (paramHist h X pn).map
      (fun l => updates l ((us.filter (fun u => u.name = pn)).map PUpd.toUpd)) := by
  obtain ⟨p, p', hu, e, e'⟩ := modifyParams_ok hm
  rw [e', e, (applyUpds_ok hu).2]

end OFCore.HeapSys
