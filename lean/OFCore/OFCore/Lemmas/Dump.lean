import OFCore.Lemmas.DumpHolder
/-! The whole dump and restore (C19): under `Dumpable`, `restore sys (dump s)` is `Sim.reloaded`, which has the view of `s`
and is dumpable again; then restores of arbitrary directories. -/
namespace OFCore.Dump
open OFCore

def RoleKeysInjective (roles : List Role) : Prop :=
  ∀ r ∈ roles, ∀ r' ∈ roles, r.key = r'.key → r = r'

theorem decode_encode_role (roles : List Role) (hinj : RoleKeysInjective roles) (r : Role)
    (hr : r ∈ roles) : decodeRole roles (encodeRole roles (.role r)) = .role r := by
  -- both searches succeed, `r` being among the roles
  have h1 : encodeRole roles (.role r) = r.key := by
    obtain ⟨r', hf⟩ := Option.isSome_iff_exists.1
      (List.find?_isSome (p := fun r' => decide (r' = r)) |>.2 ⟨r, hr, by simp⟩)
    have := List.find?_some hf
    simp only [decide_eq_true_eq] at this
    simp only [encodeRole, hf, this]
  obtain ⟨r', hf⟩ := Option.isSome_iff_exists.1
    (List.find?_isSome (p := fun x => decide (x.key = r.key)) |>.2 ⟨r, hr, by simp⟩)
  have h2 := List.find?_some hf
  simp only [decide_eq_true_eq] at h2
  simp only [h1, decodeRole, hf, hinj r' (List.mem_of_find?_eq_some hf) r hr h2]

/-- the population `_restore_entity` rebuilds from the files `_dump_entity` wrote for `pop` -/
def Pop.normal (pop : Pop) : Pop :=
  if pop.entity.isPerson then { entity := pop.entity, ids := pop.ids, count := pop.ids.length }
  else
    { entity := pop.entity, ids := pop.ids, count := pop.ids.length,
      membersEntityId := pop.membersEntityId,
      membersRole := if pop.entity.roles.isEmpty then []
        else (pop.membersRole.map (encodeRole pop.entity.roles)).map (decodeRole pop.entity.roles),
      membersPosition := pop.membersPosition }

theorem restoreEntity_entityFiles (fs : FS) (pop : Pop)
    (h : alookup pop.entity.key fs.ents = some (entityFiles pop)) :
    restoreEntity fs pop.entity = .ok pop.normal := by
  unfold restoreEntity Pop.normal
  rw [h]
  unfold entityFiles
  by_cases hp : pop.entity.isPerson = true
  · simp [hp, readIds, alookup]
  · by_cases hr : pop.entity.roles.isEmpty = true
    · simp [hp, hr, readIds, readInts, readNode, alookup]
    · simp [hp, hr, readIds, readInts, readNode, alookup]

/-- what the builder guarantees of a population (by `roles_mem`, an entity without roles has no role array) -/
structure Pop.Ok (pop : Pop) : Prop where
  count_eq : pop.count = pop.ids.length
  roles_inj : RoleKeysInjective pop.entity.roles
  roles_mem : ∀ rv ∈ pop.membersRole, ∃ r ∈ pop.entity.roles, rv = .role r

theorem Pop.Ok.roles_roundtrip {pop : Pop} (hok : pop.Ok) :
    (pop.membersRole.map (encodeRole pop.entity.roles)).map (decodeRole pop.entity.roles) = pop.membersRole := by
  rw [List.map_map]
  refine (List.map_congr_left (g := id) fun rv hrv => ?_).trans (List.map_id _)
  obtain ⟨r, hr', rfl⟩ := hok.roles_mem rv hrv
  exact decode_encode_role _ hok.roles_inj r hr'

theorem Pop.normal_entity (pop : Pop) : pop.normal.entity = pop.entity := by
  unfold Pop.normal; split <;> rfl

theorem Pop.Ok.normal_count {pop : Pop} (hok : pop.Ok) : pop.normal.count = pop.count := by
  unfold Pop.normal; rw [hok.count_eq]; split <;> rfl

theorem Pop.Ok.normal_of_group {pop : Pop} (hok : pop.Ok) (hg : pop.entity.isPerson = false) :
    pop.normal = pop := by
  have hnil : pop.entity.roles.isEmpty = true → [] = pop.membersRole := fun he =>
    match hm : pop.membersRole with
    | [] => rfl
    | rv :: _ => by
      obtain ⟨r, hr, _⟩ := hok.roles_mem rv (by rw [hm]; exact List.mem_cons_self)
      rw [List.isEmpty_iff.1 he] at hr; cases hr
  unfold Pop.normal
  rw [if_neg (by rw [hg]; decide), hok.roles_roundtrip, ite_eq_right_iff.2 hnil, ← hok.count_eq]

theorem Pop.Ok.normal_view {pop : Pop} (hok : pop.Ok) : pop.normal.view = pop.view := by
  by_cases hp : pop.entity.isPerson = true
  · unfold Pop.normal
    simp only [hp, if_true, Pop.view, hok.count_eq]
  · rw [hok.normal_of_group (by simpa using hp)]

theorem Pop.Ok.normal_ok {pop : Pop} (hok : pop.Ok) : pop.normal.Ok := by
  by_cases hp : pop.entity.isPerson = true
  · refine ⟨?_, ?_, ?_⟩
    · unfold Pop.normal; rw [if_pos hp]
    · rw [Pop.normal_entity]; exact hok.roles_inj
    · unfold Pop.normal; rw [if_pos hp]; intro rv h; cases h
  · rw [hok.normal_of_group (by simpa using hp)]
    exact hok

/-- "dumped under `sys`, well formed": the hypotheses of the round trip.
    * `same_system`: the populations are those of the system's entities, person first;
    * `keys_nodup`, `names_nodup`: entity keys and holder names are unique (they are `dict` keys);
    * `pop_ok`: see `Pop.Ok`;
    * `holder_ok`: the holder's variable is the system's variable of that name, is not called
      `__entities__`, its entity has a population, and the holder satisfies `Holder.Inv` -/
structure Dumpable (sys : System) (s : Sim) : Prop where
  same_system : s.pops.map (fun p => p.entity) = sys.person :: sys.groups
  keys_nodup : (s.pops.map (fun p => p.entity.key)).Nodup
  names_nodup : (s.holders.map (fun h => h.var.name)).Nodup
  pop_ok : ∀ pop ∈ s.pops, pop.Ok
  holder_ok : ∀ h ∈ s.holders, h.var.name ≠ "__entities__" ∧ sys.var? h.var.name = some h.var ∧
    (s.pop? h.var.entity).isSome ∧ h.Inv (s.countOf h)

theorem Dumpable.holder_inv {sys : System} {s : Sim} (hd : Dumpable sys s) {v : String} {h : Holder}
    (hf : s.holder? v = some h) : h.Inv (s.countOf h) := (hd.holder_ok h (List.mem_of_find?_eq_some hf)).2.2.2

/-- the directory `dump` writes for a dumpable simulation -/
def Sim.dumped (s : Sim) : FS :=
  { ents := s.pops.map fun p => (p.entity.key, entityFiles p),
    vars := s.holders.map fun h => (h.var.name, h.files (s.countOf h) []) }

theorem dumpEntities_ok (pops : List Pop) (hn : (pops.map (fun p => p.entity.key)).Nodup) :
    dumpEntities pops = .ok (pops.map (fun p => (p.entity.key, entityFiles p))) :=
  foldE_prefix dumpEntityStep (List.map fun p => (p.entity.key, entityFiles p)) pops
    (fun p a q hl _ => by
      unfold dumpEntityStep
      rw [alookup_eq_none_iff.2 (not_mem_keys_of_split (g := fun p => (p.entity.key, entityFiles p)) hn hl),
        List.map_append]; rfl)

theorem Dumpable.dumpVars_eq {sys : System} {s : Sim} (hd : Dumpable sys s) : dumpVars s = s.dumped.vars := by
  unfold dumpVars
  rw [List.filter_eq_self.2 (fun h hh => (hd.holder_ok h hh).2.2.1)]
  refine foldl_prefix _ (List.map fun h => (h.var.name, h.files (s.countOf h) [])) s.holders fun p h q hl hh => ?_
  have hf := not_mem_keys_of_split (g := fun h => (h.var.name, h.files (s.countOf h) [])) hd.names_nodup hl
  unfold dumpHolder
  rw [if_neg (hd.holder_ok h hh).1, alookup_eq_none_iff.2 hf, upsert_of_not_mem _ hf, List.map_append]; rfl

theorem Dumpable.dump_eq {sys : System} {s : Sim} (hd : Dumpable sys s) : dump s = .ok s.dumped := by
  unfold dump
  rw [dumpEntities_ok s.pops hd.keys_nodup, hd.dumpVars_eq]
  rfl

theorem setHolderIn_of_fresh (hs : List Holder) (h : Holder)
    (hf : ∀ h' ∈ hs, h'.var.name ≠ h.var.name) : setHolderIn hs h = hs ++ [h] := by
  induction hs with
  | nil => rfl
  | cons a r ih =>
    unfold setHolderIn
    rw [if_neg (hf a List.mem_cons_self), ih (fun x hx => hf x (List.mem_cons_of_mem _ hx))]
    rfl

theorem holder?_none_of_fresh (s : Sim) (n : String)
    (hf : ∀ h' ∈ s.holders, h'.var.name ≠ n) : s.holder? n = none := by
  unfold Sim.holder?
  rw [List.find?_eq_none]
  intro x hx
  simp only [decide_eq_true_eq]
  exact hf x hx

theorem restoreHolder_fresh {sys : System} {fs : FS} {a : Sim} {h : Holder} {c : Nat} {pop : Pop}
    (hv : sys.var? h.var.name = some h.var) (hp : a.pop? h.var.entity = some pop)
    (hc : pop.count = c) (hfresh : ∀ h' ∈ a.holders, h'.var.name ≠ h.var.name)
    (hf : alookup h.var.name fs.vars = some (h.files c [])) (hinv : h.Inv c) :
    restoreHolder sys fs a h.var.name
      = .ok { pops := a.pops, holders := a.holders ++ [h.restored c] } := by
  unfold restoreHolder
  rw [hv]
  simp only [hp, holder?_none_of_fresh a _ hfresh, Option.getD_none, hf, Option.getD_some, hc]
  rw [hinv.loadStore_files]
  simp only [Sim.setHolder]
  rw [setHolderIn_of_fresh]
  · rfl
  · exact hfresh

/-- the simulation `restore sys (dump s)` computes -/
def Sim.reloaded (s : Sim) : Sim :=
  { pops := s.pops.map Pop.normal, holders := s.holders.map (fun h => h.restored (s.countOf h)) }

theorem Sim.pop?_reloaded (s : Sim) (k : String) : s.reloaded.pop? k = (s.pop? k).map Pop.normal := by
  simp only [Sim.pop?, Sim.reloaded, List.find?_map, Function.comp_def, Pop.normal_entity]

theorem Dumpable.restore_loop {sys : System} {s : Sim} (hd : Dumpable sys s) :
    foldE (restoreHolder sys s.dumped) { pops := s.reloaded.pops, holders := [] } (s.holders.map fun h => h.var.name)
      = .ok s.reloaded := by
  rw [foldE_map]
  refine foldE_prefix _
    (fun p => ({ pops := s.reloaded.pops, holders := p.map fun h => h.restored (s.countOf h) } : Sim))
    s.holders fun p h q hl hh => ?_
  obtain ⟨_, hv, hpop, hinv⟩ := hd.holder_ok h hh
  obtain ⟨pop, hp⟩ := Option.isSome_iff_exists.1 hpop
  rw [List.map_append]
  exact restoreHolder_fresh (pop := pop.normal) hv
    (by show s.reloaded.pop? _ = _; rw [Sim.pop?_reloaded, hp]; rfl)
    (by rw [(hd.pop_ok pop (List.mem_of_find?_eq_some hp)).normal_count]; unfold Sim.countOf; rw [hp])
    (fun h' hh' e => by
      obtain ⟨h0, hh0, rfl⟩ := List.mem_map.1 hh'
      rw [Holder.restored_var] at e
      exact key_fresh_of_split hd.names_nodup hl h0 hh0 e)
    (alookup_map_of_nodup (fun h => h.var.name) (fun h => h.files (s.countOf h) []) hd.names_nodup hh)
    hinv

/-- As an equation of `Except` values this fails: `restore` reads the groups first, so when both the person and a group
    fail it reports the group's error. -/
theorem restore_eq_ok {sys : System} {fs : FS} {r : Sim} :
    restore sys fs = .ok r ↔ ∃ pops, mapE (restoreEntity fs) (sys.person :: sys.groups) = .ok pops ∧
      foldE (restoreHolder sys fs) { pops := pops, holders := [] } (keys fs.vars) = .ok r := by
  simp only [restore, mapE_cons_ok]
  cases mapE (restoreEntity fs) sys.groups with
  | error e => simp
  | ok gs =>
    cases restoreEntity fs sys.person with
    | error e => simp
    | ok pp => simp

theorem Dumpable.restore_dumped {sys : System} {s : Sim} (hd : Dumpable sys s) : restore sys s.dumped = .ok s.reloaded := by
  refine restore_eq_ok.mpr ⟨s.reloaded.pops, ?_, ?_⟩
  · -- every population comes back normalised from its own files, in the order of `s.pops`
    rw [← hd.same_system]
    exact mapE_map_ok fun pop hp => restoreEntity_entityFiles _ pop
      (alookup_map_of_nodup (fun p => p.entity.key) entityFiles hd.keys_nodup hp)
  · rw [Sim.dumped, keys_map]
    exact hd.restore_loop

theorem Dumpable.restore_eq {sys : System} {s : Sim} (hd : Dumpable sys s) (fs : FS)
    (hfs : dump s = .ok fs) : restore sys fs = .ok s.reloaded := by
  obtain rfl := Except.ok.inj (hd.dump_eq.symm.trans hfs)
  exact hd.restore_dumped

theorem Dumpable.eq_reloaded {sys : System} {s : Sim} (hd : Dumpable sys s) {fs : FS} {r : Sim}
    (hfs : dump s = .ok fs) (hr : restore sys fs = .ok r) : r = s.reloaded :=
  Except.ok.inj (hr.symm.trans (hd.restore_eq fs hfs))

theorem Sim.holder?_reloaded (s : Sim) (v : String) :
    s.reloaded.holder? v = (s.holder? v).map (fun h => h.restored (s.countOf h)) := by
  simp only [Sim.holder?, Sim.reloaded, List.find?_map, Function.comp_def, Holder.restored_var]

theorem Dumpable.countOf_reloaded {sys : System} {s : Sim} (hd : Dumpable sys s) (h : Holder) (c : Nat) :
    s.reloaded.countOf (h.restored c) = s.countOf h := by
  unfold Sim.countOf
  rw [Holder.restored_var]
  rw [Sim.pop?_reloaded]
  cases hq : s.pop? h.var.entity with
  | none => rfl
  | some pop =>
    have hmem : pop ∈ s.pops := List.mem_of_find?_eq_some hq
    simp only [Option.map_some, (hd.pop_ok pop hmem).normal_count]

theorem Dumpable.knows_reloaded {sys : System} {s : Sim} (hd : Dumpable sys s) :
    s.reloaded.knows = s.knows := by
  funext v p
  unfold Sim.knows
  rw [Sim.holder?_reloaded]
  cases hf : s.holder? v with
  | none => rfl
  | some h =>
    exact decide_eq_decide.2 ((hd.holder_inv hf).restored_known p)

theorem Dumpable.read_reloaded {sys : System} {s : Sim} (hd : Dumpable sys s) :
    s.reloaded.read = s.read := by
  funext v p
  unfold Sim.read
  rw [Sim.holder?_reloaded]
  cases hf : s.holder? v with
  | none => rfl
  | some h =>
    simp only [Option.map_some]
    rw [hd.countOf_reloaded h, (hd.holder_inv hf).restored_getArray]

theorem Dumpable.read_of_knows {sys : System} {s : Sim} (hd : Dumpable sys s) {v : String} {p : Period}
    (hk : s.knows v p = true) : ∃ a, s.read v p = some a := by
  unfold Sim.knows at hk
  unfold Sim.read
  cases hf : s.holder? v with
  | none => rw [hf] at hk; cases hk
  | some h =>
    rw [hf] at hk
    exact ⟨_, (hd.holder_inv hf).getArray_known (of_decide_eq_true hk)⟩

theorem Dumpable.view_reloaded {sys : System} {s : Sim} (hd : Dumpable sys s) :
    s.reloaded.view = s.view := by
  have hpops : s.reloaded.pops.map Pop.view = s.pops.map Pop.view := by
    unfold Sim.reloaded
    rw [List.map_map]
    exact List.map_congr_left fun pop hp => (hd.pop_ok pop hp).normal_view
  have hhas : (fun v => (s.reloaded.holder? v).isSome) = (fun v => (s.holder? v).isSome) := by
    funext v
    rw [Sim.holder?_reloaded, Option.isSome_map]
  unfold Sim.view
  rw [hpops, hhas, hd.knows_reloaded, hd.read_reloaded]

theorem Sim.reloaded_pops_map {β : Type} (s : Sim) (f : EntityDecl → β) :
    s.reloaded.pops.map (fun p => f p.entity) = s.pops.map (fun p => f p.entity) := by
  simp only [Sim.reloaded, List.map_map, Function.comp_def, Pop.normal_entity]

theorem Sim.reloaded_holders_map {β : Type} (s : Sim) (f : VarDecl → β) :
    s.reloaded.holders.map (fun h => f h.var) = s.holders.map (fun h => f h.var) := by
  simp only [Sim.reloaded, List.map_map, Function.comp_def, Holder.restored_var]

theorem Dumpable.reloaded {sys : System} {s : Sim} (hd : Dumpable sys s) :
    Dumpable sys s.reloaded where
  same_system := (s.reloaded_pops_map fun e => e).trans hd.same_system
  keys_nodup := (s.reloaded_pops_map fun e => e.key) ▸ hd.keys_nodup
  names_nodup := (s.reloaded_holders_map fun v => v.name) ▸ hd.names_nodup
  pop_ok := by
    intro pop hp
    obtain ⟨p0, hp0, rfl⟩ := List.mem_map.1 hp
    exact (hd.pop_ok p0 hp0).normal_ok
  holder_ok := by
    intro h' hh'
    obtain ⟨h, hh, rfl⟩ := List.mem_map.1 hh'
    obtain ⟨hne, hv, hpop, hinv⟩ := hd.holder_ok h hh
    rw [hd.countOf_reloaded h, Holder.restored_var]
    refine ⟨hne, hv, ?_, hinv.restored_inv⟩
    rw [Sim.pop?_reloaded, Option.isSome_map]
    exact hpop

theorem restoreEntity_ok {fs : FS} {e : EntityDecl} {pop : Pop} (h : restoreEntity fs e = .ok pop) :
    pop.entity = e ∧ pop.count = pop.ids.length ∧
      ∃ d, alookup e.key fs.ents = some d ∧ readIds d "id.npy" = .ok pop.ids ∧
        (e.isPerson = false → readInts d "members_position.npy" = .ok pop.membersPosition ∧
          readInts d "members_entity_id.npy" = .ok pop.membersEntityId) := by
  unfold restoreEntity at h
  split at h
  · cases h
  next d h1 =>
  split at h
  · cases h
  next ids h2 =>
  split at h
  next hp => cases h; exact ⟨rfl, rfl, d, h1, h2, fun hg => absurd (hp.symm.trans hg) nofun⟩
  split at h
  · cases h
  next pos h3 =>
  split at h
  · cases h
  next mei h4 =>
  split at h
  · cases h
  next node h5 =>
  -- however the role file is read, the other fields are the same
  split at h
  · cases h; exact ⟨rfl, rfl, d, h1, h2, fun _ => ⟨h3, h4⟩⟩
  · split at h <;> cases h
    exact ⟨rfl, rfl, d, h1, h2, fun _ => ⟨h3, h4⟩⟩

theorem restoreHolder_pops {sys : System} {fs : FS} {s s' : Sim} {n : String}
    (h : restoreHolder sys fs s n = .ok s') : s'.pops = s.pops := by
  unfold restoreHolder at h
  split at h
  · cases h
  · split at h
    · cases h
    · simp only at h
      split at h
      · cases h
      · cases h; rfl

theorem restore_pops {sys : System} {fs : FS} {r : Sim} (h : restore sys fs = .ok r) :
    mapE (restoreEntity fs) (sys.person :: sys.groups) = .ok r.pops := by
  obtain ⟨pops, hE, hF⟩ := restore_eq_ok.mp h
  rw [foldE_inv (fun s => s.pops = pops) rfl
    (fun s a s' _ hs hstep => by rw [restoreHolder_pops hstep]; exact hs) hF]
  exact hE

theorem restore_error_of_holder (sys : System) (fs : FS) (n : String) (hn : n ∈ keys fs.vars)
    (hf : ∀ s, ∃ e, restoreHolder sys fs s n = .error e) : ∃ e, restore sys fs = .error e := by
  cases h : restore sys fs with
  | error e => exact ⟨e, rfl⟩
  | ok r =>
    obtain ⟨pops, _, hF⟩ := restore_eq_ok.mp h
    obtain ⟨e, he⟩ := foldE_error_of_mem hn hf { pops := pops, holders := [] }
    rw [he] at hF; cases hF

theorem restoreHolder_error_of_loadStore (sys : System) (fs : FS) (n : String)
    (hl : ∀ var c mem, ∃ e, loadStore var c ((alookup n fs.vars).getD []) mem = .error e)
    (s : Sim) : ∃ e, restoreHolder sys fs s n = .error e := by
  unfold restoreHolder
  cases sys.var? n with
  | none => exact ⟨_, rfl⟩
  | some var =>
    simp only
    cases s.pop? var.entity with
    | none => exact ⟨_, rfl⟩
    | some pop =>
      simp only
      obtain ⟨e, he⟩ := hl var pop.count ((s.holder? n).getD { var := var }).mem
      rw [he]; exact ⟨e, rfl⟩

def addExtras (extras : String → List (List Char × Arr)) (fs : FS) : FS :=
  { fs with vars := fs.vars.map (fun nd => (nd.1, nd.2 ++ extras nd.1)) }

theorem loadStore_nil (var : VarDecl) (c : Nat) (mem : Store) : loadStore var c [] mem = .ok mem :=
  rfl

end OFCore.Dump
