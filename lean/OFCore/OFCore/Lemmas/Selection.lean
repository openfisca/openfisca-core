import OFCore.Equivariance
import OFCore.Lemmas.ListGetD
/-!
Index lists: a vector read at an index list (`reindex` = `selArr` = `Grp.takeD`) commutes with what acts
value by value; `posIn` is the inverse of reading a duplicate-free list.
-/
namespace OFCore.Equivariance
open OFCore OFCore.Engine OFCore.RuleSys

theorem reindex_length (l : List Nat) (x : Val) : (reindex l x).length = l.length := by
  simp [reindex]

theorem map_reindex (f : Int → Int) {l : List Nat} {n : Nat} {x : Val} (hl : ∀ i ∈ l, i < n) (hx : x.length = n) :
    (reindex l x).map f = reindex l (x.map f) := by
  simp only [reindex, List.map_map]
  exact List.map_congr_left fun i hi => (List.getD_map_of_lt f x 0 0 (hx ▸ hl i hi)).symm

theorem zipWith_reindex (f : Int → Int → Int) {l : List Nat} {n : Nat} {x y : Val}
    (hl : ∀ i ∈ l, i < n) (hx : x.length = n) (hy : y.length = n) :
    List.zipWith f (reindex l x) (reindex l y) = reindex l (List.zipWith f x y) := by
  simp only [reindex, List.zipWith_map, List.zipWith_self]
  exact List.map_congr_left fun i hi =>
    (List.getD_zipWith_of_lt f x y 0 0 0 (hx ▸ hl i hi) (hy ▸ hl i hi)).symm

theorem reindex_replicate (l : List Nat) (n : Nat) (k : Int) (h : ∀ i ∈ l, i < n) :
    reindex l (List.replicate n k) = List.replicate l.length k := by
  rw [← List.map_const']
  exact List.map_congr_left fun i hi => by
    rw [List.getD_of_lt _ _ (by simpa using h i hi), List.getElem_replicate]

theorem reindex_range (x : Val) : reindex (List.range x.length) x = x :=
  List.map_getD_range x 0

theorem reindex_perm (l : List Nat) (x : Val) (h : l.Perm (List.range x.length)) : (reindex l x).Perm x :=
  (h.map fun i => x.getD i 0).trans (.of_eq (reindex_range x))

theorem range_map_eq_selArr {α : Type} (l : List Nat) (n : Nat) (F F' : Nat → α) (z : α)
    (hF : ∀ k, k < l.length → F' k = F (l.getD k 0)) (hl : ∀ i ∈ l, i < n) :
    (List.range l.length).map F' = selArr l ((List.range n).map F) z := by
  unfold selArr
  conv => rhs; rw [← List.map_getD_range l 0, List.map_map]
  apply List.map_congr_left
  intro k hk
  have hk := List.mem_range.1 hk
  rw [hF k hk]
  exact (List.getD_range_map F z (hl _ (List.getD_mem_of_lt l 0 hk))).symm

theorem posIn_eq_idxOf : ∀ (l : List Nat) (g : Nat), posIn l g = l.idxOf g
  | [], _ => rfl
  | a :: r, g => by
    rw [posIn, List.idxOf_cons, posIn_eq_idxOf r g]
    by_cases h : a = g
    · rw [if_pos h, beq_iff_eq.2 h, cond_true]
    · rw [if_neg h, beq_eq_false_iff_ne.2 h, cond_false]

theorem posIn_lt (l : List Nat) (g : Nat) (h : g ∈ l) : posIn l g < l.length :=
  posIn_eq_idxOf l g ▸ List.idxOf_lt_length_of_mem h

theorem getD_posIn (l : List Nat) (g : Nat) (h : g ∈ l) : l.getD (posIn l g) 0 = g := by
  rw [posIn_eq_idxOf, List.getD_of_lt _ _ (List.idxOf_lt_length_of_mem h), List.getElem_idxOf]

theorem posIn_getD (l : List Nat) (j : Nat) (hn : l.Nodup) (hj : j < l.length) :
    posIn l (l.getD j 0) = j := by
  rw [posIn_eq_idxOf, List.getD_of_lt _ _ hj]
  exact hn.idxOf_getElem j hj

theorem reindex_getD_posIn (l : List Nat) (x : Val) (i : Nat) (hi : i ∈ l) :
    (reindex l x).getD (posIn l i) 0 = x.getD i 0 := by
  unfold reindex
  rw [List.getD_map_of_lt _ l 0 0 (posIn_lt l i hi), getD_posIn l i hi]

theorem posIn_eq_iff (l : List Nat) (hn : l.Nodup) (g j : Nat) (hg : g ∈ l) (hj : j < l.length) :
    posIn l g = j ↔ g = l.getD j 0 := by
  constructor
  · intro h; rw [← h, getD_posIn l g hg]
  · intro h; rw [h, posIn_getD l j hn hj]

theorem positions_to_elements (l : List Nat) (P : Nat → Bool) (f : Nat → Int) (Q : Nat → Bool) (f' : Nat → Int)
    (hQ : ∀ k, k < l.length → Q k = P (l.getD k 0)) (hf : ∀ k, k < l.length → f' k = f (l.getD k 0)) :
    ((List.range l.length).filter Q).map f' = (l.filter P).map f := by
  conv => rhs; rw [← List.map_getD_range l 0, List.filter_map, List.map_map]
  rw [List.filter_congr fun k hk => hQ k (List.mem_range.1 hk)]
  exact List.map_congr_left fun k hk => hf k (List.mem_range.1 (List.mem_filter.1 hk).1)

/-- `grp` is abstract because the groups are read off a declaration in one use and off a population
    in the other; `R` is the role test both uses filter by as well. -/
theorem kept_group_iff {n : Nat} {grp : Nat → Nat} {sel gsel : List Nat}
    (hlt : ∀ i ∈ sel, i < n) (hnd : gsel.Nodup) (hiff : ∀ i, i < n → (i ∈ sel ↔ grp i ∈ gsel))
    {j : Nat} (hj : j < gsel.length) (i : Nat) (R : Prop) :
    i ∈ sel ∧ posIn gsel (grp i) = j ∧ R ↔ i < n ∧ grp i = gsel.getD j 0 ∧ R := by
  constructor
  · rintro ⟨hi, hp, hR⟩
    exact ⟨hlt i hi, (posIn_eq_iff gsel hnd _ j ((hiff i (hlt i hi)).1 hi) hj).1 hp, hR⟩
  · rintro ⟨hi, hg, hR⟩
    have hin : grp i ∈ gsel := hg ▸ List.getD_mem_of_lt gsel 0 hj
    exact ⟨(hiff i hi).2 hin, (posIn_eq_iff gsel hnd _ j hin hj).2 hg, hR⟩

theorem filter_perm_of_iff {l l' : List Nat} (hl : l.Nodup) (hl' : l'.Nodup) {P P' : Nat → Bool}
    (h : ∀ i, (i ∈ l ∧ P i = true) ↔ (i ∈ l' ∧ P' i = true)) : (l.filter P).Perm (l'.filter P') := by
  rw [List.perm_ext_iff_of_nodup (hl.sublist List.filter_sublist) (hl'.sublist List.filter_sublist)]
  intro i
  rw [List.mem_filter, List.mem_filter]
  exact h i

end OFCore.Equivariance
