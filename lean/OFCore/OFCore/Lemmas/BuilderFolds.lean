import OFCore.Builder
/-! `mapE`, `foldE`, pointwise related lists (`All₂`), what stands behind an element of a list (`Behind`), association lists -/

namespace OFCore.Bld

variable {α α' β γ σ κ : Type}

inductive All₂ {α β : Type} (Rel : α → β → Prop) : List α → List β → Prop
  | nil : All₂ Rel [] []
  | cons {a : α} {b : β} {l : List α} {l' : List β} : Rel a b → All₂ Rel l l' → All₂ Rel (a :: l) (b :: l')

theorem All₂.length_eq {Rel : α → β → Prop} {l : List α} {l' : List β} (h : All₂ Rel l l') :
    l.length = l'.length := by
  induction h with
  | nil => rfl
  | cons _ _ ih => simp [ih]

theorem All₂.imp {R S : α → β → Prop} (h : ∀ a b, R a b → S a b) {l : List α} {l' : List β}
    (hall : All₂ R l l') : All₂ S l l' := by
  induction hall with
  | nil => exact .nil
  | cons hab _ ih => exact .cons (h _ _ hab) ih

theorem All₂.split {Rel : α → β → Prop} {l₁ : List α} {x : α} {l₂ : List α} {ys : List β}
    (h : All₂ Rel (l₁ ++ x :: l₂) ys) :
    ∃ ys₁ y ys₂, ys = ys₁ ++ y :: ys₂ ∧ All₂ Rel l₁ ys₁ ∧ Rel x y ∧ All₂ Rel l₂ ys₂ := by
  induction l₁ generalizing ys with
  | nil => cases h with | cons hxy hr => exact ⟨[], _, _, rfl, .nil, hxy, hr⟩
  | cons a l₁ ih =>
    cases h with
    | cons hab hr =>
      obtain ⟨ys₁, y, ys₂, rfl, h1, h2, h3⟩ := ih hr
      exact ⟨_ :: ys₁, y, ys₂, rfl, .cons hab h1, h2, h3⟩

theorem All₂.append {α β : Type} {Rel : α → β → Prop} {l₁ : List α} {l₁' : List β} {l₂ : List α} {l₂' : List β}
    (h₁ : All₂ Rel l₁ l₁') (h₂ : All₂ Rel l₂ l₂') : All₂ Rel (l₁ ++ l₂) (l₁' ++ l₂') := by
  induction h₁ with
  | nil => exact h₂
  | cons hab _ ih => exact .cons hab ih

theorem All₂.exists_left {Rel : α → β → Prop} {l : List α} {l' : List β} (h : All₂ Rel l l')
    {b : β} (hb : b ∈ l') : ∃ a ∈ l, Rel a b := by
  induction h with
  | nil => cases hb
  | @cons a b' _ _ hab _ ih =>
    rcases List.mem_cons.mp hb with rfl | hb
    · exact ⟨a, List.mem_cons_self, hab⟩
    · obtain ⟨a', ha', h'⟩ := ih hb
      exact ⟨a', List.mem_cons_of_mem _ ha', h'⟩

theorem All₂.exists_right {Rel : α → β → Prop} {l : List α} {l' : List β} (h : All₂ Rel l l')
    {a : α} (ha : a ∈ l) : ∃ b ∈ l', Rel a b := by
  obtain ⟨l₁, l₂, rfl⟩ := List.append_of_mem ha
  obtain ⟨ys₁, y, ys₂, rfl, _, hxy, _⟩ := h.split
  exact ⟨y, List.mem_append_right _ List.mem_cons_self, hxy⟩

theorem All₂.map_eq {Rel : α → β → Prop} (f : α → γ) (g : β → γ)
    (hfg : ∀ a b, Rel a b → f a = g b) {l : List α} {l' : List β} (h : All₂ Rel l l') : l.map f = l'.map g := by
  induction h with
  | nil => rfl
  | cons hab _ ih => rw [List.map_cons, List.map_cons, hfg _ _ hab, ih]

theorem All₂.any_eq {Rel : α → β → Prop} (f : α → Bool) (g : β → Bool)
    (hfg : ∀ a b, Rel a b → f a = g b) {l : List α} {l' : List β} (h : All₂ Rel l l') : l.any f = l'.any g := by
  simpa [List.any_map] using congrArg (List.any · id) (h.map_eq f g hfg)

theorem All₂.all_eq {Rel : α → β → Prop} (f : α → Bool) (g : β → Bool)
    (hfg : ∀ a b, Rel a b → f a = g b) {l : List α} {l' : List β} (h : All₂ Rel l l') : l.all f = l'.all g := by
  simpa [List.all_map] using congrArg (List.all · id) (h.map_eq f g hfg)

theorem All₂.flatMap_eq {Rel : α → β → Prop} (f : α → List γ) (g : β → List γ)
    (hfg : ∀ a b, Rel a b → f a = g b) {l : List α} {l' : List β} (h : All₂ Rel l l') :
    l.flatMap f = l'.flatMap g := by
  rw [List.flatMap_def, List.flatMap_def, h.map_eq f g hfg]

theorem All₂.filter {Rel : α → β → Prop} (f : α → Bool) (g : β → Bool)
    (hfg : ∀ a b, Rel a b → f a = g b) {l : List α} {l' : List β} (h : All₂ Rel l l') :
    All₂ Rel (l.filter f) (l'.filter g) := by
  induction h with
  | nil => exact .nil
  | @cons a b l l' hab _ ih =>
    simp only [List.filter_cons, hfg _ _ hab]
    cases g b with
    | true => exact .cons hab ih
    | false => exact ih

/-- `x` is the last element of `l` that may fail `N` -/
def Behind (N : α → Prop) (x : α) (l : List α) : Prop :=
  ∃ pre post, l = pre ++ x :: post ∧ ∀ y ∈ post, N y

theorem Behind.mem {N : α → Prop} {x : α} {l : List α} (h : Behind N x l) : x ∈ l := by
  obtain ⟨pre, post, rfl, _⟩ := h
  exact List.mem_append_right _ List.mem_cons_self

theorem Behind.all₂ {Rel : α → β → Prop} {N : α → Prop} {M : β → Prop} {x : α} {l : List α} {ys : List β}
    (h : Behind N x l) (hall : All₂ Rel l ys) (hM : ∀ x' ∈ l, ∀ y', Rel x' y' → N x' → M y') :
    ∃ y, Rel x y ∧ Behind M y ys := by
  obtain ⟨pre, post, rfl, hp⟩ := h
  obtain ⟨ys₁, y, ys₂, rfl, _, hxy, h2⟩ := All₂.split hall
  refine ⟨y, hxy, ys₁, ys₂, rfl, fun y' hy' => ?_⟩
  obtain ⟨x', hx', hr⟩ := h2.exists_left hy'
  exact hM x' (List.mem_append_right _ (List.mem_cons_of_mem _ hx')) y' hr (hp x' hx')

theorem Behind.map {N : α → Prop} {M : β → Prop} (g : α → β) {x : α} {l : List α} (h : Behind N x l)
    (hM : ∀ y ∈ l, N y → M (g y)) : Behind M (g x) (l.map g) := by
  obtain ⟨pre, post, rfl, hp⟩ := h
  refine ⟨pre.map g, post.map g, by rw [List.map_append, List.map_cons], fun y' hy' => ?_⟩
  obtain ⟨y, hy, rfl⟩ := List.mem_map.mp hy'
  exact hM y (List.mem_append_right _ (List.mem_cons_of_mem _ hy)) (hp y hy)

theorem Behind.filterMap {M : β → Prop} (f : α → Option β) {a : α} {b : β} {l : List α}
    (h : Behind (fun a' => ∀ b', f a' = some b' → M b') a l) (hab : f a = some b) : Behind M b (l.filterMap f) := by
  obtain ⟨pre, post, rfl, hp⟩ := h
  refine ⟨pre.filterMap f, post.filterMap f, by rw [List.filterMap_append, List.filterMap_cons, hab], ?_⟩
  intro b' hb'
  obtain ⟨a', ha', e⟩ := List.mem_filterMap.mp hb'
  exact hp a' ha' b' e

theorem Behind.flatten {M : α → Prop} {y : α} {l : List α} {ls : List (List α)}
    (h : Behind (fun l' => ∀ y' ∈ l', M y') l ls) (hl : Behind M y l) : Behind M y ls.flatten := by
  obtain ⟨pre, post, rfl, hp⟩ := h
  obtain ⟨a, b, rfl, hb⟩ := hl
  refine ⟨pre.flatten ++ a, b ++ post.flatten, by simp [List.flatten_append, List.append_assoc], ?_⟩
  intro y' hy'
  rcases List.mem_append.mp hy' with hy' | hy'
  · exact hb y' hy'
  · obtain ⟨l', hl', hm⟩ := List.mem_flatten.mp hy'
    exact hp l' hl' y' hm

theorem Behind.of_nodup_map (f : α → β) {x : α} {l : List α} (hnd : (l.map f).Nodup) (hx : x ∈ l) :
    Behind (fun y => f y ≠ f x) x l := by
  obtain ⟨pre, post, rfl⟩ := List.append_of_mem hx
  refine ⟨pre, post, rfl, fun y hy e => ?_⟩
  rw [List.map_append, List.map_cons, List.nodup_append] at hnd
  exact (List.nodup_cons.mp hnd.2.1).1 (e ▸ List.mem_map_of_mem hy)

theorem mapE_cons_ok {f : α → R β} {x : α} {xs : List α} {ys : List β}
    (h : mapE f (x :: xs) = .ok ys) : ∃ y ys', f x = .ok y ∧ mapE f xs = .ok ys' ∧ ys = y :: ys' := by
  unfold mapE at h
  split at h
  · cases h
  next y hy =>
    split at h
    · cases h
    next ys' hys => cases h; exact ⟨y, ys', hy, hys, rfl⟩

theorem mapE_ok_cons {f : α → R β} {x : α} {xs : List α} {y : β} {ys : List β}
    (hx : f x = .ok y) (hr : mapE f xs = .ok ys) : mapE f (x :: xs) = .ok (y :: ys) := by
  unfold mapE; rw [hx]; simp only [hr]

theorem mapE_forall₂ {f : α → R β} {l : List α} {ys : List β} (h : mapE f l = .ok ys) :
    All₂ (fun x y => f x = .ok y) l ys := by
  induction l generalizing ys with
  | nil => cases h; exact .nil
  | cons x xs ih =>
    obtain ⟨y, ys', hx, hr, rfl⟩ := mapE_cons_ok h
    exact .cons hx (ih hr)

theorem mapE_nil {α β : Type} (f : α → R β) : mapE f [] = .ok [] := rfl

theorem mapE_of_forall₂ {α β : Type} (f : α → R β) : ∀ (l : List α) (ys : List β),
    All₂ (fun x y => f x = .ok y) l ys → mapE f l = .ok ys := by
  intro l ys h
  induction h with
  | nil => rfl
  | cons hx _ ih => exact mapE_ok_cons hx ih

theorem mapE_length {f : α → R β} {l : List α} {ys : List β} (h : mapE f l = .ok ys) :
    ys.length = l.length := (All₂.length_eq (mapE_forall₂ h)).symm

theorem mapE_mem_ok {f : α → R β} {l : List α} {ys : List β} (h : mapE f l = .ok ys)
    {y : β} (hy : y ∈ ys) : ∃ x ∈ l, f x = .ok y := (mapE_forall₂ h).exists_left hy

theorem mapE_getElem? {f : α → R β} {l : List α} {ys : List β} (h : mapE f l = .ok ys)
    {i : Nat} {a : α} (ha : l[i]? = some a) : ∃ b, ys[i]? = some b ∧ f a = .ok b := by
  induction l generalizing ys i with
  | nil => cases ha
  | cons x xs ih =>
    obtain ⟨y, ys', hy, hys, rfl⟩ := mapE_cons_ok h
    cases i with
    | zero => cases ha; exact ⟨y, rfl, hy⟩
    | succ i => exact ih hys ha

theorem mapE_error {f : α → R β} (P : BErr → Prop) (hP : ∀ x e, f x = .error e → P e)
    {l : List α} {e : BErr} (h : mapE f l = .error e) : P e := by
  induction l generalizing e with
  | nil => cases h
  | cons x xs ih =>
    unfold mapE at h
    split at h
    next hx => cases h; exact hP x _ hx
    · split at h
      next hxs => cases h; exact ih hxs
      · cases h

theorem mapE_congr (f : α → R β) (g : α' → R β) (Rel : α → α' → Prop)
    (hfg : ∀ x y, Rel x y → f x = g y) (l : List α) (l' : List α') (h : All₂ Rel l l') :
    mapE f l = mapE g l' := by
  induction h with
  | nil => rfl
  | cons hab _ ih => unfold mapE; rw [hfg _ _ hab, ih]

theorem foldE_nil {α σ : Type} (f : σ → α → R σ) (s : σ) : foldE f s [] = .ok s := rfl

theorem foldE_cons_ok {f : σ → α → R σ} {s s' : σ} {x : α} {xs : List α}
    (h : foldE f s (x :: xs) = .ok s') : ∃ s₁, f s x = .ok s₁ ∧ foldE f s₁ xs = .ok s' := by
  unfold foldE at h
  split at h
  · cases h
  next s₁ h1 => exact ⟨s₁, h1, h⟩

theorem foldE_error {f : σ → α → R σ} (P : BErr → Prop) {l : List α} {s : σ} {e : BErr}
    (hP : ∀ s, ∀ x ∈ l, ∀ e, f s x = .error e → P e) (h : foldE f s l = .error e) : P e := by
  induction l generalizing s with
  | nil => cases h
  | cons x xs ih =>
    unfold foldE at h
    split at h
    next hx => cases h; exact hP s x List.mem_cons_self _ hx
    · exact ih (fun s y hy => hP s y (List.mem_cons_of_mem _ hy)) h

theorem foldE_inv {f : σ → α → R σ} (P : σ → Prop) {l : List α} {s s' : σ}
    (hstep : ∀ s s', ∀ x ∈ l, f s x = .ok s' → P s → P s') (h : foldE f s l = .ok s') (hs : P s) : P s' := by
  induction l generalizing s with
  | nil => cases h; exact hs
  | cons x xs ih =>
    obtain ⟨s₁, h1, h2⟩ := foldE_cons_ok h
    exact ih (fun a b y hy => hstep a b y (List.mem_cons_of_mem _ hy)) h2
      (hstep s s₁ x List.mem_cons_self h1 hs)

theorem foldE_split {f : σ → α → R σ} {pre : List α} {x : α} {post : List α} {s s' : σ}
    (h : foldE f s (pre ++ x :: post) = .ok s') :
    ∃ m m', foldE f s pre = .ok m ∧ f m x = .ok m' ∧ foldE f m' post = .ok s' := by
  induction pre generalizing s with
  | nil =>
    obtain ⟨m', hx, h2⟩ := foldE_cons_ok h
    exact ⟨s, m', rfl, hx, h2⟩
  | cons a pre ih =>
    obtain ⟨s₁, h1, h2⟩ := foldE_cons_ok h
    obtain ⟨m, m', hm, hx, hp⟩ := ih h2
    exact ⟨m, m', by unfold foldE; rw [h1]; exact hm, hx, hp⟩

theorem foldE_not_ok_of_mem {f : σ → α → R σ} {x : α}
    (hf : ∀ s s', f s x ≠ .ok s') {l : List α} (hx : x ∈ l) (s s' : σ) : foldE f s l ≠ .ok s' := by
  intro h
  obtain ⟨pre, post, rfl⟩ := List.append_of_mem hx
  obtain ⟨m, m', _, hm, _⟩ := foldE_split h
  exact hf m m' hm

theorem foldE_congr (f : σ → α → R σ) (g : σ → α' → R σ) (Rel : α → α' → Prop)
    (hfg : ∀ s x y, Rel x y → f s x = g s y) (l : List α) (l' : List α') (s : σ)
    (h : All₂ Rel l l') : foldE f s l = foldE g s l' := by
  induction h generalizing s with
  | nil => rfl
  | cons hab _ ih =>
    unfold foldE
    rw [hfg s _ _ hab]
    cases g s _ with
    | error e => rfl
    | ok s₁ => exact ih s₁

theorem foldl_inv (f : β → α → β) (P : β → Prop) (l : List α) (b : β)
    (hstep : ∀ b, ∀ a ∈ l, P b → P (f b a)) (h0 : P b) : P (l.foldl f b) := by
  induction l generalizing b with
  | nil => exact h0
  | cons a l ih =>
    exact ih _ (fun b a' ha' => hstep b a' (List.mem_cons_of_mem _ ha')) (hstep b a List.mem_cons_self h0)

theorem alGet_alSet [DecidableEq κ] (l : List (κ × β)) (k k' : κ) (v : β) :
    alGet (alSet l k v) k' = if k' = k then some v else alGet l k' := by
  induction l with
  | nil => simp only [alSet, alGet, eq_comm]
  | cons e r ih =>
    obtain ⟨k₀, v₀⟩ := e
    unfold alSet
    split
    · rename_i h0
      subst h0
      simp only [alGet, eq_comm]
      split <;> rfl
    · rename_i h0
      simp only [alGet, ih]
      split
      · rename_i h1; subst h1; rw [if_neg h0]
      · rfl

theorem alGet_alSet_same [DecidableEq κ] (l : List (κ × β)) (k : κ) (v : β) :
    alGet (alSet l k v) k = some v := by rw [alGet_alSet]; simp

theorem alGet_alSet_ne [DecidableEq κ] (l : List (κ × β)) (k k' : κ) (v : β) (h : k' ≠ k) :
    alGet (alSet l k v) k' = alGet l k' := by rw [alGet_alSet]; simp [h]

theorem alGet_map_snd [DecidableEq κ] (f : κ → β → β) (l : List (κ × β)) (k : κ) :
    alGet (l.map (fun e => (e.1, f e.1 e.2))) k = (alGet l k).map (f k) := by
  induction l with
  | nil => rfl
  | cons e r ih =>
    obtain ⟨k₀, v₀⟩ := e
    simp only [List.map_cons, alGet]
    by_cases h : k₀ = k
    · subst h; simp
    · simp [h, ih]

end OFCore.Bld
