import OFCore.Lemmas.HeapClone
import OFCore.PeriodSpec  -- for `DecidableEq (Except _ _)` in the `decide +kernel` examples of C13
namespace OFCore.Heap
open HM

def runAny {α : Type} : List (Side × HM α) → Heap → Heap
  | [], h => h
  | (_, m) :: rest, h => runAny rest (m h).2

def runAnySide {α : Type} : List (HM α) → Heap → Heap
  | [], h => h
  | m :: rest, h => runAnySide rest (m h).2

def resultsAnySide {α : Type} : List (HM α) → Heap → List (Except Err α)
  | [], _ => []
  | m :: rest, h => (m h).1 :: resultsAnySide rest (m h).2

def resultsAny {α : Type} (sd : Side) : List (Side × HM α) → Heap → List (Except Err α)
  | [], _ => []
  | (sd', m) :: rest, h => if sd' = sd then (m h).1 :: resultsAny sd rest (m h).2 else resultsAny sd rest (m h).2

def onSideAny {α : Type} (sd : Side) (e : Side × HM α) : Option (HM α) := if e.1 = sd then some e.2 else none

theorem observe_region {x : Id} {h1 h2 : Heap} (c : Closed x.reg h1) (e : h1[x.reg]? = h2[x.reg]?) :
    (observe x h1).1 = (observe x h2).1 := ((Loc.observe rfl).loc h1 h2 c e).1.symm

theorem InReg.refs {r : Nat} {o : Obj} (hin : InReg r o) : ∀ q ∈ o.refs, q.reg = r := by
  intro q hq
  cases o with
  | sim o =>
    simp only [Obj.refs, List.mem_cons, List.mem_append, List.mem_map, Option.mem_toList] at hq
    rcases hq with rfl | rfl | rfl | ⟨e, he, rfl⟩ | hd
    · exact hin.persons
    · exact hin.tracer
    · exact hin.inval
    · exact hin.pops e he
    · exact hin.dir q hd
  | pop o =>
    simp only [Obj.refs, List.mem_cons, List.mem_append, List.mem_map, Option.mem_toList] at hq
    rcases hq with rfl | ⟨e, he, rfl⟩ | hd
    · exact hin.popSim
    · exact hin.holders e he
    · exact hin.members q hd
  | holder o =>
    simp only [Obj.refs, List.mem_cons, Option.mem_toList] at hq
    rcases hq with rfl | rfl | rfl | hd
    · exact hin.pop
    · exact hin.holderSim
    · exact hin.mem
    · exact hin.disk q hd
  | store o => simp [Obj.refs] at hq
  | disk o =>
    simp only [Obj.refs, List.mem_singleton] at hq
    subst hq
    exact hin
  | dir o => simp [Obj.refs] at hq
  | tracer o => simp [Obj.refs] at hq
  | inval o => simp [Obj.refs] at hq

theorem reach_region {r : Nat} {h : Heap} (cl : Closed r h) (n : Nat) :
    ∀ roots : List Id, (∀ p ∈ roots, p.reg = r) → ∀ p ∈ reach h n roots, p.reg = r := by
  induction n with
  | zero => intro roots hr p hp; exact hr p hp
  | succ n ih =>
    intro roots hr p hp
    simp only [reach, List.mem_append] at hp
    rcases hp with hp | hp
    · exact hr p hp
    · refine ih _ ?_ p hp
      intro q hq
      simp only [List.mem_flatMap] at hq
      obtain ⟨a, ha, hqa⟩ := hq
      unfold refsOf at hqa
      cases hg : h.get? a with
      | none => rw [hg] at hqa; cases hqa
      | some o =>
        rw [hg] at hqa
        exact (cl.get (hr a ha) hg).refs q hqa

theorem reach_own {h : Heap} {x : Id} (cl : Closed x.reg h) (n : Nat) : ∀ p ∈ reach h n [x], p.reg = x.reg :=
  reach_region cl n [x] (List.forall_mem_singleton.mpr rfl)

/-- what is assumed of the simulation that gets cloned: its region is closed (everything it reaches is its
own), `persons` is the population listed under the person entity, that population has no `members` and is
bound to the simulation -/
structure WellFormed (h : Heap) (s : Id) : Prop where
  closed : Closed s.reg h
  listed : ∀ so, h.get? s = some (.sim so) → alGet so.pops 0 = some so.persons
  plain : ∀ so po m, h.get? s = some (.sim so) → h.get? so.persons = some (.pop po) → po.members = some m → False
  bound : ∀ so po, h.get? s = some (.sim so) → h.get? so.persons = some (.pop po) → po.sim = s

/-- memory-backed: no holder of the simulation's region has an on-disk storage and no temporary
directory has been made (`memory_config` unset, or set but not used yet) -/
structure MemoryBacked (h : Heap) (s : Id) : Prop where
  noDisk : NoDisk s.reg h
  noDir : ∀ so, h.get? s = some (.sim so) → so.dir = none

instance (o : Option Id) (P : Id → Prop) [DecidablePred P] : Decidable (∀ d, o = some d → P d) :=
  match o with
  | none => isTrue (fun _ e => by cases e)
  | some d => if h : P d then isTrue (fun _ e => by cases e; exact h) else isFalse (fun f => h (f d rfl))

instance (r : Nat) (o : Obj) : Decidable (InReg r o) := by
  cases o <;> unfold InReg <;> infer_instance

theorem Closed_iff (r : Nat) (h : Heap) : Closed r h ↔ ∀ o ∈ h[r]?.getD [], InReg r o := by
  unfold Closed
  simp only [get?_def]
  cases h[r]? with
  | none => simp
  | some l =>
    simp only [Option.bind_some, Option.getD_some]
    constructor
    · intro c o ho
      obtain ⟨i, hi, rfl⟩ := List.mem_iff_getElem.mp ho
      exact c i _ (List.getElem?_eq_getElem hi)
    · intro f i o hg
      exact f o (List.mem_of_getElem? hg)

instance (r : Nat) (h : Heap) : Decidable (Closed r h) := decidable_of_iff _ (Closed_iff r h).symm

def decAllOf {α : Type} (proj : Obj → Option α) (mk : α → Obj) (h : ∀ o a, proj o = some a ↔ o = mk a)
    (x : Option Obj) (P : α → Prop) [DecidablePred P] : Decidable (∀ a, x = some (mk a) → P a) :=
  match hx : x.bind proj with
  | none => isTrue fun a e => by rw [e, Option.bind_some, (h _ a).mpr rfl] at hx; cases hx
  | some a =>
    if hp : P a then isTrue fun b e => by rw [e, Option.bind_some, (h _ b).mpr rfl] at hx; cases hx; exact hp
    else isFalse fun f => hp (f a (by
      cases x with
      | none => cases hx
      | some o => rw [(h o a).mp hx]))

instance decAllSim (x : Option Obj) (P : SimObj → Prop) [DecidablePred P] : Decidable (∀ so, x = some (.sim so) → P so) :=
  decAllOf Obj.sim? .sim (fun _ _ => Obj.sim?_eq_some) x P

instance decAllPop (x : Option Obj) (P : PopObj → Prop) [DecidablePred P] : Decidable (∀ po, x = some (.pop po) → P po) :=
  decAllOf Obj.pop? .pop (fun _ _ => Obj.pop?_eq_some) x P

instance decAllHolder (x : Option Obj) (P : HolderObj → Prop) [DecidablePred P] :
    Decidable (∀ ho, x = some (.holder ho) → P ho) :=
  decAllOf Obj.holder? .holder (fun _ _ => Obj.holder?_eq_some) x P

def wellFormedB (h : Heap) (s : Id) : Bool :=
  decide (Closed s.reg h ∧ ∀ so, h.get? s = some (.sim so) → alGet so.pops 0 = some so.persons
    ∧ ∀ po, h.get? so.persons = some (.pop po) → po.members = none ∧ po.sim = s)

theorem WellFormed.ofB {h : Heap} {s : Id} (hb : wellFormedB h s = true) : WellFormed h s := by
  obtain ⟨c, f⟩ := of_decide_eq_true hb
  refine ⟨c, fun so hs => (f so hs).1, fun so po m hs hp hm => ?_, fun so po hs hp => ((f so hs).2 po hp).2⟩
  rw [((f so hs).2 po hp).1] at hm
  cases hm

def memoryBackedB (h : Heap) (s : Id) : Bool :=
  (h[s.reg]?.getD []).all (fun o => match o.holder? with | none => true | some ho => ho.disk.isNone)
  && match (h.get? s).bind Obj.sim? with
     | none => true
     | some so => so.dir.isNone

theorem MemoryBacked.ofB {h : Heap} {s : Id} (hb : memoryBackedB h s = true) : MemoryBacked h s := by
  unfold memoryBackedB at hb
  simp only [Bool.and_eq_true, List.all_eq_true] at hb
  obtain ⟨h1, h2⟩ := hb
  refine ⟨fun q ho hq hg => ?_, fun so hso => ?_⟩
  · obtain ⟨l, hl, hi⟩ := get?_eq_some.mp hg
    rw [hq] at hl
    rw [hl] at h1
    exact Option.isNone_iff_eq_none.mp (h1 _ (List.mem_of_getElem? hi))
  · simp only [hso, Option.bind_some, Obj.sim?] at h2
    exact Option.isNone_iff_eq_none.mp h2

theorem SimCloned.newRegion {s c : Id} {tr dbg : Bool} {h h' : Heap} (sc : SimCloned s c tr dbg h h')
    (hwf : WellFormed h s) (hmem : MemoryBacked h s) :
    ∀ i x, h'.get? ⟨c.reg, i⟩ = some x → InReg c.reg x ∧ ((⟨c.reg, i⟩ : Id) ≠ c →
      x.sim? = none ∧ ∀ ho, x = .holder ho → ho.disk = none) := by
  obtain ⟨so, _, _, _, _, a1, _, _, _, _, _, _, _, a9⟩ := sc.ex
  exact a9 hmem.noDisk (hmem.noDir so a1) fun po m => hwf.plain so po m a1

theorem clone_regions {h : Heap} {s : Id} {tr dbg : Bool} {h' : Heap} {c : Id} (hwf : WellFormed h s)
    (hmem : MemoryBacked h s) (hc : cloneSim s tr dbg h = (.ok c, h')) :
    s.reg ≠ c.reg ∧ Closed s.reg h' ∧ Closed c.reg h' := by
  have sc := cloneSim_spec hwf.closed hc
  exact ⟨by rw [sc.reg]; exact Nat.ne_of_lt sc.lt, hwf.closed.congr (sc.older sc.lt),
    fun i x hx => (sc.newRegion hwf hmem i x hx).1⟩

/-! The example of `Props/C13.lean`: three persons in two groups; an input, a person formula, a group sum, an eternal input,
a group formula and a person formula that depend on roles; the original has an input and a cached value when it is cloned. -/

def vd (e : Nat) (u : DUnit) (d : Int) (f : Option (Int × List Term)) : VarDecl :=
  { entity := e, defPeriod := u, dflt := d, formula := f }
def exSys : Sys := [vd 0 .month 0 none, vd 0 .month 5 (some (3, [⟨2, 0, .same, .same⟩])),
  vd 1 .month 0 (some (0, [⟨1, 0, .members, .same⟩])), vd 0 .eternity 7 none,
  vd 1 .month 0 (some (0, [⟨1, 0, .membersRole [2], .same⟩, ⟨10, 0, .nbPersons [3], .same⟩])),
  vd 0 .month 0 (some (0, [⟨1, 0, .hasRole 1 [2], .same⟩]))]
/-- person 0 holds the first flattened role, person 1 the role `r1` (2), person 2 the role `r2` (3); in the
first group the positions were assigned against the order of appearance -/
def exSpec : SimSpec :=
  { persons := 3, memConfig := none,
    groups := [{ entity := 1, count := 2, membersEntityId := [0, 0, 1], roles := some [0, 2, 3],
                 positions := some [1, 0, 0] }] }
def exM1 : Period := ⟨.month, ⟨2018, 1, 1⟩, 1⟩
def exM2 : Period := ⟨.month, ⟨2018, 2, 1⟩, 1⟩
def exS : Id := ⟨0, 0⟩
def exC : Id := ⟨1, 0⟩
def exH : Heap := runSide exSys 40 exS [.setInput 0 exM1 [1, 2, 3], .calculate 1 exM1] (build exSpec []).2
def exH' : Heap := (cloneSim exS false false exH).2
def exOps : List (Side × Op) :=
  [(.clone, .calculate 2 exM1), (.clone, .calculate 4 exM1), (.orig, .setInput 0 exM1 [4, 4, 4]),
   (.orig, .calculate 4 exM1), (.orig, .calculate 5 exM1), (.clone, .deleteArrays 0 none),
   (.orig, .calculate 1 exM2), (.clone, .setTrace true), (.clone, .calculate 3 exM2)]

/-- one person, one input variable, `MemoryConfig(max_memory_occupation=0)`: the input is stored on disk -/
def exDiskSys : Sys := [vd 0 .month 0 none]
def exDiskH : Heap := runSide exDiskSys 40 exS [.setInput 0 exM1 [1]] (build { persons := 1, groups := [], memConfig := some { priority := [] } } []).2
def exDiskH' : Heap := (cloneSim exS false false exDiskH).2

end OFCore.Heap
