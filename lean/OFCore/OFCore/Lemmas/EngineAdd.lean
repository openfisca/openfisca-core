import OFCore.Lemmas.EngineBasic
/-!
# The ADD option: the meaning of a summed read is the sum of the meanings of its pieces

`RuleSys.elabRead … add := true` elaborates `population(w, q, options=[ADD])` to a left-nested sum
`((n₀ + n₁) + n₂) + …` over the nodes of `q.get_subperiods(w.definition_period)`.  Its meaning is
the fold of the binary operation over the meanings of those nodes, in order.
-/
namespace OFCore.Engine

variable {P : Type}

theorem denE_foldl_op2 (sys : Sys P) (n o : Nat) {α : Type} (node : α → Expr P) (val : α → Val) :
    ∀ (ss : List α) (e0 : Expr P) (x0 : Val), denE sys n e0 = some (.ok x0) →
      (∀ s ∈ ss, denE sys n (node s) = some (.ok (val s))) →
      denE sys n (ss.foldl (fun acc s => .op2 o acc (node s)) e0)
        = some (.ok (ss.foldl (fun acc s => sys.f2 o acc (val s)) x0))
  | [], e0, x0, h0, _ => by simpa using h0
  | s :: ss, e0, x0, h0, hs => by
    simp only [List.foldl_cons]
    apply denE_foldl_op2 sys n o node val ss
    · exact denE_op2_some h0 (hs s (by simp))
    · intro t ht; exact hs t (by simp [ht])

variable [DecidableEq P]

theorem denE_foldl_op2_error (sys : Sys P) (n o : Nat) {α : Type} (node : α → Expr P) :
    ∀ (ss : List α) (e0 : Expr P) (er : Err), denE sys n e0 = some (.error er) →
      (∀ s ∈ ss, ∃ r, denE sys n (node s) = some r) →
      denE sys n (ss.foldl (fun acc s => .op2 o acc (node s)) e0) = some (.error er)
  | [], e0, er, h0, _ => by simpa using h0
  | s :: ss, e0, er, h0, hs => by
    simp only [List.foldl_cons]
    apply denE_foldl_op2_error sys n o node ss
    · exact denE_op2_error h0
    · intro t ht; exact hs t (by simp [ht])

end OFCore.Engine
