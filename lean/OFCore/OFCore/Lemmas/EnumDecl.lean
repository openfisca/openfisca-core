import OFCore.Lemmas.EnumLookup
/-!
A class body with aliases: `DeclInv` holds after every binding, hence of `declare`.
-/
namespace OFCore.EnumCodec

/-- what holds of the class under construction after the bindings `bs` -/
structure DeclInv (bs : List (String × Nat)) (st : DeclState) : Prop where
  nnd : st.names.Nodup
  vnd : st.values.Nodup
  len : st.values.length = st.names.length
  mnames : st.members.map Prod.fst = bs.map Prod.fst
  val : ∀ nm v, (nm, v) ∈ bs → ∃ i, (nm, i) ∈ st.members ∧ st.values[i]? = some v
  canon : ∀ p ∈ st.names.zipIdx, p ∈ st.members

theorem declInv_init : DeclInv [] {} :=
  ⟨List.nodup_nil, List.nodup_nil, rfl, rfl, by simp, by simp⟩

theorem DeclInv.sub {bs : List (String × Nat)} {st : DeclState} (h : DeclInv bs st) {nm : String}
    (hn : nm ∈ st.names) : nm ∈ bs.map Prod.fst := by
  obtain ⟨k, hk⟩ := List.getElem?_of_mem hn
  rw [← h.mnames]
  exact List.mem_map_of_mem (f := Prod.fst) (h.canon (nm, k) (List.mem_zipIdx_iff_getElem?.mpr hk))

theorem nodup_concat {α : Type} {l : List α} {a : α} (hl : l.Nodup) (ha : a ∉ l) : (l ++ [a]).Nodup :=
  List.nodup_append.mpr ⟨hl, List.pairwise_singleton _ _, fun _ hx _ hy hxy =>
    ha (List.mem_singleton.mp hy ▸ hxy ▸ hx)⟩

theorem getElem?_concat_of_some {α : Type} {l : List α} {a b : α} {k : Nat} (h : l[k]? = some b) :
    (l ++ [a])[k]? = some b := by
  rw [List.getElem?_append_left (List.getElem?_eq_some_iff.mp h).1]; exact h

theorem declInv_step {bs : List (String × Nat)} {st : DeclState} (h : DeclInv bs st) (b : String × Nat)
    (hb : b.1 ∉ bs.map Prod.fst) : DeclInv (bs ++ [b]) (declStep st b) := by
  obtain ⟨nm, v⟩ := b
  have hmn : ∀ i, (st.members ++ [(nm, i)]).map Prod.fst = (bs ++ [(nm, v)]).map Prod.fst := fun i => by
    rw [List.map_append, List.map_append, h.mnames]; rfl
  -- in both branches the name is given the index `i` of a member of value `v`, in a table `vs`
  -- that extends `st.values`
  have hval : ∀ (vs : List Nat) (i : Nat),
      (∀ (j : Nat) w, st.values[j]? = some w → vs[j]? = some w) → vs[i]? = some v →
      ∀ n w, (n, w) ∈ bs ++ [(nm, v)] → ∃ j, (n, j) ∈ st.members ++ [(nm, i)] ∧ vs[j]? = some w := by
    intro vs i hext hi n w hw
    rcases List.mem_append.mp hw with hw | hw
    · obtain ⟨j, hj, hjw⟩ := h.val n w hw
      exact ⟨j, List.mem_append_left _ hj, hext j w hjw⟩
    · cases List.mem_singleton.mp hw
      exact ⟨i, List.mem_append_right _ (List.mem_singleton_self _), hi⟩
  unfold declStep
  rw [valueIndex?_eq_findIdx?]
  cases hv : st.values.findIdx? (fun w => decide (w = v)) with
  | some i =>
    exact {
      nnd := h.nnd, vnd := h.vnd, len := h.len, mnames := hmn i
      val := hval _ i (fun _ _ hj => hj) (getElem?_of_findIdx?_eq hv)
      canon := fun p hp => List.mem_append_left _ (h.canon p hp) }
  | none =>
    exact {
      nnd := nodup_concat h.nnd fun hm => hb (h.sub hm)
      vnd := nodup_concat h.vnd (not_mem_of_findIdx?_eq_none hv)
      len := by rw [List.length_append, List.length_append, h.len]; rfl
      mnames := hmn _
      val := hval _ _ (fun _ _ => getElem?_concat_of_some) (h.len ▸ List.getElem?_concat_length)
      canon := fun p hp => by
        rw [List.zipIdx_append, Nat.zero_add] at hp
        rcases List.mem_append.mp hp with hp | hp
        · exact List.mem_append_left _ (h.canon p hp)
        · exact List.mem_append_right _ hp }

theorem declInv_foldl (bs : List (String × Nat)) :
    ∀ (bs0 : List (String × Nat)) (st : DeclState), DeclInv bs0 st → ((bs0 ++ bs).map Prod.fst).Nodup →
      DeclInv (bs0 ++ bs) (bs.foldl declStep st) := by
  induction bs with
  | nil => intro bs0 st h _; rw [List.append_nil]; exact h
  | cons b bs ih =>
    intro bs0 st h hnd
    rw [List.append_cons] at hnd ⊢
    have hb : b.1 ∉ bs0.map Prod.fst := fun hm => by
      rw [List.map_append, List.map_append] at hnd
      exact (List.nodup_append.mp (List.nodup_append.mp hnd).1).2.2 _ hm b.1
        (List.mem_singleton_self _) rfl
    exact ih (bs0 ++ [b]) (declStep st b) (declInv_step h b hb) hnd

theorem declInv_declare (bs : List (String × Nat)) (hnd : (bs.map Prod.fst).Nodup) :
    DeclInv bs (declare bs) :=
  declInv_foldl bs [] {} declInv_init hnd

theorem find?_fst_of_mem {l : List (String × Nat)} (h : (l.map Prod.fst).Nodup) {a : String} {x : Nat}
    (hx : (a, x) ∈ l) : l.find? (fun m => m.1 = a) = some (a, x) := by
  induction l with
  | nil => cases hx
  | cons p ps ih =>
    rw [List.map_cons, List.nodup_cons] at h
    rcases List.mem_cons.mp hx with rfl | hx
    · exact List.find?_cons_of_pos (decide_eq_true rfl)
    · have hp : p.1 ≠ a := fun hp => h.1 (hp ▸ List.mem_map_of_mem (f := Prod.fst) hx)
      rw [List.find?_cons_of_neg (by simpa using hp)]
      exact ih h.2 hx

theorem memberOf?_of_mem {bs : List (String × Nat)} (hnd : (bs.map Prod.fst).Nodup) {nm : String} {i : Nat}
    (h : (nm, i) ∈ (declare bs).members) : memberOf? bs nm = some i := by
  have hmnd : ((declare bs).members.map Prod.fst).Nodup := (declInv_declare bs hnd).mnames ▸ hnd
  rw [memberOf?, find?_fst_of_mem hmnd h]
  rfl

end OFCore.EnumCodec
