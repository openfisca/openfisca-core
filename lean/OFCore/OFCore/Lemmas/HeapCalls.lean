import OFCore.Lemmas.HeapLocal
/-!
# `step` and `observe` of `Heap.lean`, and every operation they are made of, applied to a simulation of region `r`, are
`LocI I r` (the other read observations and the clone functions are not treated here): each proof composes the rules of
`LocI` along the `do`-block, keeping track of which ids are of region `r`.
What only reads is so for every `I`; what assigns, for every `Stable` one; what may make a holder needs to be told what
`createDisk` does under `I` (`cd`), the one operation whose effect depends on the invariant.
-/
namespace OFCore.Heap
open HM

section
variable {I : Heap → Prop} {r : Nat}

theorem LocI.ofOption {α : Type} {Q : α → Prop} (e : Err) (x : Option α) (hq : ∀ a, x = some a → Q a) :
    LocI I r (ofOption e x) Q := by
  cases x with
  | none => exact LocI.fail e
  | some a => exact LocI.pure a (hq a rfl)

theorem LocI.ofPeriod {α : Type} {Q : α → Prop} (x : Except String α) (hq : ∀ a, x = .ok a → Q a) :
    LocI I r (ofPeriod x) Q := by
  cases x with
  | error _ => exact LocI.fail _
  | ok a => exact LocI.pure a (hq a rfl)

theorem LocI.rdAs {α : Type} {proj : Obj → Option α} {Q : α → Prop} {p : Id} (hp : p.reg = r)
    (hq : ∀ o a, InReg r o → proj o = some a → Q a) : LocI I r (do HM.ofOption .bad (proj (← Heap.rd p))) Q :=
  LocI.bind (LocI.rd hp) fun o ho => LocI.ofOption _ _ fun a ha => hq o a ho ha

theorem LocI.rdSim {p : Id} (hp : p.reg = r) : LocI I r (rdSim p) (fun o => InReg r (.sim o)) :=
  LocI.rdAs hp fun _ _ ho ha => Obj.sim?_eq_some.mp ha ▸ ho

theorem LocI.rdPop {p : Id} (hp : p.reg = r) : LocI I r (rdPop p) (fun o => InReg r (.pop o)) :=
  LocI.rdAs hp fun _ _ ho ha => Obj.pop?_eq_some.mp ha ▸ ho

theorem LocI.rdHolder {p : Id} (hp : p.reg = r) : LocI I r (rdHolder p) (fun o => InReg r (.holder o)) :=
  LocI.rdAs hp fun _ _ ho ha => Obj.holder?_eq_some.mp ha ▸ ho

theorem LocI.rdDisk {p : Id} (hp : p.reg = r) : LocI I r (rdDisk p) (fun o => InReg r (.disk o)) :=
  LocI.rdAs hp fun _ _ ho ha => Obj.disk?_eq_some.mp ha ▸ ho

theorem LocI.rdStore {p : Id} (hp : p.reg = r) : LocI I r (rdStore p) (fun _ => True) :=
  LocI.rdAs hp fun _ _ _ _ => trivial

theorem LocI.rdDir {p : Id} (hp : p.reg = r) : LocI I r (rdDir p) (fun _ => True) :=
  LocI.rdAs hp fun _ _ _ _ => trivial

theorem LocI.rdTracer {p : Id} (hp : p.reg = r) : LocI I r (rdTracer p) (fun _ => True) :=
  LocI.rdAs hp fun _ _ _ _ => trivial

theorem LocI.rdInval {p : Id} (hp : p.reg = r) : LocI I r (rdInval p) (fun _ => True) :=
  LocI.rdAs hp fun _ _ _ _ => trivial

theorem LocI.varDecl (sys : Sys) (v : Var) : LocI I r (varDecl sys v) (fun _ => True) :=
  LocI.ofOption _ _ fun _ _ => trivial

theorem LocI.popOf {so : SimObj} (hso : InReg r (.sim so)) (ent : Nat) :
    LocI I r (HM.ofOption .value (alGet so.pops ent)) (fun pid => pid.reg = r) :=
  LocI.ofOption _ _ fun _ ha => hso.pops _ (alGet_mem ha)

theorem LocI.membersOf {po : PopObj} (hpo : InReg r (.pop po)) :
    LocI I r (HM.ofOption .value po.members) (fun mid => mid.reg = r) :=
  LocI.ofOption _ _ hpo.members

theorem LocI.mapMH {α β : Type} {f : α → HM β} (l : List α)
    (hf : ∀ a ∈ l, LocI I r (f a) (fun _ => True)) : LocI I r (mapMH f l) (fun _ => True) := by
  induction l with
  | nil => exact LocI.pure _ trivial
  | cons a t ih =>
    unfold Heap.mapMH
    refine LocI.bind (hf a (List.mem_cons_self ..)) fun b _ => ?_
    refine LocI.bind (ih fun x hx => hf x (List.mem_cons_of_mem _ hx)) fun bs _ => ?_
    exact LocI.pure _ trivial

theorem LocI.diskFind {d : DiskObj} (hd : InReg r (.disk d)) (p : Period) :
    LocI I r (diskFind d p) (fun _ => True) := by
  unfold Heap.diskFind
  refine LocI.ite (fun _ => ?_) (fun _ => LocI.pure _ trivial)
  refine LocI.bind (LocI.rdDir hd) fun dir _ => ?_
  split
  · exact LocI.pure _ trivial
  · exact LocI.fail _

theorem LocI.diskLookup {disk : Option Id} (hd : ∀ d, disk = some d → d.reg = r) (p : Period) :
    LocI I r (diskLookup disk p) (fun _ => True) := by
  unfold Heap.diskLookup
  cases disk with
  | none => exact LocI.pure _ trivial
  | some did => exact LocI.bind (LocI.rdDisk (hd did rfl)) fun d hdo => LocI.diskFind hdo p

theorem LocI.holderFind {ho : HolderObj} (hho : InReg r (.holder ho)) (p : Period) :
    LocI I r (holderFind ho p) (fun _ => True) := by
  unfold Heap.holderFind
  refine LocI.bind (LocI.rdStore hho.mem) fun st _ => ?_
  split
  · exact LocI.pure _ trivial
  · exact LocI.diskLookup hho.disk p

theorem LocI.diskPeriods {disk : Option Id} (hd : ∀ d, disk = some d → d.reg = r) :
    LocI I r (diskPeriods disk) (fun _ => True) := by
  unfold Heap.diskPeriods
  cases disk with
  | none => exact LocI.pure _ trivial
  | some did => exact LocI.bind (LocI.rdDisk (hd did rfl)) fun d _ => LocI.pure _ trivial

theorem LocI.knownPeriods {ho : HolderObj} (hho : InReg r (.holder ho)) :
    LocI I r (knownPeriods ho) (fun _ => True) := by
  unfold Heap.knownPeriods
  refine LocI.bind (LocI.rdStore hho.mem) fun st _ => ?_
  exact LocI.bind (LocI.diskPeriods hho.disk) fun _ _ => LocI.pure _ trivial

theorem LocI.holderKnown {ho : HolderObj} (hho : InReg r (.holder ho)) :
    LocI I r (holderKnown ho) (fun _ => True) := by
  unfold Heap.holderKnown
  refine LocI.bind (LocI.knownPeriods hho) fun ps _ => ?_
  exact LocI.mapMH ps fun p _ => LocI.bind (LocI.holderFind hho p) fun _ _ => LocI.pure _ trivial

theorem LocI.holderDefault (sys : Sys) {ho : HolderObj} (hho : InReg r (.holder ho)) :
    LocI I r (holderDefault sys ho) (fun _ => True) := by
  unfold Heap.holderDefault
  refine LocI.bind (LocI.varDecl sys _) fun decl _ => ?_
  exact LocI.bind (LocI.rdPop hho.pop) fun po _ => LocI.pure _ trivial

theorem LocI.transformPeriod (pt : PT) (p : Period) : LocI I r (transformPeriod pt p) (fun _ => True) := by
  cases pt with
  | same => exact LocI.pure _ trivial
  | lastMonth => exact LocI.ofPeriod _ fun _ _ => trivial

theorem LocI.routePop {x : Id} (hx : x.reg = r) (rt : Route) (ent : Nat) :
    LocI I r (routePop x rt ent) (fun pid => pid.reg = r) := by
  unfold Heap.routePop
  refine LocI.bind (LocI.rdSim hx) fun so hso => ?_
  cases rt with
  | persons => exact LocI.pure _ hso.persons
  | _ => exact LocI.popOf hso _

theorem LocI.observeHolder (x pid : Id) {e : Var × Id} (he : e.2.reg = r) :
    LocI I r (observeHolder x pid e) (fun _ => True) := by
  unfold Heap.observeHolder
  refine LocI.bind (LocI.rdHolder he) fun ho hho => ?_
  exact LocI.bind (LocI.holderKnown hho) fun _ _ => LocI.pure _ trivial

theorem LocI.observePop (x persons : Id) {e : Nat × Id} (he : e.2.reg = r) :
    LocI I r (observePop x persons e) (fun _ => True) := by
  unfold Heap.observePop
  refine LocI.bind (LocI.rdPop he) fun po hpo => ?_
  refine LocI.bind (LocI.mapMH _ fun a ha => LocI.observeHolder x e.2 (hpo.holders a ha)) fun _ _ => ?_
  exact LocI.pure _ trivial

theorem LocI.routeOwn {x : Id} (hx : x.reg = r) (rt : Route) (ent : Nat) :
    LocI I r (routeOwn x rt ent) (fun _ => True) := by
  unfold Heap.routeOwn
  refine LocI.bind (LocI.routePop hx rt ent) fun pid hpid => ?_
  exact LocI.bind (LocI.rdPop hpid) fun po _ => LocI.pure _ trivial

theorem LocI.observeRoutes {x : Id} (hx : x.reg = r) (e : Nat × Id) :
    LocI I r (observeRoutes x e) (fun _ => True) := by
  unfold Heap.observeRoutes
  refine LocI.bind (LocI.routeOwn hx _ _) fun a _ => ?_
  refine LocI.bind (LocI.routeOwn hx _ _) fun b _ => ?_
  exact LocI.bind (LocI.routeOwn hx _ _) fun c _ => LocI.pure _ trivial

theorem LocI.observe {x : Id} (hx : x.reg = r) : LocI I r (observe x) (fun _ => True) := by
  unfold Heap.observe
  refine LocI.bind (LocI.rdSim hx) fun so hso => ?_
  refine LocI.bind (LocI.rdTracer hso.tracer) fun tr _ => ?_
  refine LocI.bind (LocI.rdInval hso.inval) fun inv _ => ?_
  refine LocI.bind (LocI.mapMH _ fun a ha => LocI.observePop x so.persons (hso.pops a ha)) fun _ _ => ?_
  refine LocI.bind (LocI.mapMH _ fun a _ => LocI.observeRoutes hx a) fun _ _ => ?_
  exact LocI.bind (LocI.routeOwn hx _ _) fun _ _ => LocI.pure _ trivial

theorem LocI.evalTerm (sys : Sys) {rec : Id → Var → Period → HM Vec} (hrec : LocI.Rec I r rec)
    {pid : Id} (hp : pid.reg = r) (ent : Nat) (p : Period) (t : Term) :
    LocI I r (evalTerm sys rec pid ent p t) (fun _ => True) := by
  unfold Heap.evalTerm
  refine LocI.bind (LocI.transformPeriod _ _) fun p' _ => ?_
  refine LocI.bind (LocI.varDecl sys _) fun ddecl _ => ?_
  refine LocI.bind (LocI.rdPop hp) fun po hpo => ?_
  cases t.via with
  | same => exact LocI.ite (fun _ => LocI.fail _) fun _ => hrec _ _ _ hpo.popSim
  | enumIs k =>
    simp only
    refine LocI.ite (fun _ => LocI.fail _) fun _ => ?_
    exact LocI.bind (hrec _ _ _ hpo.popSim) fun a _ => LocI.pure _ trivial
  | members =>
    simp only
    refine LocI.bind (LocI.membersOf hpo) fun mid hmid => ?_
    refine LocI.bind (LocI.rdPop hmid) fun mo hmo => ?_
    refine LocI.ite (fun _ => LocI.fail _) fun _ => ?_
    refine LocI.bind (hrec _ _ _ hmo.popSim) fun a _ => ?_
    exact LocI.ite (fun _ => LocI.fail _) fun _ => LocI.pure _ trivial
  | project =>
    simp only
    refine LocI.bind (LocI.rdSim hpo.popSim) fun so hso => ?_
    refine LocI.bind (LocI.popOf hso _) fun gid hgid => ?_
    refine LocI.ite (fun _ => LocI.fail _) fun _ => ?_
    refine LocI.bind (LocI.rdPop hgid) fun go hgo => ?_
    refine LocI.bind (hrec _ _ _ hgo.popSim) fun a _ => ?_
    exact LocI.ite (fun _ => LocI.fail _) fun _ => LocI.ofOption _ _ fun _ _ => trivial
  | membersRole role =>
    simp only
    refine LocI.bind (LocI.membersOf hpo) fun mid hmid => ?_
    refine LocI.bind (LocI.rdPop hmid) fun mo hmo => ?_
    refine LocI.ite (fun _ => LocI.fail _) fun _ => ?_
    refine LocI.bind (hrec _ _ _ hmo.popSim) fun a _ => ?_
    refine LocI.ite (fun _ => LocI.fail _) fun _ => ?_
    refine LocI.bind (LocI.rdSim hmo.popSim) fun so hso => ?_
    refine LocI.bind (LocI.popOf hso _) fun gid hgid => ?_
    refine LocI.bind (LocI.rdPop hgid) fun go _ => ?_
    exact LocI.ite (fun _ => LocI.fail _) fun _ => LocI.pure _ trivial
  | nbPersons role =>
    simp only
    exact LocI.ite (fun _ => LocI.fail _) fun _ => LocI.pure _ trivial
  | hasRole g role =>
    simp only
    refine LocI.bind (LocI.rdSim hpo.popSim) fun so hso => ?_
    refine LocI.bind (LocI.popOf hso _) fun gid hgid => ?_
    exact LocI.bind (LocI.rdPop hgid) fun go _ => LocI.pure _ trivial
  | param => exact LocI.pure _ trivial
  | nth k =>
    simp only
    refine LocI.bind (LocI.membersOf hpo) fun mid hmid => ?_
    refine LocI.bind (LocI.rdPop hmid) fun mo hmo => ?_
    refine LocI.ite (fun _ => LocI.fail _) fun _ => ?_
    refine LocI.bind (hrec _ _ _ hmo.popSim) fun a _ => ?_
    refine LocI.ite (fun _ => LocI.fail _) fun _ => ?_
    exact LocI.ite (fun _ => LocI.fail _) fun _ => LocI.ofOption _ _ fun _ _ => trivial

theorem LocI.evalTerms (sys : Sys) {rec : Id → Var → Period → HM Vec} (hrec : LocI.Rec I r rec)
    {pid : Id} (hp : pid.reg = r) (ent : Nat) (p : Period) (ts : List Term) (acc : Vec) :
    LocI I r (evalTerms sys rec pid ent p ts acc) (fun _ => True) := by
  induction ts generalizing acc with
  | nil => exact LocI.pure _ trivial
  | cons t rest ih =>
    unfold Heap.evalTerms
    refine LocI.bind (LocI.evalTerm sys hrec hp ent p t) fun a _ => ?_
    exact LocI.ite (fun _ => LocI.fail _) fun _ => ih _

theorem LocI.formulaValue (sys : Sys) {rec : Id → Var → Period → HM Vec} (hrec : LocI.Rec I r rec)
    (p : Period) (decl : VarDecl) {pid : Id} (hp : pid.reg = r) {ho : HolderObj} (hho : InReg r (.holder ho)) :
    LocI I r (formulaValue sys rec p decl pid ho) (fun _ => True) := by
  unfold Heap.formulaValue
  cases decl.formula with
  | none => exact LocI.holderDefault sys hho
  | some ct =>
    refine LocI.ite (fun _ => LocI.fail _) fun _ => ?_
    exact LocI.bind (LocI.rdPop hp) fun po _ => LocI.evalTerms sys hrec hp _ _ _ _

variable {Disk : Option Id → Prop} (S : Stable r I Disk)
include S

theorem LocI.diskInsert {did : Id} (hd : did.reg = r) (v : Vec) (p : Period) :
    LocI I r (diskInsert did v p) (fun _ => True) := by
  unfold Heap.diskInsert
  refine LocI.bind (LocI.rdDisk hd) fun d hdo => ?_
  refine LocI.bind (LocI.rdDir hdo) fun dir _ => ?_
  refine LocI.bind (LocI.wrLeaf S hdo trivial) fun _ _ => ?_
  exact LocI.wrLeaf S hd hdo

theorem LocI.diskRemove {did : Id} (hd : did.reg = r) (p : Option Period) :
    LocI I r (diskRemove did p) (fun _ => True) := by
  unfold Heap.diskRemove
  refine LocI.bind (LocI.rdDisk hd) fun d hdo => ?_
  cases p with
  | none => exact LocI.wrLeaf S hd hdo
  | some p =>
    refine LocI.bind (LocI.ofPeriod _ fun _ _ => trivial) fun l _ => ?_
    exact LocI.wrLeaf S hd hdo

theorem LocI.holderSet (sys : Sys) {ho : HolderObj} (hho : InReg r (.holder ho)) (p : Period) (v : Vec) :
    LocI I r (holderSet sys ho p v) (fun _ => True) := by
  unfold Heap.holderSet
  refine LocI.bind (LocI.varDecl sys _) fun decl _ => ?_
  refine LocI.bind (LocI.rdPop hho.pop) fun po _ => ?_
  refine LocI.ite (fun _ => LocI.fail _) fun _ => ?_
  refine LocI.ite (fun _ => LocI.fail _) fun _ => ?_
  refine LocI.bind (LocI.rdStore hho.mem) fun st _ => ?_
  cases hd : ho.disk with
  | none => exact LocI.wrLeaf S hho.mem trivial
  | some did =>
    simp only
    split
    · exact LocI.wrLeaf S hho.mem trivial
    · refine LocI.bind (LocI.rdSim hho.holderSim) fun so _ => ?_
      split
      · exact LocI.fail _
      · exact LocI.diskInsert S (hho.disk did hd) v p

theorem LocI.putInCache (sys : Sys) {ho : HolderObj} (hho : InReg r (.holder ho)) (p : Period) (v : Vec) :
    LocI I r (putInCache sys ho p v) (fun _ => True) := by
  unfold Heap.putInCache
  refine LocI.ite (fun _ => LocI.pure _ trivial) fun _ => ?_
  refine LocI.bind (LocI.rdSim hho.holderSim) fun so _ => ?_
  refine LocI.bind (LocI.varDecl sys _) fun decl _ => ?_
  exact LocI.ite (fun _ => LocI.pure _ trivial) fun _ => LocI.holderSet S sys hho p v

theorem LocI.holderDelete {ho : HolderObj} (hho : InReg r (.holder ho)) (p : Option Period) :
    LocI I r (holderDelete ho p) (fun _ => True) := by
  unfold Heap.holderDelete
  refine LocI.bind (LocI.rdStore hho.mem) fun st _ => ?_
  refine LocI.bind (LocI.ofPeriod _ fun _ _ => trivial) fun st' _ => ?_
  refine LocI.bind (LocI.wrLeaf S hho.mem trivial) fun _ _ => ?_
  cases hd : ho.disk with
  | none => exact LocI.pure _ trivial
  | some did => exact LocI.diskRemove S (hho.disk did hd) p

theorem LocI.dispatchOne (sys : Sys) {ho : HolderObj} (hho : InReg r (.holder ho)) (a : Vec) (sub : Period) :
    LocI I r (dispatchOne sys ho a sub) (fun _ => True) := by
  unfold Heap.dispatchOne
  refine LocI.bind (LocI.holderFind hho sub) fun found _ => ?_
  cases found with
  | some _ => exact LocI.pure _ trivial
  | none => exact LocI.holderSet S sys hho sub a

theorem LocI.dispatchLoop (sys : Sys) {ho : HolderObj} (hho : InReg r (.holder ho)) (a : Vec) (after : Date) :
    ∀ (n : Nat) (sub : Period), LocI I r (dispatchLoop sys ho a after n sub) (fun _ => True) := by
  intro n
  induction n with
  | zero => intro sub; exact LocI.fail _
  | succ n ih =>
    intro sub
    unfold Heap.dispatchLoop
    refine LocI.ite (fun _ => ?_) fun _ => LocI.pure _ trivial
    refine LocI.bind (LocI.dispatchOne S sys hho a sub) fun _ _ => ?_
    exact LocI.bind (LocI.ofPeriod _ fun _ _ => trivial) fun nxt _ => ih nxt

theorem LocI.dispatchInput (sys : Sys) {ho : HolderObj} (hho : InReg r (.holder ho)) (decl : VarDecl)
    (p : Period) (a : Vec) : LocI I r (dispatchInput sys ho decl p a) (fun _ => True) := by
  unfold Heap.dispatchInput
  refine LocI.bind (LocI.rdPop hho.pop) fun po _ => ?_
  refine LocI.ite (fun _ => LocI.fail _) fun _ => ?_
  refine LocI.ite (fun _ => LocI.fail _) fun _ => ?_
  refine LocI.bind (LocI.ofPeriod _ fun _ _ => trivial) fun after _ => ?_
  cases after with
  | none => exact LocI.fail _
  | some af => exact LocI.dispatchLoop S sys hho a af _ _

theorem LocI.checkForCycle {x : Id} (hx : x.reg = r) (v : Var) (p : Period) :
    LocI I r (checkForCycle x v p) (fun _ => True) := by
  unfold Heap.checkForCycle
  refine LocI.bind (LocI.rdSim hx) fun so hso => ?_
  refine LocI.bind (LocI.rdTracer hso.tracer) fun tr _ => ?_
  refine LocI.ite (fun _ => LocI.fail _) fun _ => ?_
  refine LocI.ite (fun _ => ?_) fun _ => LocI.pure _ trivial
  refine LocI.bind (LocI.rdInval hso.inval) fun inv _ => ?_
  exact LocI.bind (LocI.wrLeaf S hso.inval trivial) fun _ _ => LocI.fail _

theorem LocI.tracerStart {x : Id} (hx : x.reg = r) (v : Var) (p : Period) :
    LocI I r (tracerStart x v p) (fun _ => True) := by
  unfold Heap.tracerStart
  refine LocI.bind (LocI.rdSim hx) fun so hso => ?_
  refine LocI.bind (LocI.rdTracer hso.tracer) fun tr _ => ?_
  exact LocI.wrLeaf S hso.tracer trivial

theorem LocI.tracerEnd {x : Id} (hx : x.reg = r) : LocI I r (tracerEnd x) (fun _ => True) := by
  unfold Heap.tracerEnd
  refine LocI.bind (LocI.rdSim hx) fun so hso => ?_
  refine LocI.bind (LocI.rdTracer hso.tracer) fun tr _ => ?_
  exact LocI.wrLeaf S hso.tracer trivial

theorem LocI.invalidateEntry {x : Id} (hx : x.reg = r) (v : Var) (p : Period) :
    LocI I r (invalidateEntry x v p) (fun _ => True) := by
  unfold Heap.invalidateEntry
  refine LocI.bind (LocI.rdSim hx) fun so hso => ?_
  exact LocI.bind (LocI.rdInval hso.inval) fun inv _ => LocI.wrLeaf S hso.inval trivial

theorem LocI.taintOnHit {x : Id} (hx : x.reg = r) (v : Var) (p : Period) (et : Bool) :
    LocI I r (taintOnHit x v p et) (fun _ => True) := by
  unfold Heap.taintOnHit
  refine LocI.bind (LocI.rdSim hx) fun so hso => ?_
  refine LocI.bind (LocI.rdInval hso.inval) fun inv _ => ?_
  refine LocI.ite (fun _ => ?_) fun _ => LocI.pure _ trivial
  exact LocI.bind (LocI.rdTracer hso.tracer) fun tr _ => LocI.wrLeaf S hso.inval trivial

theorem LocI.setTrace {x : Id} (hx : x.reg = r) (b : Bool) : LocI I r (setTrace x b) (fun _ => True) := by
  subst hx
  unfold Heap.setTrace
  refine LocI.bind (LocI.new S trivial rfl rfl (fun _ e => by cases e)) fun t ht => ?_
  exact LocI.updSim S rfl (fun so hso => ⟨hso.persons, hso.pops, ht, hso.inval, hso.dir⟩) (fun _ => rfl) (fun _ => rfl)
    (fun _ => rfl) (fun _ => rfl)

theorem LocI.computeAndStore (sys : Sys) {rec : Id → Var → Period → HM Vec} (hrec : LocI.Rec I r rec)
    {x : Id} (hx : x.reg = r) (v : Var) (p : Period) (decl : VarDecl) {pid : Id} (hp : pid.reg = r)
    {ho : HolderObj} (hho : InReg r (.holder ho)) :
    LocI I r (computeAndStore sys rec x v p decl pid ho) (fun _ => True) := by
  unfold Heap.computeAndStore
  refine LocI.bind (LocI.checkForCycle S hx v p) fun _ _ => ?_
  refine LocI.bind (LocI.formulaValue sys hrec p decl hp hho) fun a _ => ?_
  exact LocI.bind (LocI.putInCache S sys hho p a) fun _ _ => LocI.pure _ trivial

variable (cd : ∀ {sid : Id}, sid.reg = r → ∀ (v : Var) (eternal : Bool), LocI I r (createDisk r sid v eternal) Disk)
include cd

theorem LocI.createHolder (sys : Sys) {pid : Id} (hp : pid.reg = r) (v : Var) :
    LocI I r (createHolder sys r pid v) (fun x => x.1.reg = r ∧ InReg r (.holder x.2)) := by
  unfold Heap.createHolder
  refine LocI.bind (LocI.varDecl sys v) fun decl _ => ?_
  refine LocI.bind (LocI.rdPop hp) fun po hpo => ?_
  refine LocI.bind (LocI.new S trivial rfl rfl (fun _ e => by cases e)) fun mem hmem => ?_
  refine LocI.bind (cd hpo.popSim v _) fun disk hdisk => ?_
  refine LocI.bind (LocI.rdSim hpo.popSim) fun so _ => ?_
  generalize (match so.memConfig with | none => false | some mc => decide (v ∈ mc.drop)) = ns
  have hho : InReg r (.holder ⟨v, pid, po.sim, mem, disk, ns⟩) := ⟨hp, hpo.popSim, hmem, S.disk_reg hdisk⟩
  refine LocI.bind (LocI.new S hho rfl rfl (fun x e => by cases e; exact hdisk)) fun hid hhid => ?_
  refine LocI.bind (LocI.updPop S hp (fun po2 hpo2 => ?_) (fun _ => rfl) (fun _ => rfl)) fun _ _ => LocI.pure _ ⟨hhid, hho⟩
  refine ⟨hpo2.popSim, fun e he => ?_, hpo2.members⟩
  rcases List.mem_append.mp he with h1 | h1
  · exact hpo2.holders e h1
  · simp only [List.mem_singleton] at h1; subst h1; exact hhid

theorem LocI.getHolder (sys : Sys) {x : Id} (hx : x.reg = r) (v : Var) :
    LocI I r (getHolder sys x v) (fun y => y.1.reg = r ∧ InReg r (.holder y.2)) := by
  unfold Heap.getHolder
  refine LocI.bind (LocI.varDecl sys v) fun decl _ => ?_
  refine LocI.bind (LocI.rdSim hx) fun so hso => ?_
  refine LocI.bind (LocI.popOf hso _) fun pid hpid => ?_
  refine LocI.bind (LocI.rdPop hpid) fun po hpo => ?_
  cases hh : alGet po.holders v with
  | none => subst hx; exact LocI.createHolder S cd sys hpid v
  | some hid =>
    have hhid : hid.reg = r := hpo.holders _ (alGet_mem hh)
    exact LocI.bind (LocI.rdHolder hhid) fun ho hho => LocI.pure _ ⟨hhid, hho⟩

theorem LocI.setInput (sys : Sys) {x : Id} (hx : x.reg = r) (v : Var) (p : Period) (a : Vec) :
    LocI I r (setInput sys x v p a) (fun _ => True) := by
  unfold Heap.setInput
  refine LocI.bind (LocI.varDecl sys v) fun decl _ => ?_
  refine LocI.bind (LocI.getHolder S cd sys hx v) fun y hy => ?_
  obtain ⟨hid, ho⟩ := y
  refine LocI.ite (fun _ => LocI.fail _) fun _ => ?_
  exact LocI.ite (fun _ => LocI.dispatchInput S sys hy.2 decl p a) fun _ => LocI.holderSet S sys hy.2 p a

theorem LocI.setInputBad (sys : Sys) {x : Id} (hx : x.reg = r) (v : Var) (p : Period) :
    LocI I r (setInputBad sys x v p) (fun _ => True) := by
  unfold Heap.setInputBad
  refine LocI.bind (LocI.varDecl sys v) fun decl _ => ?_
  refine LocI.bind (LocI.getHolder S cd sys hx v) fun y _ => ?_
  exact LocI.ite (fun _ => LocI.fail _) fun _ => LocI.fail _

theorem LocI.deleteArrays (sys : Sys) {x : Id} (hx : x.reg = r) (v : Var) (p : Option Period) :
    LocI I r (deleteArrays sys x v p) (fun _ => True) := by
  unfold Heap.deleteArrays
  refine LocI.bind (LocI.getHolder S cd sys hx v) fun y hy => ?_
  obtain ⟨hid, ho⟩ := y
  exact LocI.holderDelete S hy.2 p

theorem LocI.purgeEach (sys : Sys) {x : Id} (hx : x.reg = r) (ks : List Key) :
    LocI I r (purgeEach sys x ks) (fun _ => True) := by
  induction ks with
  | nil => exact LocI.pure _ trivial
  | cons k t ih =>
    obtain ⟨v, p⟩ := k
    unfold Heap.purgeEach
    refine LocI.bind (LocI.getHolder S cd sys hx v) fun y hy => ?_
    obtain ⟨hid, ho⟩ := y
    exact LocI.bind (LocI.holderDelete S hy.2 _) fun _ _ => ih

theorem LocI.purge (sys : Sys) {x : Id} (hx : x.reg = r) : LocI I r (purge sys x) (fun _ => True) := by
  subst hx
  unfold Heap.purge
  refine LocI.bind (LocI.rdSim rfl) fun so hso => ?_
  refine LocI.bind (LocI.rdTracer hso.tracer) fun tr _ => ?_
  refine LocI.ite (fun _ => ?_) fun _ => LocI.pure _ trivial
  refine LocI.bind (LocI.rdInval hso.inval) fun inv _ => ?_
  refine LocI.bind (LocI.purgeEach S cd sys rfl inv) fun _ _ => ?_
  refine LocI.bind (LocI.new S trivial rfl rfl (fun _ e => by cases e)) fun i hi => ?_
  exact LocI.updSim S rfl (fun so2 hso2 => ⟨hso2.persons, hso2.pops, hso2.tracer, hi, hso2.dir⟩) (fun _ => rfl) (fun _ => rfl)
    (fun _ => rfl) (fun _ => rfl)

theorem LocI.calcInner (sys : Sys) {rec : Id → Var → Period → HM Vec} (hrec : LocI.Rec I r rec)
    {x : Id} (hx : x.reg = r) (v : Var) (p : Period) : LocI I r (calcInner sys rec x v p) (fun _ => True) := by
  unfold Heap.calcInner
  refine LocI.bind (LocI.varDecl sys v) fun decl _ => ?_
  refine LocI.bind (LocI.rdSim hx) fun so hso => ?_
  refine LocI.bind (LocI.popOf hso _) fun pid hpid => ?_
  refine LocI.bind (LocI.getHolder S cd sys hx v) fun y hy => ?_
  obtain ⟨hid, ho⟩ := y
  refine LocI.ite (fun _ => LocI.fail _) fun _ => ?_
  refine LocI.bind (LocI.holderFind hy.2 p) fun found _ => ?_
  cases found with
  | some a => exact LocI.bind (LocI.taintOnHit S hx v p _) fun _ _ => LocI.pure _ trivial
  | none => exact LocI.catchSpiral (LocI.computeAndStore S sys hrec hx v p decl hpid hy.2) (LocI.holderDefault sys hy.2)

theorem LocI.calcF (sys : Sys) (n : Nat) : LocI.Rec I r (calcF sys n) := by
  induction n with
  | zero => intro x v p _; exact LocI.fail _
  | succ n ih =>
    intro x v p hx
    unfold Heap.calcF
    refine LocI.bind (LocI.tracerStart S hx v p) fun _ _ => ?_
    exact LocI.tryFinally (LocI.calcInner S cd sys ih hx v p) (LocI.bind (LocI.tracerEnd S hx) fun _ _ => LocI.purge S cd sys hx)

theorem LocI.sumCalc (sys : Sys) (n : Nat) {x : Id} (hx : x.reg = r) (v : Var) (ps : List Period)
    (acc : Option Vec) : LocI I r (sumCalc sys n x v ps acc) (fun _ => True) := by
  induction ps generalizing acc with
  | nil => exact LocI.pure _ trivial
  | cons sp rest ih =>
    unfold Heap.sumCalc
    exact LocI.bind (LocI.calcF S cd sys n x v sp hx) fun a _ => ih _

theorem LocI.calcAdd (sys : Sys) (n : Nat) {x : Id} (hx : x.reg = r) (v : Var) (p : Period) :
    LocI I r (calcAdd sys n x v p) (fun _ => True) := by
  unfold Heap.calcAdd
  refine LocI.bind (LocI.varDecl sys v) fun decl _ => ?_
  refine LocI.ite (fun _ => LocI.fail _) fun _ => ?_
  refine LocI.ite (fun _ => LocI.fail _) fun _ => ?_
  refine LocI.ite (fun _ => LocI.fail _) fun _ => ?_
  refine LocI.bind (LocI.ofPeriod _ fun _ _ => trivial) fun subs _ => ?_
  exact LocI.sumCalc S cd sys n hx v subs none

theorem LocI.calcThrough (sys : Sys) (n : Nat) {x : Id} (hx : x.reg = r) (rt : Route) (ent : Nat) (v : Var)
    (p : Period) : LocI I r (calcThrough sys n x rt ent v p) (fun _ => True) := by
  unfold Heap.calcThrough
  refine LocI.bind (LocI.routePop hx rt ent) fun pid hpid => ?_
  refine LocI.bind (LocI.rdPop hpid) fun po hpo => ?_
  refine LocI.bind (LocI.varDecl sys v) fun decl _ => ?_
  exact LocI.ite (fun _ => LocI.fail _) fun _ => LocI.calcF S cd sys n _ v p hpo.popSim

theorem LocI.popGetHolder (sys : Sys) {pid : Id} (hp : pid.reg = r) (v : Var) :
    LocI I r (popGetHolder sys r pid v) (fun y => y.1.reg = r ∧ InReg r (.holder y.2)) := by
  unfold Heap.popGetHolder
  refine LocI.bind (LocI.varDecl sys v) fun decl _ => ?_
  refine LocI.bind (LocI.rdPop hp) fun po hpo => ?_
  refine LocI.ite (fun _ => LocI.fail _) fun _ => ?_
  cases hh : alGet po.holders v with
  | none => exact LocI.createHolder S cd sys hp v
  | some hid =>
    have hhid : hid.reg = r := hpo.holders _ (alGet_mem hh)
    exact LocI.bind (LocI.rdHolder hhid) fun ho hho => LocI.pure _ ⟨hhid, hho⟩

theorem LocI.readThrough (sys : Sys) {x : Id} (hx : x.reg = r) (rt : Route) (ent : Nat) (v : Var) (p : Period) :
    LocI I r (readThrough sys x rt ent v p) (fun _ => True) := by
  subst hx
  unfold Heap.readThrough
  refine LocI.bind (LocI.routePop rfl rt ent) fun pid hpid => ?_
  refine LocI.bind (LocI.popGetHolder S cd sys hpid v) fun y hy => ?_
  obtain ⟨hid, ho⟩ := y
  exact LocI.holderFind hy.2 p

theorem LocI.step (sys : Sys) (fuel : Nat) {x : Id} (hx : x.reg = r) (op : Op) :
    LocI I r (step sys fuel x op) (fun _ => True) := by
  cases op with
  | setInput v p a => exact LocI.bind (LocI.setInput S cd sys hx v p a) fun _ _ => LocI.pure _ trivial
  | deleteArrays v p => exact LocI.bind (LocI.deleteArrays S cd sys hx v p) fun _ _ => LocI.pure _ trivial
  | calculate v p => exact LocI.bind (LocI.calcF S cd sys fuel x v p hx) fun _ _ => LocI.pure _ trivial
  | calculateAdd v p =>
    refine LocI.bind (LocI.calcAdd S cd sys fuel hx v p) fun a _ => ?_
    cases a <;> exact LocI.pure _ trivial
  | setTrace b => exact LocI.bind (LocI.setTrace S hx b) fun _ _ => LocI.pure _ trivial
  | touch v => exact LocI.bind (LocI.getHolder S cd sys hx v) fun _ _ => LocI.pure _ trivial
  | setBad v p => exact LocI.bind (LocI.setInputBad S cd sys hx v p) fun _ _ => LocI.pure _ trivial
  | calcVia rt ent v p => exact LocI.bind (LocI.calcThrough S cd sys fuel hx rt ent v p) fun _ _ => LocI.pure _ trivial
  | readVia rt ent v p =>
    refine LocI.bind (LocI.readThrough S cd sys hx rt ent v p) fun a _ => ?_
    cases a <;> exact LocI.pure _ trivial
  | invalidate v p => exact LocI.bind (LocI.invalidateEntry S hx v p) fun _ _ => LocI.pure _ trivial

end

end OFCore.Heap
