import OFCore.PeriodSpec
import OFCore.Lemmas.CalendarArith
/-!
Every unit shifts by days (`addDays`, 1 or 7 a unit) or by months (`addMonths`, 1 or 12 a unit), so each law of `shiftDate`
is the law of the same name of `addDays` and `addMonths`.
-/
namespace OFCore

/-- the multiplier `w` is 1, 7 or 12; left open, so that a law is proved in two cases -/
theorem shiftDate_kind (u : DUnit) : ∃ w : Int, (1 ≤ w ∧ w ≤ 12) ∧
    ((∀ c k, shiftDate c k u = addDays c (w * k)) ∨
     ((u = .month ∨ u = .year) ∧ ∀ c k, shiftDate c k u = addMonths c (w * k))) := by
  cases u
  case week => exact ⟨7, by decide, .inl fun _ _ => rfl⟩
  case month => exact ⟨1, by decide, .inr ⟨.inl rfl, fun c k => by rw [Int.one_mul]; rfl⟩⟩
  case year => exact ⟨12, by decide, .inr ⟨.inr rfl, fun _ _ => rfl⟩⟩
  all_goals exact ⟨1, by decide, .inl fun c k => by rw [Int.one_mul]; rfl⟩

theorem shiftDate_valid (s : Date) (hv : s.Valid) (i : Int) (hi : 0 ≤ i) (u : DUnit) :
    (shiftDate s i u).Valid := by
  have h1 := ord_pos _ hv
  obtain ⟨w, hw, h | ⟨-, h⟩⟩ := shiftDate_kind u <;> rw [h]
  · exact addDays_valid _ _ (by have := Int.mul_nonneg (by omega : 0 ≤ w) hi; omega)
  · exact addMonths_valid _ _ hv (addMonths_year_pos s _ hv (Int.mul_nonneg (by omega) hi))

theorem ord_shiftDate_lt (s : Date) (hv : s.Valid) (i : Int) (hi : 1 ≤ i) (u : DUnit) :
    ord s < ord (shiftDate s i u) := by
  obtain ⟨w, hw, h | ⟨-, h⟩⟩ := shiftDate_kind u <;> rw [h]
  all_goals have hwk : 1 ≤ w * i := Int.mul_pos (by omega) (by omega)
  · rw [ord_addDays]; omega
  · exact addMonths_lt _ _ hv hwk

theorem shiftDate_zero (s : Date) (hv : s.Valid) (u : DUnit) : shiftDate s 0 u = s := by
  obtain ⟨w, -, h | ⟨-, h⟩⟩ := shiftDate_kind u <;> rw [h, Int.mul_zero]
  · exact addDays_zero s hv
  · exact addMonths_zero s hv

/-- month arithmetic from `s` never clips the day to a shorter month -/
def NoClip (s : Date) (u : DUnit) : Prop := (u = .month ∨ u = .year) → s.d ≤ 28

theorem shiftDate_add (s : Date) (u : DUnit) (hal : NoClip s u) (i j : Int) :
    shiftDate (shiftDate s i u) j u = shiftDate s (i + j) u := by
  obtain ⟨w, -, h | ⟨hu, h⟩⟩ := shiftDate_kind u <;> simp only [h]
  · rw [addDays_add, Int.mul_add]
  · rw [addMonths_add s (hal hu), Int.mul_add]

theorem shiftDate_year_mono (s : Date) (hv : s.Valid) (i j : Int) (hi : 0 ≤ i) (hij : i ≤ j) (u : DUnit) :
    (shiftDate s i u).y ≤ (shiftDate s j u).y := by
  have hvi := shiftDate_valid s hv i hi u
  have hvj := shiftDate_valid s hv j (by omega) u
  obtain ⟨w, hw, h | ⟨-, h⟩⟩ := shiftDate_kind u <;> simp only [h] at hvi hvj ⊢
  all_goals
    have hwi : 0 ≤ w * i := Int.mul_nonneg (by omega) hi
    have hwij : w * i ≤ w * j := Int.mul_le_mul_of_nonneg_left hij (by omega)
  · exact year_mono _ _ hvi hvj (by rw [ord_addDays, ord_addDays]; omega)
  · simp only [addMonths_year]; omega

theorem shiftDate_year_mono_start (a b : Date) (ha : a.Valid) (hb : b.Valid) (h : ord a ≤ ord b)
    (k : Int) (hk : 0 ≤ k) (u : DUnit) : (shiftDate a k u).y ≤ (shiftDate b k u).y := by
  have h1 := ord_pos _ ha
  obtain ⟨w, hw, e | ⟨-, e⟩⟩ := shiftDate_kind u <;> simp only [e]
  · have hwk : 0 ≤ w * k := Int.mul_nonneg (by omega) hk
    exact year_mono _ _ (addDays_valid _ _ (by omega)) (addDays_valid _ _ (by omega))
      (by rw [ord_addDays, ord_addDays]; omega)
  · have := ym_mono a b ha hb h
    simp only [addMonths_year]; omega

theorem ord_shiftDate_succ_lt (s : Date) (hv : s.Valid) (u : DUnit) (hal : NoClip s u) (i : Nat) :
    ord (shiftDate s i u) < ord (shiftDate s (i + 1 : Nat) u) := by
  have := ord_shiftDate_lt _ (shiftDate_valid s hv i (by omega) u) 1 (by decide) u
  rwa [shiftDate_add s u hal i 1] at this

theorem ord_shiftDate_add_le (s : Date) (hv : s.Valid) (u : DUnit) (hal : NoClip s u) (i : Nat) :
    ∀ n : Nat, ord (shiftDate s i u) + n ≤ ord (shiftDate s (i + n : Nat) u)
  | 0 => by rw [Nat.add_zero]; omega
  | n + 1 => by
    have := ord_shiftDate_add_le s hv u hal i n
    have := ord_shiftDate_succ_lt s hv u hal (i + n)
    rw [← Nat.add_assoc]; omega

theorem ord_shiftDate_lt_iff (s : Date) (hv : s.Valid) (u : DUnit) (hal : NoClip s u) (i j : Nat) :
    ord (shiftDate s i u) < ord (shiftDate s j u) ↔ i < j := by
  constructor
  · intro h
    refine Nat.lt_of_not_le fun hji => ?_
    have := ord_shiftDate_add_le s hv u hal j (i - j)
    rw [Nat.add_sub_cancel' hji] at this; omega
  · intro h
    have := ord_shiftDate_add_le s hv u hal i (j - i)
    rw [Nat.add_sub_cancel' (Nat.le_of_lt h)] at this; omega

theorem shiftDate_inj (s : Date) (hv : s.Valid) (u : DUnit)
    (hal : NoClip s u) {i j : Nat} (h : shiftDate s i u = shiftDate s j u) : i = j := by
  have h1 := mt (ord_shiftDate_lt_iff s hv u hal i j).2
  have h2 := mt (ord_shiftDate_lt_iff s hv u hal j i).2
  rw [h] at h1 h2
  have := h1 (Int.lt_irrefl _); have := h2 (Int.lt_irrefl _)
  omega

end OFCore
