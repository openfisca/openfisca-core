import OFCore.Lemmas.EnumLookup
import OFCore.Lemmas.Except
/-!
What `encode` answers, container by container and then on every input, against `Input.Rejected`
(`encode_eq`); one round trip (`round_trip`).
-/
namespace OFCore.EnumCodec

theorem allOk_eq_mapM {α β : Type} (f : α → Except String β) (l : List α) : allOk f l = l.mapM f := by
  induction l with
  | nil => rfl
  | cons a as ih =>
    rw [allOk, List.mapM_cons, ih]
    cases f a with
    | error m => rfl
    | ok b => cases as.mapM f <;> rfl

theorem allOk_map {α β : Type} {f : α → Except String β} {g : α → β} {l : List α}
    (h : ∀ a ∈ l, f a = .ok (g a)) : allOk f l = .ok (l.map g) :=
  allOk_eq_mapM f l ▸ mapM_ok_map f g l h

theorem allOk_iff {α β : Type} {f : α → Except String β} {g : α → β} {P : α → Prop} [DecidablePred P]
    (hok : ∀ a, P a → f a = .ok (g a)) (herr : ∀ a, ¬ P a → ∃ m, f a = .error m)
    {l : List α} {bs : List β} : allOk f l = .ok bs ↔ (∀ a ∈ l, P a) ∧ bs = l.map g := by
  rw [allOk_eq_mapM]
  constructor
  · intro h
    -- `f a` is among the answers `bs.map .ok`, so it is no error
    have hall : ∀ a ∈ l, P a := fun a ha => Decidable.by_contra fun hn => by
      obtain ⟨m, hm⟩ := herr a hn
      obtain ⟨b, _, hb⟩ := List.mem_map.mp (mapM_eq_ok.1 h ▸ List.mem_map_of_mem (f := f) ha)
      rw [hm] at hb; cases hb
    exact ⟨hall, mapM_ok_eq_map (fun a ha b hb => Except.ok.inj ((hok a (hall a ha)).symm.trans hb).symm) h⟩
  · rintro ⟨hall, rfl⟩
    exact mapM_ok_map f g l fun a ha => hok a (hall a ha)

theorem decode_ok_iff {e : Enumeration} {a : EnumArray} {ms : List Elem} :
    decode e a = .ok ms ↔ (∀ i ∈ a.idx, i < e.size) ∧ ms = a.idx.map (Elem.member e.cid) :=
  allOk_iff (fun _ hi => if_pos hi) (fun _ hi => ⟨_, if_neg hi⟩)

theorem decodeToStr_ok_iff {e : Enumeration} {a : EnumArray} {ns : List String} :
    decodeToStr e a = .ok ns ↔
      (∀ i ∈ a.idx, i < e.size) ∧ ns = a.idx.map (fun i => e.names.getD i "") :=
  allOk_iff (P := fun i => i < e.size)
    (fun i hi => by rw [List.getD_of_lt _ _ hi, List.getElem?_eq_getElem hi])
    (fun i hi => ⟨_, by rw [List.getElem?_eq_none (Nat.le_of_not_lt hi)]⟩)

/-- `_str_to_index` never raises by itself: unknown names are dropped by the mask. -/
theorem strToIndex_eq (names : List String) (ss : List String) :
    strToIndex names ss
      = .ok ((ss.filter (fun s => decide (s ∈ names))).map fun s => (nameIndex? names s).getD 0) := by
  unfold strToIndex
  apply allOk_map
  intro s hs
  have : s ∈ names := by simpa using (List.mem_filter.mp hs).2
  exact lookupSorted_eq this

theorem sameKind_of_forall {xs : List Elem} {k : Kind} (h : ∀ x ∈ xs, x.kind = k) : SameKind xs :=
  fun x hx y hy => (h x hx).trans (h y hy).symm

theorem eq_int_of_kind {x : Elem} (h : x.kind = .int) : x = .int x.intVal := by
  cases x with
  | int v => rfl
  | _ => cases h

theorem eq_str_of_kind {x : Elem} (h : x.kind = .str) : x = .str x.strVal := by
  cases x with
  | str s => rfl
  | _ => cases h

theorem isIntArrayLike_iff {xs : List Elem} : isIntArrayLike xs = true ↔ ∀ x ∈ xs, x.kind = .int := by
  rw [isIntArrayLike, List.all_eq_true]
  exact forall₂_congr fun x _ => by cases x <;> simp [Elem.kind, Elem.isInt]

theorem isStrArrayLike_iff {xs : List Elem} : isStrArrayLike xs = true ↔ ∀ x ∈ xs, x.kind = .str := by
  rw [isStrArrayLike, List.all_eq_true]
  exact forall₂_congr fun x _ => by cases x <;> simp [Elem.kind, Elem.isStr]

theorem isEnumArrayLike_iff {xs : List Elem} : isEnumArrayLike xs = true ↔ ∀ x ∈ xs, x.kind = .enum := by
  rw [isEnumArrayLike, List.all_eq_true]
  exact forall₂_congr fun x _ => by cases x <;> simp [Elem.kind, Elem.isEnum]

theorem hasClass_iff {c : Nat} {x : Elem} : x.hasClass c = true ↔ ∃ i, x = .member c i := by
  cases x <;> simp [Elem.hasClass]
  exact eq_comm

theorem hasClass_iff_designates {e : Enumeration} {x : Elem} :
    x.hasClass e.cid = true ↔ x.kind = .enum ∧ x.Designates e := by
  cases x <;> simp [Elem.hasClass, Elem.kind, Elem.Designates]
  exact eq_comm

theorem intToIndex_eq (n : Nat) (vs : List Int) :
    intToIndex n vs = (vs.filter fun v => decide (0 ≤ v ∧ v < (n : Int))).map Int.toNat := by
  simp only [intToIndex, Bool.decide_and]

theorem not_exists_mem_not {α : Type} {p : α → Prop} [DecidablePred p] {l : List α} :
    (¬ ∃ a ∈ l, ¬ p a) ↔ ∀ a ∈ l, p a :=
  ⟨fun h a ha => Decidable.by_contra fun hn => h ⟨a, ha, hn⟩, fun h ⟨a, ha, hn⟩ => hn (h a ha)⟩

/-- `values[mask]` followed by `indices.size != len(value)`; the test is written as `Input.Rejected` writes it. -/
theorem checkSize_mask {α : Type} (e : Enumeration) (P : α → Prop) [DecidablePred P] (g : α → Nat)
    (l : List α) :
    checkSize e l.length ((l.filter fun a => decide (P a)).map g)
      = if ∃ a ∈ l, ¬ P a then .error "EnumMemberNotFoundError" else .ok ⟨e.cid, l.map g⟩ := by
  unfold checkSize
  rw [List.length_map]
  by_cases h : ∃ a ∈ l, ¬ P a
  · obtain ⟨a, ha, hn⟩ := h
    rw [if_pos fun hlen => hn (of_decide_eq_true (List.length_filter_eq_length_iff.mp hlen a ha)),
      if_pos ⟨a, ha, hn⟩]
  · rw [if_neg h, List.filter_eq_self.mpr fun a ha => decide_eq_true (not_exists_mem_not.mp h a ha),
      if_neg (not_not_intro rfl)]

theorem checkSize_enumToIndex (e : Enumeration) {xs : List Elem} (h : ∀ x ∈ xs, x.kind = .enum) :
    checkSize e xs.length (enumToIndex xs) = .ok ⟨e.cid, xs.map (Elem.index e)⟩ := by
  have hc : enumToIndex xs = xs.map (Elem.index e) := List.map_congr_left fun x hx => by
    have := h x hx
    cases x with
    | member c i => rfl
    | _ => cases this
  rw [hc]
  exact if_neg (not_not_intro (List.length_map _))

theorem checkSize_mask_wrapped {α : Type} (e : Enumeration) {val : Elem → α} {inj : α → Elem}
    {P : α → Prop} [DecidablePred P] {g : α → Nat} (hP : ∀ a, (inj a).Designates e ↔ P a)
    (hg : ∀ a, (inj a).index e = g a) {xs : List Elem} (hel : ∀ x ∈ xs, x = inj (val x)) :
    checkSize e xs.length (((xs.map val).filter fun a => decide (P a)).map g)
      = if ∃ x ∈ xs, ¬ x.Designates e then .error "EnumMemberNotFoundError"
        else .ok ⟨e.cid, xs.map (Elem.index e)⟩ := by
  have hc : (∃ a ∈ xs.map val, ¬ P a) ↔ ∃ x ∈ xs, ¬ x.Designates e :=
    Decidable.not_iff_not.mp <| not_exists_mem_not.trans <|
      (List.forall_mem_map.trans (forall₂_congr fun x hx => by rw [← hP, ← hel x hx])).trans
        not_exists_mem_not.symm
  have hm : xs.map (g ∘ val) = xs.map (Elem.index e) :=
    List.map_congr_left fun x hx => by rw [Function.comp, ← hg, ← hel x hx]
  rw [← List.length_map (f := val), checkSize_mask, List.map_map, hm]
  exact ite_congr (propext hc) (fun _ => rfl) fun _ => rfl

theorem encodeSeq_fallthrough (e : Enumeration) {xs : List Elem}
    (h : ∀ k, k ≠ .other → ¬ ∀ x ∈ xs, x.kind = k) : encodeSeq e xs = .error "EnumEncodingError" := by
  unfold encodeSeq
  rw [if_neg (mt isIntArrayLike_iff.mp (h .int nofun)), if_neg (mt isStrArrayLike_iff.mp (h .str nofun)),
    if_neg (mt (fun hg => isEnumArrayLike_iff.mp (Bool.and_eq_true_iff.mp hg).1) (h .enum nofun))]

theorem encodeSeq_of_kind (e : Enumeration) {xs : List Elem} {k : Kind} (hne : xs ≠ [])
    (hk : ∀ x ∈ xs, x.kind = k) :
    encodeSeq e xs = if ∃ x ∈ xs, ¬ x.Designates e then
        .error (if k = .int ∨ k = .str then "EnumMemberNotFoundError" else "EnumEncodingError")
      else .ok ⟨e.cid, xs.map (Elem.index e)⟩ := by
  obtain ⟨x0, hx0⟩ := List.exists_mem_of_ne_nil xs hne
  -- the guard of another kind fails on `x0`
  have hnot : ∀ k', k ≠ k' → ¬ ∀ x ∈ xs, x.kind = k' := fun k' hkk h =>
    hkk ((hk x0 hx0).symm.trans (h x0 hx0))
  cases k with
  | int =>
    rw [encodeSeq, if_pos (isIntArrayLike_iff.mpr hk), intToIndex_eq,
      checkSize_mask_wrapped e (inj := .int) (P := fun v => 0 ≤ v ∧ v < (e.size : Int))
        (g := Int.toNat) (fun _ => Iff.rfl) (fun _ => rfl) fun x hx => eq_int_of_kind (hk x hx)]
    rfl
  | str =>
    rw [encodeSeq, if_neg (mt isIntArrayLike_iff.mp (hnot .int nofun)), if_pos (isStrArrayLike_iff.mpr hk),
      strToIndex_eq]
    simp only []
    rw [checkSize_mask_wrapped e (inj := .str) (P := fun s => s ∈ e.names) (g := fun s => (nameIndex? e.names s).getD 0)
      (fun _ => Iff.rfl) (fun _ => rfl) fun x hx => eq_str_of_kind (hk x hx)]
    rfl
  | enum =>
    have hg : (isEnumArrayLike xs && xs.all (Elem.hasClass e.cid)) = true ↔ ∀ x ∈ xs, x.Designates e := by
      rw [Bool.and_eq_true, isEnumArrayLike_iff, List.all_eq_true]
      exact ⟨fun h x hx => (hasClass_iff_designates.mp (h.2 x hx)).2,
        fun h => ⟨hk, fun x hx => hasClass_iff_designates.mpr ⟨hk x hx, h x hx⟩⟩⟩
    rw [encodeSeq, if_neg (mt isIntArrayLike_iff.mp (hnot .int nofun)),
      if_neg (mt isStrArrayLike_iff.mp (hnot .str nofun))]
    by_cases hd : ∃ x ∈ xs, ¬ x.Designates e
    · rw [if_neg fun h => not_exists_mem_not.mpr (hg.mp h) hd, if_pos hd]
      rfl
    · rw [if_pos (hg.mpr (not_exists_mem_not.mp hd)), if_neg hd, checkSize_enumToIndex e hk]
  | other =>
    have hd : ∃ x ∈ xs, ¬ x.Designates e := ⟨x0, hx0, fun h0 => by
      have hk0 := hk x0 hx0
      cases x0 with
      | other => exact h0
      | _ => cases hk0⟩
    rw [encodeSeq_fallthrough e fun k' hk' => hnot k' hk'.symm, if_pos hd]
    rfl

/-- with the kinds all that of the head, what is left of `Rejected` is the test of `encodeSeq_of_kind`;
mixed kinds pass no guard -/
theorem encodeSeq_eq (e : Enumeration) (xs : List Elem) :
    ∃ m, encodeSeq e xs = if (Input.seq xs).Rejected e then .error m
      else .ok ⟨e.cid, xs.map (Elem.index e)⟩ := by
  by_cases hk : SameKind xs
  · cases xs with
    | nil => exact ⟨"", (if_neg fun h => h.1 rfl).symm⟩
    | cons y ys =>
      have hne := List.cons_ne_nil y ys
      exact ⟨_, (encodeSeq_of_kind e hne fun x hx => hk x hx y (List.mem_cons_self ..)).trans
        (ite_congr (propext ⟨fun h => ⟨hne, .inl h⟩, fun h => h.2.resolve_right (not_not_intro hk)⟩)
          (fun _ => rfl) fun _ => rfl)⟩
  · exact ⟨_, by rw [encodeSeq_fallthrough e fun k _ hall => hk (sameKind_of_forall hall),
      if_pos ⟨fun h => hk (h ▸ nofun), .inr hk⟩]⟩

theorem encode_encoded (e : Enumeration) (a : EnumArray) : encode e (.encoded a) = .ok a := rfl

-- On an empty input the shortcut `len(array) == 0` gives what the general path would, so the
-- rows for `seq`, `intArr`, `strArr`, `objArr` need no case for it.
theorem encode_seq (e : Enumeration) (xs : List Elem) : encode e (.seq xs) = encodeSeq e xs := by
  cases xs <;> rfl

/-- The clause `xs ≠ []` of `Input.Rejected` adds nothing: both conditions hold of the empty
sequence. -/
theorem not_rejected_seq {e : Enumeration} {xs : List Elem} :
    ¬ (Input.seq xs).Rejected e ↔ (∀ x ∈ xs, x.Designates e) ∧ SameKind xs := by
  constructor
  · intro h
    have hd : ∀ x ∈ xs, x.Designates e := fun x hx =>
      Decidable.by_contra fun hn => h ⟨List.ne_nil_of_mem hx, Or.inl ⟨x, hx, hn⟩⟩
    exact ⟨hd, fun x hx => Decidable.by_contra fun hn =>
      h ⟨List.ne_nil_of_mem hx, Or.inr fun hk => hn (hk x hx)⟩⟩
  · rintro ⟨hd, hk⟩ ⟨_, ⟨x, hx, hn⟩ | hn⟩
    · exact hn (hd x hx)
    · exact hn hk

theorem not_rejected_seq_map {α : Type} {e : Enumeration} {l : List α} {f : α → Elem} {k : Kind}
    (hk : ∀ a, (f a).kind = k) (hd : ∀ a ∈ l, (f a).Designates e) : ¬ (Input.seq (l.map f)).Rejected e :=
  not_rejected_seq.mpr ⟨List.forall_mem_map.mpr hd,
    sameKind_of_forall (List.forall_mem_map.mpr fun a _ => hk a)⟩

theorem not_rejected_intArr {e : Enumeration} {vs : List Int} :
    ¬ (Input.intArr vs).Rejected e ↔ ∀ v ∈ vs, 0 ≤ v ∧ v < (e.size : Int) := not_exists_mem_not

theorem not_rejected_strArr {e : Enumeration} {ss : List String} :
    ¬ (Input.strArr ss).Rejected e ↔ ∀ s ∈ ss, s ∈ e.names := not_exists_mem_not

theorem not_rejected_objArr {e : Enumeration} {xs : List Elem} :
    ¬ (Input.objArr xs).Rejected e ↔ ∀ x ∈ xs, x.hasClass e.cid = true := by
  have : (Input.objArr xs).Rejected e ↔ ∃ x ∈ xs, ¬ x.hasClass e.cid = true :=
    exists_congr fun x => and_congr_right fun _ => by
      rw [hasClass_iff_designates]; exact Decidable.not_and_iff_not_or_not.symm
  rw [this]
  exact not_exists_mem_not

theorem not_rejected_otherArr {e : Enumeration} {n : Nat} :
    ¬ (Input.otherArr n).Rejected e ↔ n = 0 := Decidable.not_not

/-! For the typed arrays the clause of `Input.Rejected` is, by definition, the test the computation makes. -/

theorem encode_intArr (e : Enumeration) (vs : List Int) :
    encode e (.intArr vs) = if (Input.intArr vs).Rejected e then .error "EnumMemberNotFoundError"
      else .ok ⟨e.cid, vs.map Int.toNat⟩ := by
  refine Eq.trans ?_ ((checkSize_mask e _ Int.toNat vs).trans (ite_congr rfl (fun _ => rfl) fun _ => rfl))
  rw [← intToIndex_eq]
  cases vs <;> rfl

theorem encode_strArr (e : Enumeration) (ss : List String) :
    encode e (.strArr ss) = if (Input.strArr ss).Rejected e then .error "EnumMemberNotFoundError"
      else .ok ⟨e.cid, ss.map fun s => (nameIndex? e.names s).getD 0⟩ := by
  refine Eq.trans ?_ ((checkSize_mask e _ (fun s => (nameIndex? e.names s).getD 0) ss).trans
    (ite_congr rfl (fun _ => rfl) fun _ => rfl))
  cases ss with
  | nil => rfl
  | cons s ss =>
    show (match strToIndex e.names (s :: ss) with
      | .error m => Except.error m
      | .ok indices => checkSize e (s :: ss).length indices) = _
    rw [strToIndex_eq]

theorem encode_objArr (e : Enumeration) (xs : List Elem) :
    encode e (.objArr xs) = if (Input.objArr xs).Rejected e then .error "EnumEncodingError"
      else .ok ⟨e.cid, xs.map (Elem.index e)⟩ := by
  refine Eq.trans (by cases xs <;> rfl : _ = if xs.all (Elem.hasClass e.cid) then
    checkSize e xs.length (enumToIndex xs) else .error "EnumEncodingError") ?_
  by_cases h : (Input.objArr xs).Rejected e
  · rw [if_pos h, if_neg fun hall => not_rejected_objArr.mpr (List.all_eq_true.mp hall) h]
  · have hall := not_rejected_objArr.mp h
    rw [if_neg h, if_pos (List.all_eq_true.mpr hall),
      checkSize_enumToIndex e fun x hx => (hasClass_iff_designates.mp (hall x hx)).1]

/-- the enumeration the result is tagged with -/
def Input.resultOwner (e : Enumeration) : Input → Nat
  | .encoded a => a.owner
  | _ => e.cid

theorem resultOwner_eq {e : Enumeration} {x : Input} (hown : x.NotForeignArray e) :
    x.resultOwner e = e.cid := by
  cases x with
  | encoded a => exact hown
  | _ => rfl

theorem notForeignArray_of_raw {e : Enumeration} {x : Input} (hraw : ∀ a, x ≠ .encoded a) :
    x.NotForeignArray e := by
  cases x with
  | encoded a => exact absurd rfl (hraw a)
  | _ => trivial

theorem map_index_member (e : Enumeration) (c : Nat) (is : List Nat) :
    (is.map (Elem.member c)).map (Elem.index e) = is := by
  rw [List.map_map]; exact List.map_id _

theorem encode_eq (e : Enumeration) (x : Input) :
    ∃ m, encode e x = if x.Rejected e then .error m
      else .ok ⟨x.resultOwner e, x.elems.map (Elem.index e)⟩ := by
  cases x with
  | encoded a =>
    exact ⟨"", by rw [if_neg (show ¬ (Input.encoded a).Rejected e from id), Input.elems, map_index_member]; rfl⟩
  | seq xs => exact encode_seq e xs ▸ encodeSeq_eq e xs
  | intArr vs => exact ⟨_, by rw [encode_intArr, Input.elems, List.map_map]; rfl⟩
  | strArr ss => exact ⟨_, by rw [encode_strArr, Input.elems, List.map_map]; rfl⟩
  | objArr xs => exact ⟨_, encode_objArr e xs⟩
  | otherArr n => exact ⟨"EnumEncodingError", by cases n <;> rfl⟩
  | scalarArr el => exact ⟨_, (if_pos trivial).symm⟩

theorem encode_ok_iff {e : Enumeration} {x : Input} (hown : x.NotForeignArray e) {a : EnumArray} :
    encode e x = .ok a ↔ ¬ x.Rejected e ∧ a = ⟨e.cid, x.elems.map (Elem.index e)⟩ := by
  obtain ⟨m, h⟩ := encode_eq e x
  rw [h, resultOwner_eq hown]
  by_cases hr : x.Rejected e
  · rw [if_pos hr]; exact ⟨nofun, fun h => absurd hr h.1⟩
  · rw [if_neg hr]; exact ⟨fun h => ⟨hr, (Except.ok.inj h).symm⟩, fun h => by rw [h.2]⟩

theorem designates_of_not_rejected {e : Enumeration} {x : Input} (hown : x.NotForeignArray e)
    (h : ¬ x.Rejected e) : ∀ el ∈ x.elems, el.Designates e := by
  cases x with
  | encoded a => exact List.forall_mem_map.mpr fun _ _ => hown
  | seq xs => exact (not_rejected_seq.mp h).1
  | intArr vs => exact List.forall_mem_map.mpr (not_rejected_intArr.mp h)
  | strArr ss => exact List.forall_mem_map.mpr (not_rejected_strArr.mp h)
  | objArr xs => exact fun el hel => (hasClass_iff_designates.mp (not_rejected_objArr.mp h el hel)).2
  | otherArr n => rw [not_rejected_otherArr.mp h]; exact fun _ hel => nomatch hel
  | scalarArr el' => exact absurd trivial h

theorem index_lt_size {e : Enumeration} {el : Elem} (hwf : el.WF e) (hd : el.Designates e) :
    el.index e < e.size := by
  cases el with
  | int v => exact (Int.toNat_lt hd.1).mpr hd.2
  | str s => exact (List.getElem?_eq_some_iff.mp (getElem?_nameIndex? (show s ∈ e.names from hd))).1
  | member c i => exact hwf hd
  | other => exact hd.elim

/-- stated for `x.elems = l.map f` because the round trips of C15 take `f` to be `id`, `.str`, `.int` and
`.member e.cid` -/
theorem round_trip {α : Type} (e : Enumeration) {x : Input} {l : List α} {f : α → Elem}
    (hx : x.elems = l.map f) (hwf : ∀ a ∈ l, (f a).WF e) (hown : x.NotForeignArray e)
    (hok : ¬ x.Rejected e) :
    encode e x = .ok ⟨e.cid, l.map fun a => (f a).index e⟩ ∧
    decode e ⟨e.cid, l.map fun a => (f a).index e⟩
      = .ok (l.map fun a => Elem.member e.cid ((f a).index e)) ∧
    decodeToStr e ⟨e.cid, l.map fun a => (f a).index e⟩
      = .ok (l.map fun a => e.names.getD ((f a).index e) "") := by
  have hlt : ∀ a ∈ l, (f a).index e < e.size := fun a ha =>
    index_lt_size (hwf a ha) (List.forall_mem_map.mp (hx ▸ designates_of_not_rejected hown hok) a ha)
  have hidx : ∀ i ∈ l.map fun a => (f a).index e, i < e.size := List.forall_mem_map.mpr hlt
  refine ⟨?_, ?_, ?_⟩
  · rw [(encode_ok_iff hown).mpr ⟨hok, rfl⟩, hx, List.map_map]; rfl
  · rw [decode_ok_iff.mpr ⟨hidx, rfl⟩, List.map_map]; rfl
  · rw [decodeToStr_ok_iff.mpr ⟨hidx, rfl⟩, List.map_map]; rfl

end OFCore.EnumCodec
