import OFCore.Param
/-!
Dated parameters (C06): `Parameter.update` as one recursion (`upd`), which the code's five phases compute on sorted
histories; reading and sortedness are proved on `upd`, for any bounds.
-/
namespace OFCore.Param

variable {V : Type}

theorem sorted_cons {e : Entry V} {r : List (Entry V)} :
    Sorted (e :: r) ↔ (∀ x ∈ r, x.date < e.date) ∧ Sorted r := by
  induction r generalizing e with
  | nil => simp [Sorted]
  | cons f r ih =>
    simp only [Sorted, List.mem_cons, forall_eq_or_imp]
    constructor
    · rintro ⟨h1, h2⟩
      exact ⟨⟨h1, fun x hx => Int.lt_trans ((ih.mp h2).1 x hx) h1⟩, h2⟩
    · rintro ⟨⟨h1, _⟩, h2⟩
      exact ⟨h1, h2⟩

theorem pget_none_of_all_later (l : List (Entry V)) (d : Int) (h : ∀ e ∈ l, d < e.date) :
    pget l d = none := by
  induction l with
  | nil => rfl
  | cons x r ih =>
    rw [pget, if_neg (Int.not_le.mpr (h x (List.mem_cons_self ..)))]
    exact ih (fun e he => h e (List.mem_cons_of_mem _ he))

theorem pget_of_isLatest {l : List (Entry V)} (hl : Sorted l) {d : Int} {e : Entry V}
    (h : IsLatest l d e) : pget l d = e.val := by
  induction l with
  | nil => exact absurd h.1 (by simp)
  | cons x r ih =>
    obtain ⟨hm, hd, hmax⟩ := h
    obtain ⟨hlt, hr⟩ := sorted_cons.mp hl
    rw [pget]
    rcases List.mem_cons.mp hm with rfl | her
    · rw [if_pos hd]
    · -- `e` comes after `x` in the list, so it is older: `x` cannot be on or before `d`
      have hx : ¬ x.date ≤ d := fun hx => Int.not_le.mpr (hlt e her) (hmax x (List.mem_cons_self ..) hx)
      rw [if_neg hx]
      exact ih hr ⟨her, hd, fun e' he' => hmax e' (List.mem_cons_of_mem _ he')⟩

theorem exists_isLatest {l : List (Entry V)} (hl : Sorted l) {d : Int}
    (h : ∃ e ∈ l, e.date ≤ d) : ∃ e, IsLatest l d e := by
  induction l with
  | nil => obtain ⟨e, he, _⟩ := h; cases he
  | cons x r ih =>
    obtain ⟨hlt, hr⟩ := sorted_cons.mp hl
    by_cases hx : x.date ≤ d
    · refine ⟨x, List.mem_cons_self .., hx, fun e' he' _ => ?_⟩
      rcases List.mem_cons.mp he' with rfl | her
      · exact Int.le_refl _
      · exact Int.le_of_lt (hlt e' her)
    · obtain ⟨e, he, hed⟩ := h
      have her : e ∈ r := (List.mem_cons.mp he).resolve_left (fun c => hx (c ▸ hed))
      obtain ⟨e0, h0m, h0d, h0max⟩ := ih hr ⟨e, her, hed⟩
      refine ⟨e0, List.mem_cons_of_mem _ h0m, h0d, fun e' he' hd' => ?_⟩
      rcases List.mem_cons.mp he' with rfl | her'
      · exact absurd hd' hx
      · exact h0max e' her' hd'

/-- the update of the range `[a, s)` (`s` = day after `stop`): keep entries `> s`; at the first
    entry `≤ s` re-open at `s` (unless dated `s`), insert `(a, v)`, drop entries in `[a, s)`. -/
def upd (l : List (Entry V)) (a s : Int) (v : Option V) : List (Entry V) :=
  match l with
  | [] => [⟨s, none⟩, ⟨a, v⟩]
  | e :: r =>
    if s < e.date then e :: upd r a s v
    else if s = e.date then e :: ⟨a, v⟩ :: skipFrom r a
    else ⟨s, e.val⟩ :: ⟨a, v⟩ :: skipFrom (e :: r) a

theorem pget_skipFrom (l : List (Entry V)) {a d : Int} (hd : d < a) :
    pget (skipFrom l a) d = pget l d := by
  induction l with
  | nil => rfl
  | cons e r ih =>
    rw [skipFrom]
    split
    · rw [ih, pget, if_neg (by omega)]
    · rfl

theorem pget_cons_skipFrom (l : List (Entry V)) (a : Int) (v : Option V) (d : Int) :
    pget (⟨a, v⟩ :: skipFrom l a) d = if a ≤ d then v else pget l d := by
  simp only [pget]
  split
  · rfl
  · exact pget_skipFrom l (by omega)

theorem sorted_cons_skipFrom {l : List (Entry V)} (hl : Sorted l) (a : Int) (v : Option V) :
    Sorted (⟨a, v⟩ :: skipFrom l a) := by
  induction l with
  | nil => trivial
  | cons e r ih =>
    obtain ⟨hlt, hr⟩ := sorted_cons.mp hl
    rw [skipFrom]
    split
    · exact ih hr
    · refine sorted_cons.mpr ⟨fun x hx => ?_, hl⟩
      show x.date < a
      rcases List.mem_cons.mp hx with rfl | hx
      · omega
      · have := hlt x hx; omega

theorem pget_upd (l : List (Entry V)) (a s : Int) (v : Option V) (d : Int) :
    pget (upd l a s v) d = if a ≤ d ∧ d < s then v else pget l d := by
  -- scanning from the latest date down
  have scan : ∀ x : Option V, (if a ≤ d ∧ d < s then v else x) = if s ≤ d then x else if a ≤ d then v else x := by
    intro x
    by_cases h : s ≤ d
    · rw [if_pos h, if_neg (fun c => Int.not_lt.mpr h c.2)]
    · simp only [if_neg h, Int.not_le.mp h, and_true]
  rw [scan]
  induction l with
  | nil => rfl
  | cons e r ih =>
    rw [upd]
    split
    · -- `e` is later than `s`: it is read as before, and hides nothing of the span
      rename_i hlt
      by_cases hed : e.date ≤ d
      · simp only [pget, if_pos hed, if_pos (show s ≤ d by omega)]
      · simp only [pget, if_neg hed, ih]
    · split
      · rename_i heq
        subst heq
        rw [pget, pget_cons_skipFrom]
        by_cases hed : e.date ≤ d <;> simp only [pget, hed, if_true, if_false]
      · -- `e` is older than `s`: its value is re-opened at `s`
        rw [pget, pget_cons_skipFrom]
        by_cases hsd : s ≤ d
        · simp only [pget, if_pos hsd, if_pos (show e.date ≤ d by omega)]
        · simp only [if_neg hsd]

/-- stated below an entry `x` later than `s`: the induction carries the entry above -/
theorem sorted_cons_upd {x : Entry V} {l : List (Entry V)} (h : Sorted (x :: l)) {a s : Int} (hs : s < x.date)
    (has : a < s) (v : Option V) : Sorted (x :: upd l a s v) := by
  induction l generalizing x with
  | nil => exact ⟨hs, has, trivial⟩
  | cons e r ih =>
    obtain ⟨he, hr⟩ : e.date < x.date ∧ Sorted (e :: r) := h
    rw [upd]
    split
    next hse => exact ⟨he, ih hr hse⟩
    · split
      · exact ⟨he, show a < e.date by omega, sorted_cons_skipFrom (sorted_cons.mp hr).2 a v⟩
      · exact ⟨hs, has, sorted_cons_skipFrom hr a v⟩

theorem sorted_upd {l : List (Entry V)} (hl : Sorted l) {a s : Int} (has : a < s) (v : Option V) :
    Sorted (upd l a s v) := by
  cases l with
  | nil => exact ⟨has, trivial⟩
  | cons e r =>
    -- an artificial top entry, for `sorted_cons_upd`
    have := sorted_cons_upd (x := ⟨max s e.date + 1, none⟩) (l := e :: r)
      ⟨by show e.date < max s e.date + 1; omega, hl⟩ (by show s < max s e.date + 1; omega) has v
    exact (sorted_cons.mp this).2

theorem reopen_cons_ne (e : Entry V) (k rest : List (Entry V)) (s : Int) (hne : e.date ≠ s) :
    reopen (e :: k) rest s = reopen k rest s := by
  have : (lastDate (e :: k) = some s) ↔ (lastDate k = some s) := by
    cases k with
    | nil => simp [lastDate, hne]
    | cons f k => simp [lastDate]
  simp only [reopen, this]

theorem updateSpan_eq_upd {l : List (Entry V)} (hl : Sorted l) (a s : Int) (v : Option V) :
    updateSpan l a s v = upd l a s v := by
  induction l with
  | nil => simp [updateSpan, keepFrom, skipFrom, reopen, lastDate, upd]
  | cons e r ih =>
    obtain ⟨hlt, hr⟩ := sorted_cons.mp hl
    simp only [updateSpan, upd] at ih ⊢
    by_cases h1 : s < e.date
    · rw [if_pos h1]
      simp only [keepFrom, skipFrom, if_pos (Int.le_of_lt h1)]
      rw [reopen_cons_ne e _ _ _ (by omega), ← ih hr]
      simp
    · rw [if_neg h1]
      by_cases h2 : s = e.date
      · -- the rest of the history is older than `s`: phase 1 stops right after `e`
        have hk : keepFrom r s = [] ∧ skipFrom r s = r := by
          cases r with
          | nil => exact ⟨rfl, rfl⟩
          | cons f r =>
            have := hlt f (List.mem_cons_self ..)
            simp only [keepFrom, skipFrom]; rw [if_neg (by omega), if_neg (by omega)]; exact ⟨rfl, rfl⟩
        rw [if_pos h2]
        simp only [keepFrom, skipFrom, if_pos (Int.le_of_eq h2), hk.1, hk.2]
        simp [reopen, lastDate, h2]
      · rw [if_neg h2]
        simp only [keepFrom, skipFrom, if_neg (show ¬ s ≤ e.date by omega)]
        simp [reopen, lastDate]

theorem pget_updateSpan {l : List (Entry V)} (hl : Sorted l) (a s : Int) (v : Option V) (d : Int) :
    pget (updateSpan l a s v) d = if a ≤ d ∧ d < s then v else pget l d := by
  rw [updateSpan_eq_upd hl, pget_upd]

theorem sorted_updateSpan {l : List (Entry V)} (hl : Sorted l) {a s : Int} (has : a < s) (v : Option V) :
    Sorted (updateSpan l a s v) := by
  rw [updateSpan_eq_upd hl]; exact sorted_upd hl has v

theorem applyUpd_spec {l : List (Entry V)} (hl : Sorted l) {u : Upd V} (hu : u.WF) :
    Sorted (applyUpd l u) ∧ ∀ d, pget (applyUpd l u) d = specStep d (pget l d) u := by
  obtain ⟨a, b, v⟩ := u
  cases b with
  | none =>
    exact ⟨sorted_cons_skipFrom hl a v, fun d =>
      (pget_cons_skipFrom l a v d).trans (by simp only [specStep, Upd.covers, and_true])⟩
  | some b =>
    exact ⟨sorted_updateSpan hl (Int.lt_add_one_iff.mpr hu) v, fun d =>
      (pget_updateSpan hl a (b + 1) v d).trans (by simp only [specStep, Upd.covers, Int.lt_add_one_iff])⟩

theorem foldl_specStep_untouched (d : Int) (acc : Option V) (us : List (Upd V))
    (h : ∀ u ∈ us, ¬ u.covers d) : us.foldl (specStep d) acc = acc := by
  induction us generalizing acc with
  | nil => rfl
  | cons u us ih =>
    rw [List.foldl_cons]
    have : specStep d acc u = acc := by
      unfold specStep; rw [if_neg (h u (List.mem_cons_self ..))]
    rw [this]
    exact ih acc (fun u' hu' => h u' (List.mem_cons_of_mem _ hu'))

section Clones
variable {σ U : Type}

theorem length_runOp (f : σ → U → σ) (st : List σ) (op : HOp U) :
    st.length ≤ (runOp f st op).length := by
  cases op <;> simp only [runOp] <;> split <;> simp

theorem getElem?_runOp_of_ne (f : σ → U → σ) (st : List σ) (op : HOp U) (j : Nat)
    (hj : j < st.length) (h : op.target ≠ some j) : (runOp f st op)[j]? = st[j]? := by
  cases op with
  | clone s =>
    simp only [runOp]
    split
    · exact List.getElem?_append_left hj
    · rfl
  | upd i u =>
    simp only [runOp]
    split
    · have hne : i ≠ j := fun c => h (by simp [HOp.target, c])
      exact List.getElem?_set_ne hne
    · rfl

/-- one step commutes with "replay the object's own updates on the common ancestor" -/
theorem runOp_map_trace (f : σ → U → σ) (x0 : σ) (tr : List (List U)) (op : HOp U) :
    runOp f (tr.map (fun us => us.foldl f x0)) op = (runOp snoc tr op).map (fun us => us.foldl f x0) := by
  cases op with
  | clone s =>
    simp only [runOp, List.getElem?_map]
    cases tr[s]? with
    | none => rfl
    | some us => simp
  | upd i u =>
    simp only [runOp, List.getElem?_map]
    cases tr[i]? with
    | none => rfl
    | some us => simp [List.map_set, snoc, List.foldl_append]

theorem runOps_map_trace (f : σ → U → σ) (x0 : σ) (tr : List (List U)) (ops : List (HOp U)) :
    runOps f (tr.map (fun us => us.foldl f x0)) ops = (runOps snoc tr ops).map (fun us => us.foldl f x0) := by
  induction ops generalizing tr with
  | nil => rfl
  | cons op ops ih =>
    show runOps f (runOp f _ op) ops = (runOps snoc (runOp snoc tr op) ops).map _
    rw [runOp_map_trace, ih]

theorem runOps_forall (f : σ → U → σ) (Q : σ → Prop) (st : List σ) (ops : List (HOp U)) (hst : ∀ x ∈ st, Q x)
    (hf : ∀ i u, HOp.upd i u ∈ ops → ∀ x, Q x → Q (f x u)) : ∀ x ∈ runOps f st ops, Q x := by
  induction ops generalizing st with
  | nil => exact hst
  | cons op ops ih =>
    refine ih (runOp f st op) (fun y hy => ?_) (fun i u h => hf i u (List.mem_cons_of_mem _ h))
    cases op with
    | clone s =>
      simp only [runOp] at hy
      split at hy
      · rename_i x hx
        rcases List.mem_append.mp hy with h | h
        · exact hst y h
        · exact List.mem_singleton.mp h ▸ hst x (List.mem_of_getElem? hx)
      · exact hst y hy
    | upd i u =>
      simp only [runOp] at hy
      split at hy
      · rename_i x hx
        rcases List.mem_or_eq_of_mem_set hy with h | h
        · exact hst y h
        · exact h ▸ hf i u (List.mem_cons_self ..) x (hst x (List.mem_of_getElem? hx))
      · exact hst y hy

end Clones

end OFCore.Param
