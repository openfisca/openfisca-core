namespace List
variable {α β γ : Type _}

theorem getD_of_lt (l : List α) (d : α) {i : Nat} (h : i < l.length) : l.getD i d = l[i] := by
  rw [getD_eq_getElem?_getD, getElem?_eq_getElem h]; rfl

theorem getD_of_le (l : List α) (d : α) {i : Nat} (h : l.length ≤ i) : l.getD i d = d := by
  rw [getD_eq_getElem?_getD, getElem?_eq_none h]; rfl

theorem getD_mem_of_lt (l : List α) (d : α) {i : Nat} (h : i < l.length) : l.getD i d ∈ l := by
  rw [getD_of_lt l d h]; exact getElem_mem h

theorem getD_forall {P : α → Prop} {l : List α} {d : α} (h : ∀ a ∈ l, P a) (hd : P d) (i : Nat) :
    P (l.getD i d) := by
  by_cases hi : i < l.length
  · exact h _ (getD_mem_of_lt l d hi)
  · rw [getD_of_le l d (Nat.le_of_not_lt hi)]; exact hd

theorem getD_map_of_lt (f : α → β) (l : List α) (d : α) (d' : β) {i : Nat} (h : i < l.length) :
    (l.map f).getD i d' = f (l.getD i d) := by
  rw [getD_of_lt _ _ (by simpa using h), getD_of_lt _ _ h, getElem_map]

theorem getD_map_default (f : α → β) (l : List α) (i : Nat) (d : α) :
    (l.map f).getD i (f d) = f (l.getD i d) := by
  simp only [getD_eq_getElem?_getD, getElem?_map]
  cases l[i]? <;> rfl

theorem getD_range_map (F : Nat → β) (z : β) {n i : Nat} (h : i < n) :
    ((range n).map F).getD i z = F i := by
  rw [getD_of_lt _ _ (by simpa using h), getElem_map, getElem_range]

theorem map_getD_range (l : List α) (d : α) : (range l.length).map (fun i => l.getD i d) = l := by
  apply ext_getElem
  · simp
  · intro i _ h2
    rw [getElem_map, getElem_range, getD_of_lt l d h2]

theorem eq_range_map_of_getD (l : List α) (d : α) {n : Nat} {F : Nat → α} (hl : l.length = n)
    (h : ∀ i, i < n → l.getD i d = F i) : l = (range n).map F := by
  rw [← map_getD_range l d, hl]
  exact map_congr_left fun i hi => h i (mem_range.mp hi)

theorem getD_zip_of_lt (xs : List α) (ys : List β) (dx : α) (dy : β) {i : Nat}
    (hx : i < xs.length) (hy : i < ys.length) :
    (xs.zip ys).getD i (dx, dy) = (xs.getD i dx, ys.getD i dy) := by
  rw [getD_of_lt _ _ (by simp; omega), getD_of_lt _ _ hx, getD_of_lt _ _ hy, getElem_zip]

theorem getD_zipWith_of_lt (f : α → β → γ) (xs : List α) (ys : List β) (dx : α) (dy : β) (d : γ)
    {i : Nat} (hx : i < xs.length) (hy : i < ys.length) :
    (zipWith f xs ys).getD i d = f (xs.getD i dx) (ys.getD i dy) := by
  rw [getD_of_lt _ _ (by simp; omega), getD_of_lt _ _ hx, getD_of_lt _ _ hy, getElem_zipWith]

theorem getD_set_of_lt (l : List α) (a d : α) {i : Nat} (j : Nat) (h : i < l.length) :
    (l.set i a).getD j d = if i = j then a else l.getD j d := by
  simp only [getD_eq_getElem?_getD, getElem?_set]
  by_cases e : i = j
  · subst e; simp [h]
  · simp [e]

theorem getD_replicate_default (n i : Nat) (d : α) : (replicate n d).getD i d = d := by
  simp only [getD_eq_getElem?_getD, getElem?_replicate]
  split <;> rfl

end List
