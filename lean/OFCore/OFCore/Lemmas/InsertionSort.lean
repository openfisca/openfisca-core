/-!
The models sort by insertion from the right in several places, each with its own copy of the insertion; here is the one
sort they all are (`sortBy_unique`: a sort with these two equations is `sortBy`), with its permutation and order facts.
In `Before le S`, `S` is the order the elements came in, so stability is stated once: `sortBy_pairwise` keeps `S`
between elements that `le` does not separate, and `S := fun _ _ => True` forgets it.
-/
namespace OFCore.Srt

variable {α : Type}

def insertBy (le : α → α → Bool) (x : α) : List α → List α
  | [] => [x]
  | y :: ys => if le x y then x :: y :: ys else y :: insertBy le x ys

def sortBy (le : α → α → Bool) : List α → List α
  | [] => []
  | x :: xs => insertBy le x (sortBy le xs)

theorem insertBy_perm (le : α → α → Bool) (x : α) (l : List α) : (insertBy le x l).Perm (x :: l) := by
  induction l with
  | nil => exact List.Perm.refl _
  | cons y ys ih =>
    unfold insertBy
    split
    · exact List.Perm.refl _
    · exact (ih.cons y).trans (List.Perm.swap x y ys)

theorem sortBy_perm (le : α → α → Bool) (l : List α) : (sortBy le l).Perm l := by
  induction l with
  | nil => exact List.Perm.refl _
  | cons x xs ih => exact (insertBy_perm le x _).trans (ih.cons x)

theorem insertBy_eq_append (le : α → α → Bool) (x : α) (l : List α) :
    ∃ A B, l = A ++ B ∧ insertBy le x l = A ++ x :: B ∧ ∀ d ∈ A, le x d = false := by
  induction l with
  | nil => exact ⟨[], [], rfl, rfl, nofun⟩
  | cons y ys ih =>
    unfold insertBy
    split
    · exact ⟨[], y :: ys, rfl, rfl, nofun⟩
    · rename_i hxy
      obtain ⟨A, B, hl, hi, hA⟩ := ih
      refine ⟨y :: A, B, by rw [hl]; rfl, by rw [hi]; rfl, fun d hd => ?_⟩
      rcases List.mem_cons.1 hd with rfl | hd
      · exact Bool.eq_false_iff.2 hxy
      · exact hA d hd

/-- `a` is sorted before `b`: not greater, and where the order does not separate them, `S a b` -/
def Before (le : α → α → Bool) (S : α → α → Prop) (a b : α) : Prop := le a b = true ∧ (le b a = true → S a b)

variable {le : α → α → Bool} (tot : ∀ a b, le a b = true ∨ le b a = true)
  (trans : ∀ a b c, le a b = true → le b c = true → le a c = true) {S : α → α → Prop}
include tot trans

/-- `x` stops before the first `y` with `le x y`: what it passed is strictly smaller (totality), what is behind is
`≥ y ≥ x` (transitivity) and came after `x` -/
theorem insertBy_pairwise (x : α) (l : List α) (hpw : l.Pairwise (Before le S)) (hS : ∀ y ∈ l, S x y) :
    (insertBy le x l).Pairwise (Before le S) := by
  induction l with
  | nil => exact List.pairwise_singleton _ _
  | cons y l ih =>
    obtain ⟨hy, hl⟩ := List.pairwise_cons.mp hpw
    unfold insertBy
    split
    · rename_i hxy
      refine List.pairwise_cons.mpr ⟨fun z hz => ?_, hpw⟩
      rcases List.mem_cons.mp hz with rfl | hz
      · exact ⟨hxy, fun _ => hS _ List.mem_cons_self⟩
      · exact ⟨trans _ _ _ hxy (hy z hz).1, fun _ => hS z (List.mem_cons_of_mem _ hz)⟩
    · rename_i hxy
      refine List.pairwise_cons.mpr ⟨fun z hz => ?_, ih hl fun z hz => hS z (List.mem_cons_of_mem _ hz)⟩
      rcases List.mem_cons.mp ((insertBy_perm le x l).mem_iff.mp hz) with rfl | hz
      · exact ⟨(tot z y).resolve_left hxy, fun h => absurd h hxy⟩
      · exact hy z hz

theorem sortBy_pairwise (l : List α) (hl : l.Pairwise S) : (sortBy le l).Pairwise (Before le S) := by
  induction l with
  | nil => exact List.Pairwise.nil
  | cons x l ih =>
    obtain ⟨hx, hl⟩ := List.pairwise_cons.mp hl
    exact insertBy_pairwise tot trans x _ (ih hl) fun y hy => hx y ((sortBy_perm le l).mem_iff.mp hy)

omit tot trans in
theorem insertBy_unique {ins : α → List α → List α} (ins_nil : ∀ x, ins x [] = [x])
    (ins_cons : ∀ x y ys, ins x (y :: ys) = if le x y then x :: y :: ys else y :: ins x ys) (x : α) (l : List α) :
    ins x l = insertBy le x l := by
  induction l with
  | nil => exact ins_nil x
  | cons y ys ih => rw [ins_cons, insertBy, ih]

omit tot trans in
theorem sortBy_unique {ins : α → List α → List α} {srt : List α → List α}
    (ins_nil : ∀ x, ins x [] = [x])
    (ins_cons : ∀ x y ys, ins x (y :: ys) = if le x y then x :: y :: ys else y :: ins x ys)
    (srt_nil : srt [] = []) (srt_cons : ∀ x xs, srt (x :: xs) = ins x (srt xs)) (l : List α) :
    srt l = sortBy le l := by
  induction l with
  | nil => exact srt_nil
  | cons x xs ih => rw [srt_cons, insertBy_unique ins_nil ins_cons, ih, sortBy]

end OFCore.Srt
