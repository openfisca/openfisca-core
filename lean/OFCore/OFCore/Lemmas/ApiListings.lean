import OFCore.Api
import OFCore.Lemmas.Param
/-! Listings (C20): a reader of a served map gets the entry of the greatest date on or before the day (`apiBest_spec`,
`apiGetValue_spec`); hence the history, formula and scale readers. -/
namespace OFCore.Api

section Listings
variable {V : Type}
open Param

theorem apiBest_spec (d : Int) : ∀ (l : List (Int × Option V)),
    (∀ k v, apiBest d l = some (k, v) → (k, v) ∈ l ∧ k ≤ d ∧ ∀ kv ∈ l, kv.1 ≤ d → kv.1 ≤ k) ∧
    (apiBest d l = none → ∀ kv ∈ l, ¬ kv.1 ≤ d)
  | [] => ⟨fun k v h => (by cases h), fun _ kv hkv => (by cases hkv)⟩
  | (k₀, v₀) :: r => by
    obtain ⟨ih1, ih2⟩ := apiBest_spec d r
    simp only [apiBest]
    cases hb : apiBest d r with
    | none =>
      have hr := ih2 hb
      by_cases hk : k₀ ≤ d
      · simp only [if_pos hk]
        refine ⟨fun k v h => ?_, fun h => by cases h⟩
        cases h
        exact ⟨List.mem_cons_self, hk,
          List.forall_mem_cons.mpr ⟨fun _ => Int.le_refl _, fun kv hm hle => absurd hle (hr kv hm)⟩⟩
      · simp only [if_neg hk]
        exact ⟨fun k v h => (by cases h), fun _ => List.forall_mem_cons.mpr ⟨hk, hr⟩⟩
    | some p =>
      obtain ⟨k', v'⟩ := p
      obtain ⟨hm, hle, hmax⟩ := ih1 k' v' hb
      by_cases hc : k₀ ≤ d ∧ k' < k₀
      · simp only [if_pos hc]
        refine ⟨fun k v h => ?_, fun h => by cases h⟩
        cases h
        exact ⟨List.mem_cons_self, hc.1, List.forall_mem_cons.mpr
          ⟨fun _ => Int.le_refl _, fun kv hm' hle' => Int.le_trans (hmax kv hm' hle') (Int.le_of_lt hc.2)⟩⟩
      · simp only [if_neg hc]
        refine ⟨fun k v h => ?_, fun h => by cases h⟩
        cases h
        exact ⟨List.mem_cons_of_mem _ hm, hle, List.forall_mem_cons.mpr ⟨fun h0 => by simp only; omega, hmax⟩⟩

theorem apiBest_append_last (d : Int) (z : Int × Option V) : ∀ (l : List (Int × Option V)),
    (∀ x ∈ l, x.1 < z.1) → apiBest d (l ++ [z]) = if z.1 ≤ d then some z else apiBest d l
  | [], _ => by simp [apiBest]
  | (k, v) :: r, h => by
    have ih := apiBest_append_last d z r (fun x hx => h x (by simp [hx]))
    have hk : k < z.1 := h (k, v) (by simp)
    simp only [List.cons_append, apiBest, ih]
    by_cases hz : z.1 ≤ d
    · simp only [if_pos hz]
      have : ¬ (k ≤ d ∧ z.1 < k) := by omega
      simp only [if_neg this]
    · simp only [if_neg hz]

theorem apiBest_stable (D d : Int) (hD : D ≤ d) : ∀ (l : List (Int × Option V)),
    (∀ kv ∈ l, kv.1 ≤ d → kv.1 ≤ D) → apiBest D l = apiBest d l
  | [], _ => rfl
  | (k, v) :: r, hk => by
    have ih := apiBest_stable D d hD r (fun kv hkv => hk kv (List.mem_cons_of_mem _ hkv))
    have hk0 := hk (k, v) List.mem_cons_self
    simp only at hk0
    have hiff : k ≤ D ↔ k ≤ d := ⟨fun h => Int.le_trans h hD, hk0⟩
    simp only [apiBest, ih, hiff]

theorem apiGetValue_stable (D d : Int) (hD : D ≤ d) (l : List (Int × Option V))
    (hk : ∀ kv ∈ l, kv.1 ≤ d → kv.1 ≤ D) : apiGetValue D l = apiGetValue d l := by
  unfold apiGetValue; rw [apiBest_stable D d hD l hk]

theorem apiGetValue_spec (d : Int) (l : List (Int × Option V)) :
    (apiGetValue d l = none ∧ ∀ kv ∈ l, ¬ kv.1 ≤ d) ∨
    ∃ k, (k, apiGetValue d l) ∈ l ∧ k ≤ d ∧ ∀ kv ∈ l, kv.1 ≤ d → kv.1 ≤ k := by
  obtain ⟨h1, h2⟩ := apiBest_spec d l
  unfold apiGetValue
  cases hb : apiBest d l with
  | none => exact .inl ⟨rfl, h2 hb⟩
  | some p => exact .inr ⟨p.1, h1 p.1 p.2 hb⟩

theorem apiGetValue_none_of_after (d : Int) (l : List (Int × Option V)) (hno : ∀ kv ∈ l, ¬ kv.1 ≤ d) :
    apiGetValue d l = none :=
  (apiGetValue_spec d l).elim (·.1) fun ⟨_, hm, hle, _⟩ => absurd hle (hno _ hm)

theorem mem_servedHistory {l : List (Entry V)} {d : Int} {v : Option V} :
    (d, v) ∈ servedHistory l ↔ ∃ e ∈ l, e.date = d ∧ e.val = v := by
  simp only [servedHistory, List.mem_map, Prod.mk.injEq]

theorem apiGetValue_servedHistory (l : List (Entry V)) (hl : Sorted l) (d : Int) :
    apiGetValue d (servedHistory l) = pget l d := by
  have hmem : ∀ e ∈ l, (e.date, e.val) ∈ servedHistory l := fun e he => mem_servedHistory.mpr ⟨e, he, rfl, rfl⟩
  rcases apiGetValue_spec d (servedHistory l) with ⟨hn, hno⟩ | ⟨k, hm, hle, hmax⟩
  · rw [hn, pget_none_of_all_later l d fun e he => Int.not_le.mp (hno _ (hmem e he))]
  · obtain ⟨e, he, rfl, hv⟩ := mem_servedHistory.mp hm
    rw [← hv, pget_of_isLatest hl ⟨he, hle, fun e' he' => hmax _ (hmem e' he')⟩]

def baseFormulas (formulas : List (Int × V)) : List (Int × Option V) := formulas.map fun (s, f) => (s, some f)

theorem servedFormulas_none (l : List (Int × V)) : servedFormulas l none = baseFormulas l := rfl

theorem servedFormulas_some (l : List (Int × V)) (e : Int) :
    servedFormulas l (some e) = setKey (e + 1) none (baseFormulas l) := rfl

theorem apiGetValue_base : ∀ (l : List (Int × V)), l.Pairwise (fun a b => a.1 < b.1) → ∀ (d : Int),
    apiGetValue d (baseFormulas l) = latestStarted d l
  | [], _, _ => rfl
  | (s, f) :: r, hl, d => by
    obtain ⟨hlt, hr⟩ := List.pairwise_cons.mp hl
    have ih := apiGetValue_base r hr d
    have hs : baseFormulas ((s, f) :: r) = (s, some f) :: baseFormulas r := rfl
    simp only [apiGetValue, hs, apiBest, latestStarted] at ih ⊢
    cases hb : apiBest d (baseFormulas r) with
    | none =>
      rw [hb] at ih
      rw [← ih]
      by_cases hd : s ≤ d
      · simp only [if_pos hd]
      · simp only [if_neg hd]
    | some p =>
      -- the best entry of the tail starts later than `s` and carries a formula
      obtain ⟨k', v'⟩ := p
      obtain ⟨⟨_, g⟩, hx, he⟩ := List.mem_map.mp ((apiBest_spec d _).1 k' v' hb).1
      cases he
      have : ¬ (s ≤ d ∧ k' < s) := fun h => by have := hlt _ hx; simp only at this; omega
      rw [hb] at ih
      simp only [← ih, if_neg this]

theorem setKey_absent (k : Int) (v : Option V) : ∀ (l : List (Int × Option V)), (∀ x ∈ l, x.1 ≠ k) →
    setKey k v l = l ++ [(k, v)]
  | [], _ => rfl
  | (k', v') :: r, h => by
    have hne : k' ≠ k := h (k', v') (by simp)
    simp only [setKey, if_neg hne, List.cons_append, setKey_absent k v r (fun x hx => h x (by simp [hx]))]

theorem apiFormulaAt_served (l : List (Int × V)) (hl : l.Pairwise (fun a b => a.1 < b.1)) (stop : Option Int)
    (hstop : ∀ e, stop = some e → ∀ x ∈ l, x.1 ≤ e) (d : Int) :
    apiFormulaAt d (servedFormulas l stop) = engineFormulaAt l stop d := by
  cases stop with
  | none =>
    rw [servedFormulas_none]
    exact apiGetValue_base l hl d
  | some e =>
    have hlt : ∀ x ∈ baseFormulas l, x.1 < ((e + 1, none) : Int × Option V).1 := by
      intro x hx
      obtain ⟨y, hy, rfl⟩ := List.mem_map.mp hx
      have := hstop e rfl y hy
      simp only; omega
    have hserved : servedFormulas l (some e) = baseFormulas l ++ [(e + 1, none)] :=
      (servedFormulas_some l e).trans <| setKey_absent (e + 1) none _ (fun x hx => Int.ne_of_lt (hlt x hx))
    simp only [apiFormulaAt, hserved, engineFormulaAt, apiGetValue, apiBest_append_last d _ _ hlt]
    by_cases hd : e < d
    · have : e + 1 ≤ d := by omega
      simp only [if_pos this, if_pos hd]
    · have : ¬ e + 1 ≤ d := by omega
      simp only [if_neg this, if_neg hd]
      exact apiGetValue_base l hl d

end Listings

theorem mem_dedupDates (x : Int) : ∀ (l : List Int), x ∈ dedupDates l ↔ x ∈ l
  | [] => by simp [dedupDates]
  | y :: ys => by
    simp only [dedupDates, List.mem_cons, List.mem_filter, mem_dedupDates x ys, decide_eq_true_eq]
    by_cases e : x = y <;> simp [e]

theorem mem_bracketDates {brs : List ApiBracket} {b : ApiBracket} (hb : b ∈ brs) {kv : Int × Option Rat}
    (h : kv ∈ b.thresholds ∨ kv ∈ b.values) : kv.1 ∈ bracketDates brs :=
  List.mem_flatMap.mpr ⟨b, hb, List.mem_append.mpr (h.imp (List.mem_map.mpr ⟨kv, ·, rfl⟩) (List.mem_map.mpr ⟨kv, ·, rfl⟩))⟩

theorem foldl_congr_mem {α β : Type} (f g : β → α → β) (l : List α) (b : β) (h : ∀ a ∈ l, ∀ b, f b a = g b a) :
    l.foldl f b = l.foldl g b :=
  List.foldl_rel (r := Eq) rfl fun a ha c _ e => e ▸ h a ha c

theorem scaleRow_stable (brs : List ApiBracket) (D d : Int) (hD : D ≤ d)
    (hmax : ∀ k ∈ bracketDates brs, k ≤ d → k ≤ D) : scaleRow D brs = scaleRow d brs := by
  unfold scaleRow
  apply foldl_congr_mem
  intro b hb row
  rw [apiGetValue_stable D d hD b.thresholds (fun kv hkv => hmax kv.1 (mem_bracketDates hb (.inl hkv))),
    apiGetValue_stable D d hD b.values (fun kv hkv => hmax kv.1 (mem_bracketDates hb (.inr hkv)))]

theorem scaleRow_nil_of_before (brs : List ApiBracket) (d : Int) (hno : ∀ k ∈ bracketDates brs, ¬ k ≤ d) :
    scaleRow d brs = [] := by
  unfold scaleRow
  rw [foldl_congr_mem _ (fun row _ => row) brs [] (fun b hb row => by
    rw [apiGetValue_none_of_after d b.thresholds (fun kv hkv => hno kv.1 (mem_bracketDates hb (.inl hkv)))])]
  have hconst : ∀ (l : List ApiBracket) (row : List (Rat × Option Rat)), l.foldl (fun row _ => row) row = row :=
    fun l row => by induction l with
      | nil => rfl
      | cons _ _ ih => exact ih
  exact hconst brs []

theorem mem_servedScale {brs : List ApiBracket} {k : Int} {v : Option (List (Rat × Option Rat))} :
    (k, v) ∈ servedScale brs ↔ k ∈ bracketDates brs ∧ scaleRow k brs ≠ [] ∧ v = some (scaleRow k brs) := by
  unfold servedScale
  simp only [List.mem_filterMap, mem_dedupDates]
  constructor
  · rintro ⟨k', hk', hkv⟩
    split at hkv
    · cases hkv
    · next hne => cases hkv; exact ⟨hk', by simpa using hne, rfl⟩
  · rintro ⟨hk, hne, rfl⟩
    exact ⟨k, hk, by rw [if_neg (by simpa using hne)]⟩

theorem servedScale_read (brs : List ApiBracket) (d : Int) :
    (∀ D, D ∈ bracketDates brs → D ≤ d → (∀ k ∈ bracketDates brs, k ≤ d → k ≤ D) → scaleRow D brs ≠ [] →
      apiGetValue d (servedScale brs) = some (scaleRow d brs)) ∧
    ((∀ k ∈ bracketDates brs, ¬ k ≤ d) → apiGetValue d (servedScale brs) = none ∧ scaleRow d brs = []) := by
  constructor
  · intro D hDm hDd hmax hne
    have hDs : (D, some (scaleRow D brs)) ∈ servedScale brs := mem_servedScale.mpr ⟨hDm, hne, rfl⟩
    rcases apiGetValue_spec d (servedScale brs) with ⟨_, hno⟩ | ⟨k, hm, hle, hgt⟩
    · exact absurd hDd (hno _ hDs)
    obtain ⟨hk', _, hv⟩ := mem_servedScale.mp hm
    -- the row picked is that of the latest date on or before `d`, and nothing changes from there to `d`
    rw [hv, Int.le_antisymm (hmax k hk' hle) (hgt _ hDs hDd), scaleRow_stable brs D d hDd hmax]
  · intro hno
    refine ⟨?_, scaleRow_nil_of_before brs d hno⟩
    apply apiGetValue_none_of_after
    intro kv hkv
    exact hno kv.1 (mem_servedScale.mp hkv).1

theorem buildApiScale_cons {b0 : ApiBracket} (r : List ApiBracket) (h : ∀ d, latestEntry b0.thresholds ≠ some (d, none)) :
    buildApiScale (b0 :: r) = servedScale (b0 :: r) := by
  unfold buildApiScale
  cases hl : latestEntry b0.thresholds with
  | none => simp only [hl]
  | some p =>
    obtain ⟨d, v⟩ := p
    cases v with
    | none => exact absurd hl (h d)
    | some x => simp only [hl]

end OFCore.Api
