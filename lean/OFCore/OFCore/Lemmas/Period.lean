import OFCore.Lemmas.ShiftLaws
import OFCore.Lemmas.Except
/-!
What the partial operations of `Period.lean` return, when they return a value, in terms of `shiftDate` and of the
interval of ordinals `[lo, hi]` (`…_eq`: equations, `…_eq_ok`: iff forms).
-/
namespace OFCore

attribute [simp] bind_eq_ok map_eq_ok pure_eq_ok

theorem DUnit.mem_all (u : DUnit) : u ∈ DUnit.all := by cases u <;> decide

instance (P : DUnit → Prop) [DecidablePred P] : Decidable (∀ u, P u) :=
  decidable_of_iff (∀ u ∈ DUnit.all, P u) ⟨fun h u => h u u.mem_all, fun h u _ => h u⟩

theorem chk_ok {c d : Date} (h : chk c = .ok d) : d = c ∧ 1 ≤ c.y ∧ c.y ≤ 9999 := by
  unfold chk at h; split at h
  · injection h with h; exact ⟨h.symm, by assumption⟩
  · cases h

theorem dateOk_iff (c : Date) : dateOk c = true ↔ c.Valid ∧ c.y ≤ 9999 := by
  simp [dateOk]

theorem instOffset_n_eq (c : Date) (k : Int) (u : DUnit) :
    instOffset c (.n k) u = if u = .eternity then .error "assert" else
      if !dateOk c then .error "date" else (chk (shiftDate c k u)).map some := by
  cases u <;> rfl

theorem instOffset_n_eq_ok {c : Date} {k : Int} {u : DUnit} {r : Option Date} :
    instOffset c (.n k) u = .ok r ↔ u ≠ .eternity ∧ (c.Valid ∧ c.y ≤ 9999) ∧
      (1 ≤ (shiftDate c k u).y ∧ (shiftDate c k u).y ≤ 9999) ∧ r = some (shiftDate c k u) := by
  rw [instOffset_n_eq, ← dateOk_iff]
  by_cases hu : u = .eternity
  · simp [hu]
  · cases hc : dateOk c
    · simp [hu]
    · simp only [hu, chk, Bool.not_true, Bool.false_eq_true, if_false, map_eq_ok]
      split <;> simp [*, eq_comm]

theorem instOffset_n_ok (c : Date) (k : Int) (u : DUnit) (r : Option Date)
    (h : instOffset c (.n k) u = .ok r) :
    c.Valid ∧ ∃ d, r = some d ∧ 1 ≤ d.y ∧ d.y ≤ 9999 ∧
      d = shiftDate c k u := by
  obtain ⟨_, hc, ⟨h1, h2⟩, rfl⟩ := instOffset_n_eq_ok.1 h
  exact ⟨hc.1, _, rfl, h1, h2, rfl⟩

theorem instOffset_firstOf_week (c : Date) : instOffset c .firstOf .week =
    if dateOk c then (chk (startOfWeek c)).map some else .error "date" := rfl

theorem instOffset_firstOf_week_eq_ok {c s : Date} : instOffset c .firstOf .week = .ok (some s) ↔
    (c.Valid ∧ c.y ≤ 9999) ∧ chk (startOfWeek c) = .ok s := by
  rw [instOffset_firstOf_week, ← dateOk_iff]
  cases dateOk c <;> cases chk (startOfWeek c) <;> simp [Except.map]

theorem instOffset_lastOf_week_eq_ok {c e : Date} : instOffset c .lastOf .week = .ok (some e) ↔
    (c.Valid ∧ c.y ≤ 9999) ∧ chk (endOfWeek c) = .ok e := by
  rw [← dateOk_iff]
  show (if dateOk c then (chk (endOfWeek c)).map some else .error "date") = _ ↔ _
  cases dateOk c <;> cases chk (endOfWeek c) <;> simp [Except.map]

theorem instOffset_lastOf_month_eq_ok {c e : Date} : instOffset c .lastOf .month = .ok (some e) ↔
    (c.Valid ∧ c.y ≤ 9999) ∧ endOfMonth c = e := by
  rw [← dateOk_iff]
  show (if dateOk c then Except.ok (some (endOfMonth c)) else .error "date") = _ ↔ _
  cases dateOk c <;> simp

theorem startOfWeek_ok {c d : Date} (h : chk (startOfWeek c) = .ok d) :
    d.Valid ∧ ord d = ord c - weekday0 (ord c) ∧ weekday0 (ord d) = 0 := by
  obtain ⟨rfl, hy, _⟩ := chk_ok h
  have hpos : 1 ≤ ord c - weekday0 (ord c) := (ofOrd_year_pos _).1 hy
  exact ⟨ofOrd_valid _ hpos, ord_startOfWeek c, weekday0_startOfWeek c⟩

theorem thisYear_eq (p : Period) : p.thisYear = .ok ⟨.year, ⟨p.start.y, 1, 1⟩, 1⟩ := rfl

theorem firstMonth_eq (p : Period) :
    p.firstMonth = .ok ⟨.month, ⟨p.start.y, p.start.m, 1⟩, 1⟩ := rfl

theorem firstWeek_eq_ok {p q : Period} : p.firstWeek = .ok q ↔
    (p.start.Valid ∧ p.start.y ≤ 9999) ∧ ∃ d, chk (startOfWeek p.start) = .ok d ∧ q = ⟨.week, d, 1⟩ := by
  rw [Period.firstWeek, instOffset_firstOf_week, ← dateOk_iff]
  cases dateOk p.start <;> cases chk (startOfWeek p.start) <;>
    simp [Except.map, bind, Except.bind, eq_comm]

theorem offset_eq_ok {b q : Period} {off : Off} {uo : Option DUnit} : b.offset off uo = .ok q ↔
    ∃ s, instOffset b.start off (uo.getD b.unit) = .ok (some s) ∧ q = ⟨b.unit, s, b.size⟩ := by
  rw [Period.offset]
  cases instOffset b.start off (uo.getD b.unit) with
  | error e => simp [bind, Except.bind]
  | ok r => cases r <;> simp [bind, Except.bind, eq_comm]

theorem offset_n_ok (b : Period) (i : Int) (uo : Option DUnit) (q : Period)
    (h : b.offset (.n i) uo = .ok q) :
    b.start.Valid ∧ q = ⟨b.unit, shiftDate b.start i (uo.getD b.unit), b.size⟩ := by
  obtain ⟨s, hs, rfl⟩ := offset_eq_ok.1 h
  obtain ⟨_, hc, _, hd⟩ := instOffset_n_eq_ok.1 hs
  cases hd
  exact ⟨hc.1, rfl⟩

theorem date_eq_ok {p : Period} {d : Date} :
    p.date = .ok d ↔ p.size = 1 ∧ (p.start.Valid ∧ p.start.y ≤ 9999) ∧ d = p.start := by
  rw [Period.date, ite_error_eq_ok, ← dateOk_iff]
  cases dateOk p.start <;> simp [eq_comm]

theorem hi_eq_shiftDate (p : Period) (hu : p.unit ≠ .eternity) :
    p.hi = ord (shiftDate p.start p.size p.unit) - 1 := by
  obtain ⟨u, c, n⟩ := p
  cases u <;> simp only [Period.hi, shiftDate]
  case eternity => exact absurd rfl hu
  all_goals rw [ord_addDays]

/-- the day after the period, as a date -/
def Period.afterDate (p : Period) : Date :=
  match p.unit with
  | .year => addMonths p.start (12 * p.size)
  | .month => addMonths p.start p.size
  | .week => addDays p.start (7 * p.size)
  | _ => addDays p.start p.size

theorem Period.afterDate_eq (p : Period) : p.afterDate = shiftDate p.start p.size p.unit := by
  obtain ⟨u, c, n⟩ := p; cases u <;> rfl

theorem hi_eq (p : Period) (h : p.WF) : p.hi = ord p.afterDate - 1 := by
  rw [p.afterDate_eq]; exact hi_eq_shiftDate p h.1

theorem lo_le_hi (p : Period) (h : p.WF) : p.lo ≤ p.hi := by
  have := ord_shiftDate_lt p.start h.2.1 p.size h.2.2 p.unit
  rw [hi_eq_shiftDate p h.1, Period.lo]; omega

theorem hi_year_jan (y n : Int) : (Period.mk .year ⟨y, 1, 1⟩ n).hi = ord ⟨y + n - 1, 12, 31⟩ := by
  have := ord_jan1_succ (y + n - 1)
  rw [Int.sub_add_cancel] at this
  simp only [Period.hi, addMonths_jan1]; omega

theorem hi_one_year (y : Int) : (Period.mk .year ⟨y, 1, 1⟩ 1).hi = ord ⟨y, 12, 31⟩ := by
  rw [hi_year_jan, Int.add_sub_cancel]

theorem hi_month_first (y1 m1 y2 m2 : Int) (h2 : 1 ≤ m2 ∧ m2 ≤ 12) (hy : 1 ≤ y2) :
    (Period.mk .month ⟨y1, m1, 1⟩ ((y2 - y1) * 12 + m2 - m1 + 1)).hi = ord ⟨y2, m2, dim y2 m2⟩ := by
  simp only [Period.hi]
  have key : addMonths ⟨y1, m1, 1⟩ ((y2 - y1) * 12 + m2 - m1 + 1) = addMonths ⟨y2, m2, 1⟩ 1 :=
    addMonths_congr (by simp only; omega) rfl
  rw [key, ord_addMonths_one _ (valid_first y2 m2 hy h2.1 h2.2) rfl]
  simp only [ord]; omega

theorem firstOf_spec (c : Date) (hv : c.Valid) (u : DUnit) (s : Date)
    (h : instOffset c .firstOf u = .ok (some s)) :
    (u = .year ∨ u = .month ∨ u = .week) ∧ s.Valid ∧ AlignedTo s u ∧
    ord s ≤ ord c ∧ ord c ≤ (Period.mk u s 1).hi ∧
    (s.y ≤ 9999 → instOffset s .firstOf u = .ok (some s)) := by
  have hy := hv.1
  cases u
  case weekday | day | eternity => cases h
  case week =>
    obtain ⟨_, hc⟩ := instOffset_firstOf_week_eq_ok.1 h
    obtain ⟨hsv, ho, hmon⟩ := startOfWeek_ok hc
    obtain ⟨rfl, _, hy2⟩ := chk_ok hc
    have hw := weekday0_range (ord c)
    refine ⟨Or.inr (Or.inr rfl), hsv, hmon, by omega, by simp only [Period.hi]; omega, fun _ => ?_⟩
    exact instOffset_firstOf_week_eq_ok.2
      ⟨⟨hsv, hy2⟩, by rw [startOfWeek_monday _ hsv hmon]; exact hc⟩
  case month =>
    cases h
    have hsv : (Date.mk c.y c.m 1).Valid := valid_first c.y c.m hy hv.2.1 hv.2.2.1
    have := hv.2.2.2
    refine ⟨Or.inr (Or.inl rfl), hsv, rfl, ?_, ?_, fun _ => rfl⟩
    · rw [ord_month_day c]; omega
    · simp only [Period.hi]
      rw [ord_addMonths_one _ hsv rfl, ord_month_day c]; simp only; omega
  case year =>
    cases h
    have hsv : (Date.mk c.y 1 1).Valid := valid_first c.y 1 hy (by omega) (by omega)
    have hb := ord_year_bounds c hv
    refine ⟨Or.inl rfl, hsv, ⟨rfl, rfl⟩, hb.1, ?_, fun _ => rfl⟩
    rw [hi_one_year]; exact hb.2

theorem stop_ord (p : Period) (hu : p.unit ≠ .eternity) (s : Date) (hs : p.stop = .ok s) :
    s.Valid ∧ ord s = p.hi := by
  unfold Period.stop at hs
  unfold Period.hi
  cases hp : p.unit <;> simp only [hp] at hs ⊢
  case eternity => exact absurd hp hu
  all_goals split at hs
  case month.isTrue | year.isTrue =>
    obtain ⟨a, ha, hs⟩ := bind_ok hs
    obtain ⟨rfl, _⟩ := chk_ok ha
    obtain ⟨rfl, hy, _⟩ := chk_ok hs
    exact addDays_of_year_pos _ (-1) hy
  case weekday.isTrue | week.isTrue | day.isTrue =>
    obtain ⟨rfl, hy, _⟩ := chk_ok hs
    have := addDays_of_year_pos _ _ hy; exact ⟨this.1, by omega⟩
  all_goals cases hs

theorem stop_spec (p : Period) (h : p.WF) (s : Date) (hs : p.stop = .ok s) : s.Valid ∧ ord s = p.hi :=
  stop_ord p h.1 s hs

/-- `days` answers for dated periods only: the stop of the eternal period is not a date -/
theorem days_count (p : Period) (k : Int) (hk : p.days = .ok k) : k = p.hi - p.lo + 1 := by
  obtain ⟨s, hs, hk⟩ := bind_ok hk
  rcases of_ite_eq hk with ⟨hok, hk⟩ | ⟨-, hk⟩
  · cases hk
    have hu : p.unit ≠ .eternity := fun he => by
      unfold Period.stop at hs; simp only [he] at hs; cases hs
      exact absurd hok.1 (by decide)
    rw [(stop_ord p hu s hs).2, Period.lo]
  · cases hk

theorem spanDays_count (p : Period) (k : Int) (hk : p.spanDays = .ok k) : k = p.hi - p.lo + 1 := by
  obtain ⟨r, hr, hk⟩ := bind_ok hk
  obtain ⟨hne, _, _, rfl⟩ := instOffset_n_eq_ok.1 hr
  obtain ⟨r2, hr2, hk⟩ := bind_ok hk
  obtain ⟨_, _, _, rfl⟩ := instOffset_n_eq_ok.1 hr2
  cases hk
  rw [hi_eq_shiftDate p hne, Period.lo, shiftDate, ord_addDays]; omega

theorem spanDays_spec (p : Period) (_ : p.WF) (_ : p.unit = .year ∨ p.unit = .month) (k : Int)
    (hk : p.spanDays = .ok k) : k = p.hi - p.lo + 1 := spanDays_count p k hk

theorem span_daylike (p : Period) (h : p.unit = .weekday ∨ p.unit = .day) : p.hi - p.lo + 1 = p.size := by
  rcases h with h | h <;> simp only [Period.hi, Period.lo, h] <;> omega

theorem hi_eq_lo_of_day {p : Period} (hs : p.size = 1) (hu : p.unit = .day ∨ p.unit = .weekday) : p.hi = p.lo := by
  have := span_daylike p hu.symm; omega

theorem span_week (p : Period) (h : p.unit = .week) : p.hi - p.lo + 1 = p.size * 7 := by
  simp only [Period.hi, Period.lo, h]; omega

theorem sizeInDays_count (p : Period) (k : Int) (hk : p.sizeInDays = .ok k) : k = p.hi - p.lo + 1 := by
  unfold Period.sizeInDays at hk
  cases hu : p.unit <;> rw [hu] at hk <;> simp only at hk
  case month | year => exact spanDays_count p k hk
  case eternity => cases hk
  case week => cases hk; exact (span_week p hu).symm
  case day => cases hk; exact (span_daylike p (.inr hu)).symm
  case weekday => cases hk; exact (span_daylike p (.inl hu)).symm

/-- not for year periods: their weekdays are counted in whole weeks -/
theorem sizeInWeekdays_eq_days (p : Period) (hny : p.unit ≠ .year) : p.sizeInWeekdays = p.sizeInDays := by
  obtain ⟨u, c, n⟩ := p
  cases u
  case year => exact absurd rfl hny
  all_goals rfl

theorem sizeInWeekdays_count (p : Period) (hny : p.unit ≠ .year) (k : Int)
    (hk : p.sizeInWeekdays = .ok k) : k = p.hi - p.lo + 1 :=
  sizeInDays_count p k (sizeInWeekdays_eq_days p hny ▸ hk)

theorem sizeInWeeks_eq (p : Period) (hu : p.unit = .year ∨ p.unit = .month) : p.sizeInWeeks =
    if dateOk p.start then chk (shiftDate p.start p.size p.unit) >>= fun c => .ok (inWeeks p.start c)
    else .error "date" := by
  rcases hu with hu | hu <;> simp only [Period.sizeInWeeks, hu] <;> rfl

theorem inWeeks_span (p : Period) (hp : p.WF) :
    inWeeks p.start (shiftDate p.start p.size p.unit) = (p.hi - p.lo + 1) / 7 := by
  have hll := lo_le_hi p hp
  rw [hi_eq_shiftDate p hp.1, Period.lo] at hll ⊢
  rw [inWeeks, if_neg (by omega)]; omega

theorem sizeInWeeks_count (p : Period) (hp : p.WF) (hu : p.unit = .year ∨ p.unit = .month) (k : Int)
    (hk : p.sizeInWeeks = .ok k) : k = (p.hi - p.lo + 1) / 7 := by
  rw [sizeInWeeks_eq p hu] at hk
  rcases of_ite_eq hk with ⟨-, h⟩ | ⟨-, h⟩
  · obtain ⟨c, hc, h⟩ := bind_ok h
    obtain ⟨rfl, -⟩ := chk_ok hc
    cases h; exact inWeeks_span p hp
  · cases h

theorem ord_max' (a b : Date) (ha : a.Valid) (hb : b.Valid) :
    (Date.max' a b).Valid ∧ ord (Date.max' a b) = max (ord a) (ord b) := by
  unfold Date.max'
  split
  · rename_i h; have := (lt_iff_ord_lt a b ha hb).1 h; exact ⟨hb, by omega⟩
  · rename_i h; have := mt (lt_iff_ord_lt a b ha hb).2 h; exact ⟨ha, by omega⟩

theorem ord_min' (a b : Date) (ha : a.Valid) (hb : b.Valid) :
    (Date.min' a b).Valid ∧ ord (Date.min' a b) = min (ord a) (ord b) := by
  unfold Date.min'
  split
  · rename_i h; have := (lt_iff_ord_lt b a hb ha).1 h; exact ⟨hb, by omega⟩
  · rename_i h; have := mt (lt_iff_ord_lt b a hb ha).2 h; exact ⟨ha, by omega⟩

theorem getD_valid {a : Option Date} {c : Date} (ha : ∀ x, a = some x → x.Valid) (hc : c.Valid) :
    (a.getD c).Valid := by
  cases a with
  | none => exact hc
  | some x => exact ha x rfl

/-- ordinal bounds of the requested range, defaulting to the period's own bounds -/
def rangeLo (p : Period) (a : Option Date) : Int := (a.map ord).getD p.lo
def rangeHi (p : Period) (b : Option Date) : Int := (b.map ord).getD p.hi

theorem offsetsFrom_pieces (b : Period) (u : DUnit) (n : Int) (qs : List Period)
    (h : offsetsFrom b u n = .ok qs) :
    ∀ q ∈ qs, b.start.Valid ∧ ∃ i : Nat, q = ⟨b.unit, shiftDate b.start i u, b.size⟩ := by
  intro q hq
  obtain ⟨i, _, hi⟩ := mapM_mem_ok h hq
  obtain ⟨hv, he⟩ := offset_n_ok _ _ _ _ hi
  exact ⟨hv, i, by simpa using he⟩

theorem offsetsFrom_eq_map {b : Period} {u : DUnit} {n : Int} {qs : List Period}
    (h : offsetsFrom b u n = .ok qs) :
    qs = (List.range n.toNat).map fun i : Nat => ⟨b.unit, shiftDate b.start i u, b.size⟩ :=
  mapM_ok_eq_map (fun _ _ _ hq => (offset_n_ok _ _ _ _ hq).2) h

theorem tiles_shift_range (s : Date) (hv : s.Valid) (u : DUnit) (hu : u ≠ .eternity)
    (hal : NoClip s u) : ∀ (len a : Nat),
    Tiles ((List.range' a len).map fun i : Nat => Period.mk u (shiftDate s i u) 1)
      (ord (shiftDate s a u)) (ord (shiftDate s (a + len : Nat) u) - 1)
  | 0, a => by simp only [List.range'_zero, List.map_nil, Tiles, Nat.add_zero]; omega
  | len + 1, a => by
    have ha : (0 : Int) ≤ a := Int.natCast_nonneg a
    have hva := shiftDate_valid s hv a ha u
    have hlt := ord_shiftDate_lt _ hva 1 (by decide) u
    have hnext : ord (shiftDate (shiftDate s a u) 1 u) = ord (shiftDate s ((a + 1 : Nat) : Int) u) :=
      congrArg ord (shiftDate_add s u hal a 1)
    have hhi := hi_eq_shiftDate ⟨u, shiftDate s a u, 1⟩ hu
    have ih := tiles_shift_range s hv u hu hal len (a + 1)
    rw [Nat.add_right_comm a 1 len] at ih
    refine ⟨rfl, ?_, ?_⟩
    · rw [hhi, Period.lo]; simp only; omega
    · rw [hhi, hnext, Int.sub_add_cancel]; exact ih

def shiftPieces (u : DUnit) (s : Date) (n : Nat) : List Period :=
  (List.range n).map fun i : Nat => ⟨u, shiftDate s i u, 1⟩

theorem length_shiftPieces (u : DUnit) (s : Date) (n : Nat) : (shiftPieces u s n).length = n := by
  simp [shiftPieces]

theorem mem_shiftPieces {u : DUnit} {s : Date} {n : Nat} {q : Period} (h : q ∈ shiftPieces u s n) :
    q.unit = u ∧ q.size = 1 := by
  obtain ⟨i, _, rfl⟩ := List.mem_map.1 h
  exact ⟨rfl, rfl⟩

theorem tiles_shiftPieces (s : Date) (hv : s.Valid) (u : DUnit) (hu : u ≠ .eternity) (hal : NoClip s u) (n : Nat) :
    Tiles (shiftPieces u s n) (ord s) (ord (shiftDate s n u) - 1) := by
  have := tiles_shift_range s hv u hu hal n 0
  rwa [← List.range_eq_range', Nat.zero_add, Int.natCast_zero, shiftDate_zero s hv] at this

/-- `[base.offset(i, u) for i in range(start, start+len)]` tiles the interval it spans -/
theorem tiles_range' (s : Date) (hv : s.Valid) (u : DUnit) (hu : u ≠ .eternity)
    (hal : (u = .month ∨ u = .year) → s.d = 1) :
    ∀ (len start : Nat) (qs : List Period),
      (List.range' start len).mapM (fun (i : Nat) => (Period.mk u s 1).offset (.n (Int.ofNat i)) (some u)) = .ok qs →
      Tiles qs (ord (shiftDate s start u)) (ord (shiftDate s (start + len : Nat) u) - 1) ∧
      ∀ q ∈ qs, q.unit = u ∧ q.size = 1 := by
  intro len start qs h
  cases mapM_ok_eq_map (g := fun i : Nat => Period.mk u (shiftDate s i u) 1)
    (fun _ _ _ hq => (offset_n_ok _ _ _ _ hq).2) h
  refine ⟨tiles_shift_range s hv u hu (fun h => by rw [hal h]; decide) len start, fun q hq => ?_⟩
  obtain ⟨i, _, rfl⟩ := List.mem_map.1 hq
  exact ⟨rfl, rfl⟩

theorem offsetsFrom_tiles (s : Date) (hv : s.Valid) (u : DUnit) (hu : u ≠ .eternity)
    (hal : NoClip s u) (n : Int) (hn : 0 ≤ n) (qs : List Period)
    (h : offsetsFrom ⟨u, s, 1⟩ u n = .ok qs) :
    Tiles qs (ord s) (ord (shiftDate s n u) - 1) ∧ ∀ q ∈ qs, q.unit = u ∧ q.size = 1 := by
  have e : qs = shiftPieces u s n.toNat := offsetsFrom_eq_map h
  have := tiles_shiftPieces s hv u hu hal n.toNat
  rw [Int.toNat_of_nonneg hn] at this
  exact e ▸ ⟨this, fun _ => mem_shiftPieces⟩

theorem tiles_append : ∀ (as bs : List Period) (lo mid hi : Int),
    Tiles as lo mid → Tiles bs (mid + 1) hi → Tiles (as ++ bs) lo hi
  | [], _, _, _, _, ha, hb => by simp only [Tiles] at ha; rw [ha]; exact hb
  | _ :: as, bs, _, mid, hi, ⟨h1, h2, h3⟩, hb => ⟨h1, h2, tiles_append as bs _ mid hi h3 hb⟩

theorem tiles_le : ∀ (qs : List Period) (lo hi : Int), Tiles qs lo hi → lo ≤ hi + 1
  | [], _, _, h => by simp only [Tiles] at h; omega
  | _ :: qs, _, hi, ⟨h1, h2, h3⟩ => by have := tiles_le qs _ hi h3; omega

theorem tiles_flatten : ∀ (qs : List Period) (dss : List (List Period)) (lo hi : Int),
    Tiles qs lo hi → Piecewise (fun q ds => Tiles ds q.lo q.hi) qs dss → Tiles dss.flatten lo hi
  | [], [], _, _, ht, _ => by simpa using ht
  | [], _ :: _, _, _, _, hf => hf.elim
  | _ :: _, [], _, _, _, hf => hf.elim
  | _ :: qs, ds :: dss, _, hi, ⟨h1, _, h3⟩, ⟨hq, hrest⟩ => by
    rw [List.flatten_cons, ← h1]
    exact tiles_append _ _ _ _ _ hq (tiles_flatten qs dss _ hi h3 hrest)

/-- a one-day piece named by its ordinal -/
def IsDayPiece (q : Period) : Prop := q.unit = .day ∧ q.size = 1 ∧ q.start = ofOrd q.lo

theorem IsDayPiece.hi_eq_lo {q : Period} (h : IsDayPiece q) : q.hi = q.lo :=
  hi_eq_lo_of_day h.2.1 (.inl h.1)

theorem IsDayPiece.ext {a b : Period} (ha : IsDayPiece a) (hb : IsDayPiece b) (h : a.lo = b.lo) :
    a = b := by
  obtain ⟨au, ast, an⟩ := a
  obtain ⟨bu, bst, bn⟩ := b
  obtain ⟨rfl, rfl, hast⟩ := ha
  obtain ⟨rfl, rfl, hbst⟩ := hb
  simp only at hast hbst
  rw [hast, hbst, h]

theorem tiles_days_unique : ∀ (as bs : List Period) (lo hi : Int), Tiles as lo hi → Tiles bs lo hi →
    (∀ q ∈ as, IsDayPiece q) → (∀ q ∈ bs, IsDayPiece q) → as = bs := by
  intro as
  induction as with
  | nil =>
    intro bs lo hi ha hb _ hB
    cases bs with
    | nil => rfl
    | cons b bs =>
      simp only [Tiles] at ha
      obtain ⟨h1, h2, h3⟩ := hb
      have := (hB b List.mem_cons_self).hi_eq_lo
      have := tiles_le _ _ _ h3
      omega
  | cons a as ih =>
    intro bs lo hi ha hb hA hB
    obtain ⟨ha1, ha2, ha3⟩ := ha
    have hahi := (hA a List.mem_cons_self).hi_eq_lo
    cases bs with
    | nil => simp only [Tiles] at hb; have := tiles_le _ _ _ ha3; omega
    | cons b bs =>
      obtain ⟨hb1, hb2, hb3⟩ := hb
      obtain rfl : a = b :=
        (hA a List.mem_cons_self).ext (hB b List.mem_cons_self) (ha1.trans hb1.symm)
      congr 1
      exact ih bs _ hi ha3 hb3 (fun q hq => hA q (List.mem_cons_of_mem _ hq))
        (fun q hq => hB q (List.mem_cons_of_mem _ hq))

theorem Piecewise.imp {R R' : Period → List Period → Prop} :
    ∀ (qs : List Period) (dss : List (List Period)),
    (∀ q ∈ qs, ∀ ds, R q ds → R' q ds) → Piecewise R qs dss → Piecewise R' qs dss
  | [], [], _, _ => trivial
  | [], _ :: _, _, h => h.elim
  | _ :: _, [], _, h => h.elim
  | q :: qs, ds :: dss, himp, h =>
    ⟨himp q List.mem_cons_self ds h.1,
      Piecewise.imp qs dss (fun q' hq' => himp q' (List.mem_cons_of_mem _ hq')) h.2⟩

theorem Piecewise.flatten_all {R : Period → List Period → Prop} {P : Period → Prop} :
    ∀ (qs : List Period) (dss : List (List Period)),
    (∀ q ∈ qs, ∀ ds, R q ds → ∀ x ∈ ds, P x) → Piecewise R qs dss → ∀ x ∈ dss.flatten, P x
  | [], [], _, _, _, hx => nomatch hx
  | [], _ :: _, _, h, _, _ => h.elim
  | _ :: _, [], _, h, _, _ => h.elim
  | q :: qs, ds :: dss, himp, h, x, hx => by
    rcases List.mem_append.1 (List.flatten_cons ▸ hx) with hx | hx
    · exact himp q List.mem_cons_self ds h.1 x hx
    · exact Piecewise.flatten_all qs dss (fun q' hq' => himp q' (List.mem_cons_of_mem _ hq')) h.2 x hx

end OFCore
