import OFCore.Lemmas.TaxScaleClip
import OFCore.Lemmas.ListGetD
/-!
# Tax scales: `combine_bracket` / `add_tax_scale`, followed in the increment form `incr`, `Σ Δrate·(x − τ t)⁺`
-/
namespace OFCore.Sca

/-- increment form `Σ (rate_i − rate_{i−1}) × (x − τ t_i)⁺`; `prev` is the rate before the list -/
def incr (τ : Rat → Rat) (prev : Rat) : Scale → Rat → Rat
  | [], _ => 0
  | (t, r) :: rest, x => (r - prev) * pp (x - τ t) + incr τ r rest x

def posAt (τ : Rat → Rat) (s : Scale) (j : Nat) (x : Rat) : Rat :=
  match s[j]? with
  | some b => pp (x - τ b.1)
  | none => 0

theorem posAt_cons_zero (τ : Rat → Rat) (b : Rat × Rat) (rest : Scale) (x : Rat) :
    posAt τ (b :: rest) 0 x = pp (x - τ b.1) := rfl

theorem posAt_cons_succ (τ : Rat → Rat) (b : Rat × Rat) (rest : Scale) (j : Nat) (x : Rat) :
    posAt τ (b :: rest) (j + 1) x = posAt τ rest j x := rfl

theorem posAt_length (τ : Rat → Rat) (s : Scale) (x : Rat) : posAt τ s s.length x = 0 := by
  unfold posAt
  simp

theorem posAt_eq (τ : Rat → Rat) (s : Scale) (j : Nat) (x : Rat) :
    posAt τ s j x = match (thresholds s)[j]? with | some u => pp (x - τ u) | none => 0 := by
  unfold posAt thresholds
  rw [List.getElem?_map]
  cases s[j]? <;> rfl

theorem posAt_of_thresholds (τ : Rat → Rat) {s s' : Scale} (h : thresholds s' = thresholds s) (j : Nat) (x : Rat) :
    posAt τ s' j x = posAt τ s j x := by
  rw [posAt_eq, posAt_eq, h]

theorem incr_prev (τ : Rat → Rat) (p d : Rat) (s : Scale) (x : Rat) :
    incr τ (p + d) s x = incr τ p s x - d * posAt τ s 0 x := by
  cases s with
  | nil => exact (sub_zero _).symm.trans (congrArg _ (mul_zero d).symm)
  | cons b rest => obtain ⟨t, r⟩ := b; rw [incr, incr, posAt_cons_zero]; ring

theorem incr_eq_clipSum (τ : Rat → Rat) (s : Scale) (hl : WSorted (mapT τ s)) (prev x : Rat) :
    incr τ prev s x = clipSum none true (mapT τ s) x - prev * ppHead (mapT τ s) x := by
  induction s generalizing prev with
  | nil => simp [incr, clipSum, ppHead, mapT]
  | cons a rest ih =>
    obtain ⟨t, r⟩ := a
    have hl' : (∀ c ∈ mapT τ rest, τ t ≤ c.1) ∧ WSorted (mapT τ rest) := wsorted_cons.mp hl
    rw [incr, ih hl'.2 r]
    show _ = clipSum none true ((τ t, r) :: mapT τ rest) x - prev * pp (x - τ t)
    rw [clipSum_cons (τ t) r _ x hl'.1]
    ring

theorem calc_eq_incr (ε f : Rat) (hf : 0 < f + ε) (s : Scale) (hs : StrictSorted s) (x : Rat) :
    calcMR ε f none s x = incr (thrMap ε f none) 0 s x := by
  rw [incr_eq_clipSum _ s (wsorted_thr hf hs) 0 x, calcMR_pos hf, zero_mul, sub_zero]

theorem rateBelow_eq_scan (s : Scale) (t : Rat) : rateBelow s t = scanRate 0 s t := by
  suffices h : ∀ prev, (match bisectRight s t with
      | 0 => prev
      | k + 1 => (s.getD k (0, 0)).2) = scanRate prev s t from h 0
  induction s with
  | nil => exact fun _ => rfl
  | cons a rest ih =>
    obtain ⟨t1, r1⟩ := a
    intro prev
    by_cases h : t1 ≤ t
    · have ih := ih r1
      simp only [bisectRight, h, if_true, scanRate]
      rw [← ih]
      cases bisectRight rest t with
      | zero => rfl
      | succ k => rfl
    · simp [bisectRight, h, scanRate]

/-- inserting an absent threshold with the rate found below it does not change the tax -/
theorem incr_ins_split (τ : Rat → Rat) (s : Scale) (t : Rat) (hn : hasT s t = false) (prev x : Rat) :
    incr τ prev (ins s t (scanRate prev s t)) x = incr τ prev s x := by
  induction s generalizing prev with
  | nil => simp [ins, scanRate, incr]
  | cons a rest ih =>
    obtain ⟨t1, r1⟩ := a
    simp only [hasT_cons, Bool.or_eq_false_iff, decide_eq_false_iff_not] at hn
    have h1 : ¬ t = t1 := fun e => hn.1 e.symm
    by_cases h2 : t < t1
    · have h3 : ¬ t1 ≤ t := not_le.mpr h2
      simp only [ins, h1, h2, if_false, if_true, scanRate, h3, incr]
      ring
    · have h3 : t1 ≤ t := not_lt.mp h2
      simp only [ins, h1, h2, if_false, scanRate, h3, if_true, incr]
      rw [ih hn.2 r1]

theorem splitAt_spec (s : Scale) (hs : StrictSorted s) (t : Rat) :
    StrictSorted (splitAt s t) ∧ (∀ u, hasT (splitAt s t) u = (hasT s u || decide (t = u))) ∧
    ∀ τ x, incr τ 0 (splitAt s t) x = incr τ 0 s x := by
  unfold splitAt
  by_cases h : hasT s t = true
  · rw [if_pos h]
    refine ⟨hs, fun u => ?_, fun _ _ => rfl⟩
    by_cases e : t = u
    · rw [← e, h, decide_eq_true rfl]; rfl
    · rw [decide_eq_false e, Bool.or_false]
  · rw [if_neg h, addBracket_eq_ins s hs, rateBelow_eq_scan]
    exact ⟨ins_sorted hs _ _, hasT_ins s t _, fun τ x => incr_ins_split τ s t (by simpa using h) 0 x⟩

theorem indexT_spec (s : Scale) (t : Rat) (h : hasT s t = true) :
    indexT s t < s.length ∧ ∃ b, s[indexT s t]? = some b ∧ b.1 = t := by
  induction s with
  | nil => cases h
  | cons a rest ih =>
    by_cases e : a.1 = t
    · rw [indexT, if_pos e]; exact ⟨Nat.succ_pos _, a, rfl, e⟩
    · rw [hasT_cons, decide_eq_false e, Bool.false_or] at h
      obtain ⟨h1, b, h2, h3⟩ := ih h
      rw [indexT, if_neg e]
      exact ⟨Nat.succ_lt_succ h1, b, h2, h3⟩

theorem posAt_indexT (τ : Rat → Rat) (s : Scale) (t x : Rat) (h : hasT s t = true) :
    posAt τ s (indexT s t) x = pp (x - τ t) := by
  obtain ⟨_, b, h2, h3⟩ := indexT_spec s t h
  unfold posAt
  rw [h2]
  simp only [h3]

theorem indexT_lt (s : Scale) (hs : StrictSorted s) (a b : Rat) (ha : hasT s a = true) (hb : hasT s b = true)
    (hab : a < b) : indexT s a < indexT s b := by
  induction s with
  | nil => cases ha
  | cons c rest ih =>
    rw [strictSorted_cons] at hs
    by_cases e : c.1 = a
    · have e' : ¬ c.1 = b := fun h => absurd hab (by rw [← e, h]; exact lt_irrefl _)
      rw [indexT, if_pos e, indexT, if_neg e']
      exact Nat.succ_pos _
    · simp only [hasT_cons, e, decide_false, Bool.false_or] at ha
      obtain ⟨d, hd, hda⟩ := hasT_iff.mp ha
      have hca : c.1 < a := by rw [← hda]; exact hs.1 d hd
      have e' : ¬ c.1 = b := ne_of_lt (lt_trans hca hab)
      simp only [hasT_cons, e', decide_false, Bool.false_or] at hb
      rw [indexT, if_neg e, indexT, if_neg e']
      exact Nat.succ_lt_succ (ih hs.2 ha hb)

theorem indexT_getD (s : Scale) (hs : StrictSorted s) (i : Nat) (hi : i < s.length) :
    indexT s (s.getD i (0, 0)).1 = i := by
  induction s generalizing i with
  | nil => exact absurd hi (Nat.not_lt_zero _)
  | cons a rest ih =>
    rw [strictSorted_cons] at hs
    cases i with
    | zero => exact if_pos rfl
    | succ i =>
      have hi' : i < rest.length := Nat.lt_of_succ_lt_succ hi
      rw [List.getD_cons_succ, indexT, if_neg (ne_of_lt (hs.1 _ (List.getD_mem_of_lt rest _ hi'))), ih hs.2 i hi']

theorem addBracket_at (s : Scale) (hs : StrictSorted s) (i : Nat) (hi : i < s.length) (d : Rat) :
    addBracket s (s.getD i (0, 0)).1 d = bumpAt s i d := by
  unfold addBracket
  rw [hasT_iff.mpr ⟨_, List.getD_mem_of_lt s _ hi, rfl⟩, if_pos rfl, indexT_getD s hs i hi]

theorem bumpAt_thresholds (s : Scale) (i : Nat) (d : Rat) : thresholds (bumpAt s i d) = thresholds s := by
  induction s generalizing i with
  | nil => rfl
  | cons a rest ih =>
    obtain ⟨t, r⟩ := a
    cases i with
    | zero => rfl
    | succ i => exact congrArg (t :: ·) (ih i)

theorem incr_bumpAt (τ : Rat → Rat) (s : Scale) (i : Nat) (d prev x : Rat) (hi : i < s.length) :
    incr τ prev (bumpAt s i d) x = incr τ prev s x + d * (posAt τ s i x - posAt τ s (i + 1) x) := by
  induction s generalizing i prev with
  | nil => exact absurd hi (Nat.not_lt_zero _)
  | cons a rest ih =>
    obtain ⟨t, r⟩ := a
    cases i with
    | zero =>
      show incr τ prev ((t, r + d) :: rest) x = _
      rw [incr, incr, incr_prev, posAt_cons_zero, posAt_cons_succ]
      ring
    | succ i =>
      show incr τ prev ((t, r) :: bumpAt rest i d) x = _
      rw [incr, incr, ih i r (Nat.lt_of_succ_lt_succ hi), posAt_cons_succ, posAt_cons_succ]
      ring

theorem bumpLoop_spec (d : Rat) (n : Nat) :
    ∀ (i : Nat) (s : Scale), StrictSorted s → i + n ≤ s.length →
      thresholds (bumpLoop d n i s) = thresholds s ∧
      ∀ τ prev x, incr τ prev (bumpLoop d n i s) x = incr τ prev s x + d * (posAt τ s i x - posAt τ s (i + n) x) := by
  induction n with
  | zero => intro i s _ _; exact ⟨rfl, fun τ prev x => by rw [Nat.add_zero, sub_self, mul_zero, add_zero]; rfl⟩
  | succ n ih =>
    intro i s hs hin
    have hi : i < s.length := by omega
    have ht := bumpAt_thresholds s i d
    obtain ⟨e1, e2⟩ := ih (i + 1) (bumpAt s i d) (strictSorted_of_thresholds ht hs)
      (by rw [length_of_thresholds ht]; omega)
    rw [bumpLoop, addBracket_at s hs i hi]
    refine ⟨e1.trans ht, fun τ prev x => ?_⟩
    rw [e2, incr_bumpAt τ s i d prev x hi, posAt_of_thresholds τ ht, posAt_of_thresholds τ ht,
      show i + 1 + n = i + (n + 1) by omega]
    ring

theorem bumpLoop_range (d : Rat) (s : Scale) (hs : StrictSorted s) (i j : Nat) (hij : i ≤ j) (hj : j ≤ s.length) :
    StrictSorted (bumpLoop d (j - i) i s) ∧ (∀ u, hasT (bumpLoop d (j - i) i s) u = hasT s u) ∧
    ∀ τ x, incr τ 0 (bumpLoop d (j - i) i s) x = incr τ 0 s x + d * (posAt τ s i x - posAt τ s j x) := by
  obtain ⟨e, h⟩ := bumpLoop_spec d (j - i) i s hs (by omega)
  refine ⟨strictSorted_of_thresholds e hs, hasT_of_thresholds e, fun τ x => ?_⟩
  rw [h, Nat.add_sub_cancel' hij]

/-- effect of `combine_bracket(rate, lo, hi)` on a sorted receiver: `rate` is added on `[lo, hi)`, the thresholds are the
    receiver's and the two bounds -/
theorem combineBracket_spec (s : Scale) (hs : StrictSorted s) (rate lo : Rat) (hi : Option Rat)
    (hlh : ∀ h ∈ hi, lo < h ∧ h ≠ 0) :
    StrictSorted (combineBracket s rate lo hi) ∧
    (∀ u, hasT (combineBracket s rate lo hi) u
      = (hasT s u || decide (lo = u) || hi.elim false (fun h => decide (h = u)))) ∧
    ∀ τ x, incr τ 0 (combineBracket s rate lo hi) x
      = incr τ 0 s x + rate * (pp (x - τ lo) - hi.elim 0 (fun h => pp (x - τ h))) := by
  obtain ⟨a1, a2, a3⟩ := splitAt_spec s hs lo
  cases hi with
  | none =>
    simp only [combineBracket, Option.filter]
    have hlo : hasT (splitAt s lo) lo = true := by rw [a2, decide_eq_true rfl, Bool.or_true]
    obtain ⟨b1, b2, b3⟩ := bumpLoop_range rate _ a1 _ _ (indexT_spec _ lo hlo).1.le le_rfl
    refine ⟨b1, fun u => by rw [b2, a2]; exact (Bool.or_false _).symm, fun τ x => ?_⟩
    rw [b3, a3, posAt_indexT τ _ lo x hlo, posAt_length]
    rfl
  | some h =>
    obtain ⟨hlt, hne⟩ := hlh h rfl
    have hf : (some h : Option Rat).filter (fun h => h ≠ 0) = some h := by simp [Option.filter, hne]
    simp only [combineBracket, hf]
    obtain ⟨c1, c2, c3⟩ := splitAt_spec (splitAt s lo) a1 h
    have hlo : hasT (splitAt (splitAt s lo) h) lo = true := by
      rw [c2, a2, decide_eq_true rfl, Bool.or_true, Bool.true_or]
    have hhi : hasT (splitAt (splitAt s lo) h) h = true := by rw [c2, decide_eq_true rfl, Bool.or_true]
    obtain ⟨b1, b2, b3⟩ := bumpLoop_range rate _ c1 _ _ (indexT_lt _ c1 lo h hlo hhi hlt).le (indexT_spec _ h hhi).1.le
    refine ⟨b1, fun u => by rw [b2, c2, a2]; rfl, fun τ x => ?_⟩
    rw [b3, c3, a3, posAt_indexT τ _ lo x hlo, posAt_indexT τ _ h x hhi]
    rfl

/-- no bracket after the first has threshold 0, which `combine_bracket` reads as "no upper threshold"; holds of every sorted
scale with thresholds `≥ 0` -/
def TailNZ : Scale → Prop
  | [] => True
  | _ :: rest => ∀ c ∈ rest, c.1 ≠ 0

theorem tailNZ_of_nonneg {b : Scale} (hb : StrictSorted b) (hnn : ∀ c ∈ b, 0 ≤ c.1) : TailNZ b := by
  cases b with
  | nil => trivial
  | cons a rest =>
    intro c hc
    exact ne_of_gt (lt_of_le_of_lt (hnn a List.mem_cons_self) ((strictSorted_cons.mp hb).1 c hc))

theorem addTaxScaleGo_spec (b : Scale) (hb : StrictSorted b) (hnz : TailNZ b) :
    ∀ s, StrictSorted s →
      StrictSorted (addTaxScaleGo s b) ∧ (∀ u, hasT (addTaxScaleGo s b) u = (hasT s u || hasT b u)) ∧
      ∀ τ x, incr τ 0 (addTaxScaleGo s b) x = incr τ 0 s x + incr τ 0 b x := by
  induction b with
  | nil => intro s hs; exact ⟨hs, fun u => by rw [hasT_nil, Bool.or_false]; rfl, fun τ x => (add_zero _).symm⟩
  | cons a rest ih =>
    obtain ⟨t, r⟩ := a
    rw [strictSorted_cons] at hb
    cases rest with
    | nil =>
      intro s hs
      obtain ⟨e1, e2, e3⟩ := combineBracket_spec s hs r t none (fun _ hh => nomatch hh)
      rw [addTaxScaleGo]
      refine ⟨e1, fun u => (e2 u).trans (Bool.or_assoc _ _ _), fun τ x => ?_⟩
      rw [e3, incr, incr, Option.elim_none, sub_zero, sub_zero, add_zero]
    | cons c rest =>
      obtain ⟨t', r'⟩ := c
      intro s hs
      have htt : t < t' := hb.1 (t', r') List.mem_cons_self
      have hne : t' ≠ 0 := hnz (t', r') List.mem_cons_self
      obtain ⟨e1, e2, e3⟩ := combineBracket_spec s hs r t (some t') (by intro h hh; cases hh; exact ⟨htt, hne⟩)
      obtain ⟨f1, f2, f3⟩ := ih hb.2 (fun c hc => hnz c (List.mem_cons_of_mem _ hc)) (combineBracket s r t (some t')) e1
      rw [addTaxScaleGo]
      refine ⟨f1, fun u => ?_, fun τ x => ?_⟩
      · simp only [f2, e2, hasT_cons, Option.elim_some, Bool.or_assoc, Bool.or_self_left]
      · -- the bracket `[t, t')` at rate `r` is the first increment of the operand, less `r` from `t'` on
        have := incr_prev τ 0 r ((t', r') :: rest) x
        rw [zero_add, posAt_cons_zero] at this
        rw [f3, e3, show incr τ 0 ((t, r) :: (t', r') :: rest) x = (r - 0) * pp (x - τ t) + incr τ r ((t', r') :: rest) x
          from rfl, this, Option.elim_some]
        ring

theorem foldl_addChild (cs : List (Option Scale)) : ∀ a, cs.foldl addChild a = (cs.filterMap id).foldl addTaxScale a := by
  induction cs with
  | nil => intro a; rfl
  | cons c cs ih =>
    intro a
    cases c with
    | none => exact ih a
    | some b => exact ih (addTaxScale a b)

theorem combineTaxScales_eq {children : List (Option Scale)} (hne : children ≠ []) (combined : Option Scale) :
    combineTaxScales children combined
      = some ((children.filterMap id).foldl addTaxScale (combined.getD [(0, 0)])) := by
  cases children with
  | nil => exact absurd rfl hne
  | cons c cs => rw [← foldl_addChild]; cases combined <;> rfl

end OFCore.Sca
