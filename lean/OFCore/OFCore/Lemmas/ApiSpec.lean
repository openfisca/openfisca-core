import OFCore.Api
/-! The vocabulary in which the C20 theorems about the web API and the YAML test runner are stated. -/
namespace OFCore.Api

def LeafValued (f : List String → Except String J) : Prop :=
  ∀ p r, f p = .ok r → r.isLeaf = true ∧ r.isNull = false

/-- two spellings of one period give one value: the second is a cache hit of the same simulation -/
def Coherent (w : Sim) : Prop :=
  ∀ v p p', w.canon p = w.canon p' → w.calcv v p = w.calcv v p'

/-- C01_result_type, of the abstract engine -/
def Typed (w : Sim) : Prop :=
  ∀ v p vec t, w.calcv v p = .ok vec → w.vtype v = some t → ∀ x ∈ vec, x.family = t

/-- the statement's "lies within the stated absolute or relative margin", on exact numbers -/
def InMargins (abs rel : Option Rat) (e a : Rat) : Prop :=
  (abs = none → rel = none → e = a) ∧
  (∀ m, abs = some m → absQ (e - a) ≤ m) ∧
  (∀ r, rel = some r → absQ (e - a) ≤ absQ (r * e))

def Within (mode : Mode) (abs rel : Option Rat) (v : Val) (e : Exp) : Prop :=
  match mode with
  | .enum => ∃ name, v = .enum name ∧ e = .str name
  | .date => ∃ d, v = .date d ∧ e.toDate = .ok d ∧ InMargins abs rel 0 0
  | .text => ∃ s, v = .str s ∧ e.toText = .ok s
  | .numeric => ∃ a t, v.toNum = .ok a ∧ e.toNum = .ok t ∧ InMargins abs rel t a

/-- the expected value lies within the margins of the engine's value: the period is given, the engine computes the
    variable for it, the instance (if one is named) is selected, the margins of the variable are defined, the expected
    value broadcasts against the selected elements and every pair is within the margins -/
def HoldsValue (w : Sim) (t : YTest) (x : Expectation) : Prop :=
  ∃ per ty vec vs a r ps, x.period = some per ∧ w.vtype x.var = some ty ∧ w.calcv x.var per = .ok vec ∧
    selectInst w x vec = .ok vs ∧ marginFor t.absM x.var = .ok a ∧ marginFor t.relM x.var = .ok r ∧
    pairUp vs x.expected = .ok ps ∧ ∀ p ∈ ps, Within (cmpMode ty x.expected) a r p.1 p.2

/-- an expectation holds of the engine; of a variable the runner was told to leave out (`only_variables` /
`ignore_variables`) only the instance must exist -/
def Holds (w : Sim) (t : YTest) (x : Expectation) : Prop :=
  instKnown w x = true ∧ (shouldIgnore t x.var = true ∨ HoldsValue w t x)

def Wider (a r a' r' : Option Rat) : Prop := ∀ e x : Rat, near a r e x = true → near a' r' e x = true

def MarginsWider (t t' : YTest) : Prop :=
  ∀ var a r, marginFor t.absM var = .ok a → marginFor t.relM var = .ok r →
    ∃ a' r', marginFor t'.absM var = .ok a' ∧ marginFor t'.relM var = .ok r' ∧ Wider a r a' r'

/-- an explicit period for the expectation: `{period: expected}` instead of `expected` -/
def wrapPeriod : Option String → Y → Y
  | none, y => y
  | some p, y => .map [(p, y)]

/-- by variable: `{variable: [e₀, e₁, …]}` -/
def outByVariable (var : String) (pw : Option String) (es : List Exp) : List (String × Y) :=
  [(var, wrapPeriod pw (.list es))]

/-- by entity: `{entity: {variable: [e₀, e₁, …]}}` -/
def outByEntity (sg var : String) (pw : Option String) (es : List Exp) : List (String × Y) :=
  [(sg, .map [(var, wrapPeriod pw (.list es))])]

def instEntries (var : String) (pw : Option String) : List String → List Exp → List (String × Y)
  | [], _ => []
  | _ :: _, [] => []
  | id :: ids, e :: es => (id, .map [(var, wrapPeriod pw (.leaf e))]) :: instEntries var pw ids es

/-- by entity instance: `{entities: {id₀: {variable: e₀}, id₁: {variable: e₁}, …}}` -/
def outByInstance (pl var : String) (pw : Option String) (ids : List String) (es : List Exp) :
    List (String × Y) :=
  [(pl, .map (instEntries var pw ids es))]

def orPeriod : Option String → Option String → Option String
  | some p, _ => some p
  | none, per => per

def instExps (pl var : String) (per : Option String) (ids : List String) (es : List Exp) : List Expectation :=
  (ids.zip es).map (fun p => ⟨some pl, some p.1, var, per, .scalar p.2⟩)

/-- `_is_number` classifies the expected values alike -/
def Homogeneous (es : List Exp) : Prop := (∀ e ∈ es, e.isNum = true) ∨ (∀ e ∈ es, e.isNum = false)

/-- one elementary assertion of a test: the value of `var` at `period` for the entity instance of
index `idx` is expected to be `expected` -/
structure Atom where
  var : String
  period : Option String
  idx : Nat
  expected : Exp
deriving DecidableEq, Repr

/-- the elementary assertions an expectation stands for, over a population of `n` instances -/
def atomsOf (w : Sim) (n : Nat) (x : Expectation) : List Atom :=
  match x.inst with
  | some id =>
    match w.index (x.entity.getD "") id with
    | none => []
    | some i =>
      match x.expected with
      | .scalar e => [⟨x.var, x.period, i, e⟩]
      | .list es => es.map (fun e => ⟨x.var, x.period, i, e⟩)
  | none =>
    match x.expected with
    | .scalar e => (List.range n).map (fun i => ⟨x.var, x.period, i, e⟩)
    | .list es => (List.zipIdx es).map (fun (p : Exp × Nat) => ⟨x.var, x.period, p.2, p.1⟩)

end OFCore.Api
