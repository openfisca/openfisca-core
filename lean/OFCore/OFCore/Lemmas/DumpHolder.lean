import OFCore.Lemmas.DumpLists
import OFCore.Lemmas.TextRound
/-! One holder through dump and restore: its keys are period texts (C05), and under `Holder.Inv` loading the files
it wrote succeeds (`Holder.Inv.loadStore_files`) with a store that has its known periods for keys and its value at
each (`tab_reloaded`). The three tables on the way (files written, names parsed, store loaded) each tabulate over
`h.known` (`Tab`), every one read off the keys of the one before (`Tab.of_filterMap`). -/
namespace OFCore.Dump
open OFCore

theorem stripNpy_fileName (p : Period) : stripNpy (fileName p) = some p.text := by
  unfold stripNpy fileName
  have h : (p.text ++ ".npy".toList).reverse = 'y' :: 'p' :: 'n' :: '.' :: p.text.reverse := by
    simp [List.reverse_append]
  rw [h]
  simp

theorem fileName_inj {p q : Period} (h : fileName p = fileName q) : p.text = q.text := by
  unfold fileName at h
  exact List.append_cancel_right h

/-- the keys a holder of variable `var` may hold and that the text forms round-trip (C05) -/
def KeyOk (var : VarDecl) (p : Period) : Prop :=
  if var.defUnit = .eternity then p = Period.eternity
  else p.unit = var.defUnit ∧ p.size = 1 ∧ p.start.Valid ∧ OwnAligned p ∧ InTextDomain p

theorem parse_eternity : parsePeriod Period.eternity.text = .ok Period.eternity := by
  decide +kernel

theorem KeyOk.parse {var : VarDecl} {p : Period} (h : KeyOk var p) :
    parsePeriod p.text = .ok p := by
  unfold KeyOk at h
  split at h
  · rw [h]; exact parse_eternity
  · rename_i hne
    obtain ⟨hu, hs, hv, hal, hdom⟩ := h
    have hwf : p.WF := ⟨by rw [hu]; exact hne, hv, by omega⟩
    rw [parse_text p hwf hal hdom]
    unfold canon
    rw [if_neg (by intro h; omega)]

theorem KeyOk.text_inj {var : VarDecl} {p q : Period} (hp : KeyOk var p) (hq : KeyOk var q)
    (ht : p.text = q.text) : p = q := by
  have h := hp.parse
  rw [ht, hq.parse] at h
  exact (Except.ok.inj h).symm

theorem KeyOk.key {var : VarDecl} {p : Period} (h : KeyOk var p) : var.key p = p := by
  unfold KeyOk at h
  unfold VarDecl.key
  split at h
  · rename_i he; rw [if_pos he, h]
  · rename_i hne; rw [if_neg hne]

theorem KeyOk.unit_check {var : VarDecl} {p : Period} (h : KeyOk var p) :
    ¬ (var.defUnit ≠ .eternity ∧ (var.defUnit ≠ p.unit ∨ p.size > 1)) := by
  unfold KeyOk at h
  split at h
  · rename_i he; intro hc; exact hc.1 he
  · intro hc
    rcases hc.2 with h1 | h1
    · exact h1 h.1.symm
    · omega

theorem key_idem (var : VarDecl) (p : Period) : var.key (var.key p) = var.key p := by
  unfold VarDecl.key
  split <;> rfl

theorem parseName_fileName {p q : Period} (h : parsePeriod p.text = .ok q) :
    parseName (fileName p) = .ok (some (q, fileName p)) := by
  unfold parseName
  rw [stripNpy_fileName]
  simp only [h]

theorem parseName_some {f : List Char} {pf : Period × List Char} (h : parseName f = .ok (some pf)) : pf.2 = f := by
  unfold parseName at h
  split at h
  · cases h
  · split at h <;> cases h
    rfl

/-- what `_set` guarantees of a holder in a population of `c` members -/
structure Holder.Inv (h : Holder) (c : Nat) : Prop where
  keyOk : ∀ p ∈ h.known, KeyOk h.var p
  valOk : ∀ p ∈ h.known, ∀ v, h.getArray c p = some v → v.length = c ∧ v.vtype = h.var.vtype

theorem Holder.mem_known (h : Holder) (p : Period) :
    p ∈ h.known ↔ p ∈ keys h.mem ∨ ∃ d, h.disk = some d ∧ p ∈ keys d := by
  unfold Holder.known
  cases hd : h.disk with
  | none => simp
  | some d => simp

theorem Holder.raw_eq_none_iff (h : Holder) (p : Period) : h.raw p = none ↔ p ∉ h.known := by
  unfold Holder.raw
  rw [Holder.mem_known, not_or, ← alookup_eq_none_iff]
  cases alookup p h.mem with
  | some v => simp
  | none =>
    cases h.disk with
    | none => simp
    | some d => simp [alookup_eq_none_iff]

/-- the array `get_array` returns (a dummy when it returns `None`) -/
def Holder.val (h : Holder) (c : Nat) (p : Period) : Vec :=
  (h.getArray c p).getD (.plain (.ints []))

theorem Holder.Inv.getArray_known {h : Holder} {c : Nat} (hinv : h.Inv c) {p : Period}
    (hp : p ∈ h.known) : h.getArray c p = some (h.val c p) := by
  unfold Holder.val
  unfold Holder.getArray
  split
  · rfl
  · rw [(hinv.keyOk p hp).key]
    cases hv : h.raw p with
    | none => exact absurd hp ((h.raw_eq_none_iff p).1 hv)
    | some v => rfl

theorem Holder.Inv.saved_known {h : Holder} {c : Nat} (hinv : h.Inv c) {p : Period}
    (hp : p ∈ h.known) : h.saved c p = some (fileName p, (h.val c p).strip) := by
  unfold Holder.saved
  rw [hinv.getArray_known hp, (hinv.keyOk p hp).key]

theorem Holder.Inv.tab_files {h : Holder} {c : Nat} (hinv : h.Inv c) :
    Tab h.known fileName (fun p => (h.val c p).strip) (h.files c []) :=
  .of_filterMap (k' := fun p => p) (fun _ => by simp) (fun _ hp => hinv.saved_known hp) fun p hp q hq e => by
    rw [(hinv.keyOk p hp).text_inj (hinv.keyOk q hq) (fileName_inj e)]

def parsedOf (f : List Char) : Option (Period × List Char) :=
  match parseName f with
  | .ok r => r
  | .error _ => none

theorem parsedOf_fileName {var : VarDecl} {p : Period} (h : KeyOk var p) :
    parsedOf (fileName p) = some (p, fileName p) := by
  unfold parsedOf; rw [parseName_fileName h.parse]

/-- the `(period, file name)` pairs `OnDiskStorage.restore` reads from a dumped directory -/
def Holder.parsedFiles (h : Holder) (c : Nat) : List (Period × List Char) :=
  (keys (h.files c [])).filterMap parsedOf

theorem Holder.Inv.parseDir_files {h : Holder} {c : Nat} (hinv : h.Inv c) :
    parseDir (h.files c []) = .ok (upsertAll [] (h.parsedFiles c)) := by
  unfold parseDir
  rw [mapE_ok_map parseName parsedOf]
  · simp only [List.filterMap_map]; rfl
  · intro f hf
    obtain ⟨p, hp, rfl⟩ := (hinv.tab_files.mem_keys f).1 hf
    rw [parseName_fileName (hinv.keyOk p hp).parse, parsedOf_fileName (hinv.keyOk p hp)]

theorem Holder.Inv.tab_parsed {h : Holder} {c : Nat} (hinv : h.Inv c) :
    Tab h.known (fun p => p) fileName (upsertAll [] (h.parsedFiles c)) :=
  .of_filterMap hinv.tab_files.mem_keys (fun p hp => parsedOf_fileName (hinv.keyOk p hp)) fun _ _ _ _ e => congrArg fileName e

theorem decodeFile_strip (v : Vec) : decodeFile v.vtype v.strip = .ok v := by
  cases v with
  | plain a => cases a <;> rfl
  | enum e idx => rfl

theorem Holder.Inv.loadOne_known {h : Holder} {c : Nat} (hinv : h.Inv c) {p : Period}
    (hp : p ∈ h.known) :
    loadOne h.var c (h.files c []) (upsertAll [] (h.parsedFiles c)) p = .ok (p, h.val c p) := by
  have hk := hinv.keyOk p hp
  obtain ⟨hlen, hty⟩ := hinv.valOk p hp _ (hinv.getArray_known hp)
  unfold loadOne
  rw [hk.key, hinv.tab_parsed.get p hp]
  simp only [hinv.tab_files.get p hp]
  rw [← hty, decodeFile_strip]
  simp only [hlen, ne_eq, not_true_eq_false, if_false]
  rw [if_neg hk.unit_check]

/-- the memory store `_restore_holder` builds from the directory `_dump_holder` wrote -/
def Holder.reloaded (h : Holder) (c : Nat) : Store :=
  upsertAll [] ((keys (upsertAll [] (h.parsedFiles c))).map (fun p => (p, h.val c p)))

theorem Holder.Inv.loadStore_files {h : Holder} {c : Nat} (hinv : h.Inv c) :
    loadStore h.var c (h.files c []) [] = .ok (h.reloaded c) := by
  unfold loadStore
  rw [hinv.parseDir_files]
  simp only
  rw [mapE_ok_map _ (fun p => (p, h.val c p))]
  · rfl
  · intro p hp
    obtain ⟨_, hk, rfl⟩ := (hinv.tab_parsed.mem_keys p).1 hp
    exact hinv.loadOne_known hk

theorem Holder.Inv.tab_reloaded {h : Holder} {c : Nat} (hinv : h.Inv c) :
    Tab h.known (fun p => p) (h.val c) (h.reloaded c) := by
  unfold Holder.reloaded
  rw [← List.filterMap_eq_map']
  exact .of_filterMap hinv.tab_parsed.mem_keys (fun _ _ => rfl) fun _ _ _ _ e => congrArg _ e

/-- the holder `_restore_holder` creates in a fresh simulation -/
def Holder.restored (h : Holder) (c : Nat) : Holder := { var := h.var, mem := h.reloaded c }

/- Stated once and rewritten with: left to the unifier, `(h.restored c).var =?= h.var` first tries
`h.restored c =?= h`, which unfolds the whole reloaded store before it fails. -/
@[simp] theorem Holder.restored_var (h : Holder) (c : Nat) : (h.restored c).var = h.var := by
  unfold Holder.restored; rfl

theorem Holder.Inv.restored_known {h : Holder} {c : Nat} (hinv : h.Inv c) (q : Period) :
    q ∈ (h.restored c).known ↔ q ∈ h.known := by
  rw [Holder.mem_known]
  simp only [Holder.restored, reduceCtorEq, false_and, exists_false, or_false]
  exact (hinv.tab_reloaded.mem_keys q).trans (by simp)

theorem getArray_mk (var : VarDecl) (mem : Store) (c : Nat) (p : Period) :
    ({ var := var, mem := mem } : Holder).getArray c p =
      if var.neutralized then some (var.default.fill c) else alookup (var.key p) mem := by
  unfold Holder.getArray Holder.raw
  simp only
  cases alookup (var.key p) mem <;> rfl

theorem Holder.Inv.restored_getArray {h : Holder} {c : Nat} (hinv : h.Inv c) (p : Period) :
    (h.restored c).getArray c p = h.getArray c p := by
  unfold Holder.restored
  rw [getArray_mk]
  unfold Holder.getArray
  by_cases hn : h.var.neutralized = true
  · rw [if_pos hn, if_pos hn]
  · rw [if_neg hn, if_neg hn]
    by_cases hk : h.var.key p ∈ h.known
    · rw [hinv.tab_reloaded.get _ hk]
      have h1 := hinv.getArray_known hk
      unfold Holder.getArray at h1
      rw [if_neg hn, key_idem] at h1
      exact h1.symm
    · rw [(h.raw_eq_none_iff _).2 hk, alookup_eq_none_iff, hinv.tab_reloaded.mem_keys]
      exact fun ⟨_, ha, e⟩ => hk (e ▸ ha)

theorem Holder.Inv.restored_inv {h : Holder} {c : Nat} (hinv : h.Inv c) : (h.restored c).Inv c where
  keyOk := fun p hp => by
    rw [Holder.restored_var]
    exact hinv.keyOk p ((hinv.restored_known p).1 hp)
  valOk := fun p hp v hv => by
    rw [hinv.restored_getArray] at hv
    rw [Holder.restored_var]
    exact hinv.valOk p ((hinv.restored_known p).1 hp) v hv

theorem Holder.Inv.of_single {h : Holder} {c : Nat} {p : Period} {v : Vec} (hkn : h.known = [p])
    (hraw : h.raw p = some v) (hk : KeyOk h.var p) (hlen : v.length = c) (hty : v.vtype = h.var.vtype)
    (hn : h.var.neutralized = false) : h.Inv c where
  keyOk := fun q hq => by
    rw [hkn, List.mem_singleton] at hq
    rw [hq]; exact hk
  valOk := fun q hq w hw => by
    rw [hkn, List.mem_singleton] at hq
    subst hq
    unfold Holder.getArray at hw
    rw [hn, hk.key, hraw] at hw
    cases hw
    exact ⟨hlen, hty⟩

theorem Holder.files_single {var : VarDecl} {p : Period} {v : Vec} {c : Nat}
    (hn : var.neutralized = false) (hk : var.key p = p) :
    Holder.files { var := var, mem := [(p, v)] } c [] = [(fileName p, v.strip)] := by
  have hsaved : Holder.saved { var := var, mem := [(p, v)] } c p = some (fileName p, v.strip) := by
    simp [Holder.saved, Holder.getArray, Holder.raw, hn, hk, alookup]
  simp [Holder.files, Holder.known, keys, hsaved, upsertAll, upsert]

theorem parseDir_single {f : List Char} {a : Arr} {q : Period} (h : parseName f = .ok (some (q, f))) :
    parseDir [(f, a)] = .ok [(q, f)] := by
  simp [parseDir, keys, mapE, h, upsertAll, upsert]

theorem loadOne_single {var : VarDecl} {c : Nat} {f : List Char} {v : Vec} {q : Period}
    (hk : var.key q = q) (hlen : v.length = c) (hty : v.vtype = var.vtype) :
    loadOne var c [(f, v.strip)] [(q, f)] q =
      if var.defUnit ≠ .eternity ∧ (var.defUnit ≠ q.unit ∨ q.size > 1) then .error "PeriodMismatchError"
      else .ok (q, v) := by
  simp [loadOne, hk, alookup, ← hty, decodeFile_strip, hlen]

theorem loadStore_single {var : VarDecl} {c : Nat} {f : List Char} {a : Arr} {q : Period}
    (h : parseName f = .ok (some (q, f))) :
    loadStore var c [(f, a)] [] = (loadOne var c [(f, a)] [(q, f)] q).map (fun kv => [kv]) := by
  unfold loadStore
  rw [parseDir_single h]
  simp only [keys, List.map_cons, List.map_nil, mapE]
  cases loadOne var c [(f, a)] [(q, f)] q <;> rfl

theorem loadStore_files_single {var : VarDecl} {c : Nat} {p q : Period} {v : Vec} (hn : var.neutralized = false)
    (hp : var.key p = p) (hq : var.key q = q) (hparse : parsePeriod p.text = .ok q) (hlen : v.length = c)
    (hty : v.vtype = var.vtype) :
    loadStore var c (Holder.files { var := var, mem := [(p, v)] } c []) [] =
      if var.defUnit ≠ .eternity ∧ (var.defUnit ≠ q.unit ∨ q.size > 1) then .error "PeriodMismatchError"
      else .ok [(q, v)] := by
  rw [Holder.files_single hn hp, loadStore_single (parseName_fileName hparse), loadOne_single hq hlen hty]
  split <;> rfl

theorem parseDir_mem {dir : List (List Char × Arr)} {files : List (Period × List Char)}
    (h : parseDir dir = .ok files) {q : Period} {f : List Char} (hm : (q, f) ∈ files) :
    f ∈ keys dir ∧ parseName f = .ok (some (q, f)) := by
  unfold parseDir at h
  split at h
  · cases h
  · next es he =>
    cases h
    rcases mem_upsertAll hm with hm | hm
    · cases hm
    · obtain ⟨o, ho, rfl⟩ := List.mem_filterMap.1 hm
      obtain ⟨a, ha, hab⟩ := mapE_mem he _ ho
      obtain rfl : f = a := parseName_some hab
      exact ⟨ha, hab⟩

theorem loadStore_error_of_name {dir : List (List Char × Arr)} {f : List Char} {e : String} (hf : f ∈ keys dir)
    (h : parseName f = .error e) (var : VarDecl) (c : Nat) (mem : Store) : ∃ e', loadStore var c dir mem = .error e' := by
  unfold loadStore parseDir
  obtain ⟨e', he'⟩ := mapE_error_of_mem hf h
  rw [he']
  exact ⟨e', rfl⟩

theorem parseDir_append (dir ex : List (List Char × Arr))
    (hex : ∀ e ∈ ex, stripNpy e.1 = none) : parseDir (dir ++ ex) = parseDir dir := by
  unfold parseDir
  rw [keys_append, mapE_append_ok parseName (fun _ => none) (keys dir) (keys ex)]
  · cases mapE parseName (keys dir) with
    | error e => rfl
    | ok es =>
      have hnone : (List.map (fun _ => (none : Option (Period × List Char))) (keys ex)).filterMap id = [] :=
        List.filterMap_eq_nil_iff.mpr fun o ho => by obtain ⟨_, _, rfl⟩ := List.mem_map.1 ho; rfl
      simp only [List.filterMap_append, hnone, List.append_nil]
  · intro x hx
    obtain ⟨e, he, rfl⟩ := List.mem_map.1 hx
    unfold parseName
    rw [hex e he]

/-- files and sub-directories whose name does not end with `.npy`, added to a variable's directory, change nothing of
    what `_restore_holder` loads -/
theorem loadStore_append (var : VarDecl) (c : Nat) (dir ex : List (List Char × Arr)) (mem : Store)
    (hex : ∀ e ∈ ex, stripNpy e.1 = none) :
    loadStore var c (dir ++ ex) mem = loadStore var c dir mem := by
  unfold loadStore
  rw [parseDir_append dir ex hex]
  cases hp : parseDir dir with
  | error e => rfl
  | ok files =>
    simp only
    rw [mapE_congr (loadOne var c (dir ++ ex) files) (loadOne var c dir files)]
    intro p _
    unfold loadOne
    cases hl : alookup (var.key p) files with
    | none => rfl
    | some f =>
      -- the table names files of `dir`, and a lookup stops at the first entry of that name
      simp only
      rw [alookup_append_of_mem ex (parseDir_mem hp (mem_of_alookup hl)).1]

end OFCore.Dump
