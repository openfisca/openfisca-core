import OFCore.Lemmas.Builder
/-!
# Axes: replication is concatenation of `copies`; what a successful `layAxis` / `checkAxis` went through
-/

namespace OFCore.Bld

variable {α : Type} {sys : Sys} {dp : Option String} {entKey : String}

def copies {α : Type} (cell : Nat) (f : Nat → List α) : List α := (List.range cell).flatMap f

theorem copies_succ (f : Nat → List α) (cell : Nat) :
    copies (cell + 1) f = copies cell f ++ f cell := by
  unfold copies
  rw [List.range_succ, List.flatMap_append]
  simp

theorem copies_length (f : Nat → List α) (step : Nat) (hf : ∀ c, (f c).length = step) (cell : Nat) :
    (copies cell f).length = cell * step := by
  induction cell with
  | zero => rw [Nat.zero_mul]; rfl
  | succ c ih => rw [copies_succ, List.length_append, ih, hf, Nat.succ_mul]

theorem tile_succ (xs : List α) (c : Nat) : tile (c + 1) xs = tile c xs ++ xs := by
  unfold tile
  rw [List.replicate_succ', List.flatten_append, List.flatten_singleton]

theorem tile_eq_copies (xs : List α) (cell : Nat) : tile cell xs = copies cell (fun _ => xs) := by
  induction cell with
  | zero => rfl
  | succ c ih => rw [copies_succ, ← ih, tile_succ]

theorem tile_length (xs : List α) (c : Nat) : (tile c xs).length = c * xs.length := by
  rw [tile_eq_copies, copies_length _ xs.length (fun _ => rfl)]

theorem replicate_tile (d : α) (step cell : Nat) :
    List.replicate (cell * step) d = tile cell (List.replicate step d) :=
  List.flatten_replicate_replicate.symm

theorem getElem?_copies (f : Nat → List α) (step : Nat)
    (hf : ∀ c, (f c).length = step) (cell j : Nat) :
    (copies cell f)[j]? = if j < cell * step then (f (j / step))[j % step]? else none := by
  induction cell with
  | zero => rw [Nat.zero_mul, if_neg (Nat.not_lt_zero _)]; rfl
  | succ c ih =>
    rw [copies_succ, List.getElem?_append, copies_length f step hf c, ih]
    by_cases h1 : j < c * step
    · rw [if_pos h1, if_pos h1, if_pos (Nat.lt_of_lt_of_le h1 (Nat.mul_le_mul_right _ (Nat.le_succ _)))]
    · rw [if_neg h1]
      by_cases h2 : j < (c + 1) * step
      · -- `j` lies in the last copy
        have hdiv : j / step = c := Nat.div_eq_of_lt_le (Nat.le_of_not_lt h1) h2
        rw [if_pos h2, Nat.mod_eq_sub_div_mul, hdiv]
      · rw [if_neg h2]
        apply List.getElem?_eq_none
        rw [hf, Nat.succ_mul] at *
        omega

theorem sub_of_mod {idx step j : Nat} (hm : j % step = idx) : j - idx = step * (j / step) :=
  Nat.sub_eq_of_eq_add (by rw [← hm]; exact (Nat.div_add_mod j step).symm)

/-- `array[idx::step]` hits `j` exactly when `j` is the `idx`-th slot of its copy -/
theorem hit_eq (idx step j : Nat) (hi : idx < step) :
    (decide (idx ≤ j) && (j - idx) % step == 0) = decide (j % step = idx) := by
  rw [Bool.eq_iff_iff]
  simp only [Bool.and_eq_true, decide_eq_true_eq, beq_iff_eq]
  constructor
  · intro ⟨hle, hm⟩
    have h2 := Nat.div_add_mod (j - idx) step
    rw [hm, Nat.add_zero] at h2
    have : j = step * ((j - idx) / step) + idx := by rw [h2, Nat.sub_add_cancel hle]
    rw [this, Nat.mul_add_mod, Nat.mod_eq_of_lt hi]
  · intro hm
    exact ⟨hm ▸ Nat.mod_le j step, by rw [sub_of_mod hm, Nat.mul_mod_right]⟩

theorem strideSet_ok {arr vals arr' : Vec} {idx step : Nat} (h : strideSet arr idx step vals = .ok arr') :
    arr' = (List.zipIdx arr).map (fun (x, j) =>
      if (decide (idx ≤ j) && (j - idx) % step == 0) = true then vals.getD ((j - idx) / step) x else x) := by
  unfold strideSet at h
  by_cases h0 : step = 0
  · rw [if_pos h0] at h; cases h
  · rw [if_neg h0] at h
    by_cases hn : ((List.range arr.length).filter (fun j => decide (idx ≤ j) && (j - idx) % step == 0)).length
        ≠ vals.length
    · rw [if_pos hn] at h; split at h <;> cases h
    · rw [if_neg hn] at h; cases h; rfl

/-- the stride assignment `arr[idx::step] = vals` on a replicated array lays one value on the indexed slot of every copy,
    when numpy accepts the assignment -/
theorem strideSet_copies {proto vals arr' : Vec} {idx step cell : Nat} (hp : proto.length = step)
    (hi : idx < step) (h : strideSet (tile cell proto) idx step vals = .ok arr') :
    arr' = copies cell (fun c => proto.set idx (vals.getD c (proto.getD idx default))) := by
  have hstep : 0 < step := by omega
  rw [strideSet_ok h]
  apply List.ext_getElem?
  intro j
  rw [List.getElem?_map, List.getElem?_zipIdx, tile_eq_copies,
    getElem?_copies (fun _ => proto) step (fun _ => hp) cell j,
    getElem?_copies _ step (fun c => by rw [List.length_set, hp]) cell j]
  by_cases hj : j < cell * step
  · have hml : j % step < proto.length := by rw [hp]; exact Nat.mod_lt _ hstep
    rw [if_pos hj, if_pos hj, List.getElem?_eq_getElem hml]
    simp only [Option.map_some, Nat.zero_add, hit_eq idx step j hi]
    by_cases hm : j % step = idx
    · rw [decide_eq_true hm, if_pos rfl, sub_of_mod hm, Nat.mul_div_cancel_left _ hstep, List.getElem?_set, if_pos hm.symm,
        if_pos (by omega)]
      congr 2
      simp only [hm]
      rw [List.getD_eq_getElem?_getD, List.getElem?_eq_getElem (by omega)]
      rfl
    · rw [decide_eq_false hm, if_neg Bool.false_ne_true, List.getElem?_set_ne (fun e => hm e.symm),
        List.getElem?_eq_getElem hml]
  · rw [if_neg hj, if_neg hj]; rfl

theorem zipWith_add_replicate (m : List Nat) (k : Nat) :
    List.zipWith (· + ·) m (List.replicate m.length k) = m.map (· + k) := by
  induction m with
  | nil => rfl
  | cons a m ih => simp [List.replicate_succ, ih]

theorem memb_copies (m : List Nat) (n cell : Nat) :
    List.zipWith (· + ·) (tile cell m) ((List.range cell).flatMap (fun c => List.replicate m.length (c * n)))
      = copies cell (fun c => m.map (· + c * n)) := by
  induction cell with
  | zero => rfl
  | succ c ih =>
    have hlen : (tile c m).length = ((List.range c).flatMap (fun c => List.replicate m.length (c * n))).length :=
      (tile_length m c).trans (copies_length _ m.length (fun _ => List.length_replicate ..) c).symm
    rw [copies_succ, ← ih, tile_succ, List.range_succ, List.flatMap_append,
      List.flatMap_singleton, List.zipWith_append hlen, zipWith_add_replicate]

theorem ids_copies (ids : List String) (cell : Nat) :
    List.zipWith (fun id (k : Nat) => id ++ toString k) (tile cell ids) (List.range (cell * ids.length))
      = copies cell (fun c => List.zipWith (fun id (i : Nat) => id ++ toString (c * ids.length + i)) ids
          (List.range ids.length)) := by
  induction cell with
  | zero => rfl
  | succ c ih =>
    rw [copies_succ, ← ih, tile_succ, Nat.succ_mul, List.range_add,
      List.zipWith_append (tile_length ids c ▸ List.length_range.symm), List.zipWith_map_right]

def axisCell (dp : Option String) (a : Axis) : Option (String × List Char) :=
  match axisKey dp a with
  | none => none
  | some k =>
    match canonKey k with
    | .error _ => none
    | .ok ck => some (a.name, ck)

theorem axisCell_some {a : Axis} {c : String × List Char} (h : axisCell dp a = some c) :
    ∃ k, axisKey dp a = some k ∧ canonKey k = .ok c.2 ∧ c.1 = a.name := by
  unfold axisCell at h
  split at h
  · cases h
  next k hk =>
    split at h
    · cases h
    next ck hc =>
      cases h
      exact ⟨k, hk, hc, rfl⟩

theorem layAxis_ok {step cell cnt : Nat} {multi : Bool}
    {coords : List Nat} {buf buf' : Buffer} {a : Axis}
    (h : layAxis sys dp entKey step cell cnt multi coords buf a = .ok buf') :
    ∃ var k ck vals arr', sys.var? a.name = some var ∧ axisKey dp a = some k ∧ canonKey k = .ok ck ∧
      mapE (fun c => axisCast var (axisValue a cnt c)) coords = .ok vals ∧
      strideSet (axisArray buf (a.name, bufferKey sys buf a.name ck) cell step var.default) a.index step vals
        = .ok arr' ∧
      buf' = alSet buf (a.name, bufferKey sys buf a.name ck) arr' := by
  unfold layAxis at h
  split at h
  · cases h
  next var hv =>
    split at h
    · cases h
    · split at h
      · cases h
      next k hk =>
        split at h
        · cases h
        next ck hc =>
          simp only at h
          split at h
          · cases h
          · split at h
            · cases h
            next vals hm =>
              split at h
              · cases h
              next arr' hs =>
                cases h
                exact ⟨var, k, ck, vals, arr', hv, hk, hc, hm, hs, rfl⟩

theorem layAxis_copies {step cell cnt : Nat} {multi : Bool} {coords : List Nat} {buf buf' : Buffer} {a : Axis}
    {var : Var} {ck : List Char} {proto : Vec}
    (h : layAxis sys dp entKey step cell cnt multi coords buf a = .ok buf')
    (hvar : sys.var? a.name = some var) (hd : isEternal sys a.name = false)
    {k : DKey} (hkey : axisKey dp a = some k) (hck : canonKey k = .ok ck) (hidx : a.index < step)
    (hproto : (alGet buf (a.name, ck) = none ∧ proto = List.replicate step var.default) ∨
      (alGet buf (a.name, ck) = some proto ∧ proto.length = step)) :
    ∃ vals, mapE (fun c => axisCast var (axisValue a cnt c)) coords = .ok vals ∧
      alGet buf' (a.name, ck) = some (copies cell (fun c =>
        proto.set a.index (vals.getD c (proto.getD a.index default)))) ∧
      ∀ k, k ≠ (a.name, ck) → alGet buf' k = alGet buf k := by
  obtain ⟨var', k', ck', vals, arr', hvar', hkey', hck', hvals, hs, rfl⟩ := layAxis_ok h
  rw [hvar] at hvar'; cases hvar'
  rw [hkey] at hkey'; cases hkey'
  rw [hck] at hck'; cases hck'
  rw [bufferKey_of_not_eternal hd] at hs ⊢
  have hl : proto.length = step := by
    rcases hproto with ⟨_, hp⟩ | ⟨_, hl⟩
    · rw [hp, List.length_replicate]
    · exact hl
  have harr : axisArray buf (a.name, ck) cell step var.default = tile cell proto := by
    unfold axisArray
    rcases hproto with ⟨hn, hp⟩ | ⟨hs, _⟩
    · rw [hn, hp]; exact replicate_tile _ _ _
    · rw [hs]; exact if_pos hl
  rw [harr] at hs
  refine ⟨vals, hvals, ?_, fun k hk => alGet_alSet_ne _ _ _ _ hk⟩
  rw [alGet_alSet_same, strideSet_copies hl hidx hs]

theorem layAxis_frame {step cell cnt : Nat} {multi : Bool}
    {coords : List Nat} {buf buf' : Buffer} {a : Axis}
    (h : layAxis sys dp entKey step cell cnt multi coords buf a = .ok buf') (hd : isEternal sys a.name = false) :
    ∃ c, axisCell dp a = some c ∧ ∀ k, k ≠ c → alGet buf' k = alGet buf k := by
  obtain ⟨var, k, ck, vals, arr', _, hk, hc, _, _, rfl⟩ := layAxis_ok h
  rw [bufferKey_of_not_eternal hd]
  exact ⟨(a.name, ck), by simp only [axisCell, hk, hc], fun k hk' => alGet_alSet_ne _ _ _ _ hk'⟩

theorem layAxes_frame {step cell cnt : Nat} {multi : Bool} {coords : List Nat} {axes : List Axis} {buf buf' : Buffer}
    (h : foldE (layAxis sys dp entKey step cell cnt multi coords) buf axes = .ok buf')
    (hd : ∀ a ∈ axes, isEternal sys a.name = false) (k : String × List Char)
    (hk : ∀ a ∈ axes, axisCell dp a ≠ some k) : alGet buf' k = alGet buf k := by
  refine foldE_inv (fun b => alGet b k = alGet buf k) ?_ h rfl
  intro b b' a ha h1 hb
  obtain ⟨c, hc, hframe⟩ := layAxis_frame h1 (hd a ha)
  rw [hframe k (fun e => hk a ha (e ▸ hc)), hb]

theorem layAxis_congr (sys : Sys) (dp : Option String) (entKey : String) (step cell cnt : Nat) (multi : Bool)
    (coords : List Nat) (buf : Buffer) (a : Axis) (k k' : DKey) (h : parseKey k = parseKey k') :
    layAxis sys dp entKey step cell cnt multi coords buf { a with period := some k } =
    layAxis sys dp entKey step cell cnt multi coords buf { a with period := some k' } := by
  unfold layAxis axisKey
  have hv : ∀ c, axisValue { a with period := some k } cnt c = axisValue { a with period := some k' } cnt c :=
    fun c => rfl
  simp only [canonKey_congr h, hv]

theorem checkAxis_ok {a : Axis} {u : Unit} (h : checkAxis sys dp a = .ok u) :
    ∃ var k ck, sys.var? a.name = some var ∧ axisKey dp a = some k ∧ canonKey k = .ok ck := by
  unfold checkAxis at h
  split at h
  · cases h
  next var hv =>
    split at h
    · cases h
    next k hk =>
      split at h
      · cases h
      next ck hc => exact ⟨var, k, ck, hv, hk, hc⟩

theorem checkAxis_error {a : Axis} {e : BErr}
    (h : checkAxis sys dp a = .error e) : e = .situation := by
  unfold checkAxis at h
  repeat' split at h
  all_goals cases h
  all_goals rfl

end OFCore.Bld
