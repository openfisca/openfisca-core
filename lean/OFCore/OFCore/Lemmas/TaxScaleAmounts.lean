import OFCore.Lemmas.TaxScaleIndex
/-!
# Tax scales: the amount scales, the linear average, `to_dict` and the `commons` selectors.  Where the answer depends on
where a base falls (`calcSA_split`, `laSums_split`, `selectFirst_append`) the list is split around it (`pre ++ b :: post`):
what stands before the split passes the comparison with the base, what stands after fails it
-/
namespace OFCore.Sca

theorem clip_pos_iff (x t t' : Rat) (h : t < t') : 0 < max (min x t' - t) 0 ↔ t < x := by
  rw [lt_max_iff, sub_pos, lt_min_iff]
  exact ⟨fun h' => h'.elim And.left (fun h0 => absurd h0 (lt_irrefl 0)), fun h' => Or.inl ⟨h', h⟩⟩

theorem calcSA_split (right : Bool) (pre : Scale) (b : Rat × Rat) (post : Scale) (x : Rat)
    (h1 : ∀ c ∈ pre, (if right then decide (c.1 < x) else decide (c.1 ≤ x)) = true)
    (hb : (if right then decide (b.1 < x) else decide (b.1 ≤ x)) = true)
    (h2 : ∀ c ∈ post, (if right then decide (c.1 < x) else decide (c.1 ≤ x)) = false) :
    calcSA right (pre ++ b :: post) x = b.2 := by
  unfold calcSA digitize
  rw [countP_split _ _ _ _ h1 hb h2]
  simp only [getD_split]

theorem calcSA_zero (right : Bool) (s : Scale) (x : Rat)
    (h : ∀ c ∈ s, (if right then decide (c.1 < x) else decide (c.1 ≤ x)) = false) : calcSA right s x = 0 := by
  unfold calcSA digitize
  rw [List.countP_eq_zero.mpr (fun c hc => by rw [h c hc]; exact Bool.false_ne_true)]

theorem laSums_cons_of_not (t r : Rat) (b : Rat × Rat) (rest : Scale) (x : Rat) (h : ¬ (t ≤ x ∧ x < b.1)) :
    laSums ((t, r) :: b :: rest) x = laSums (b :: rest) x := by
  obtain ⟨t', r'⟩ := b
  simp only [laSums, if_neg h, zero_mul, zero_add]

theorem laSums_zero (l : Scale) (x : Rat) (h : (∀ c ∈ l, x < c.1) ∨ (∀ c ∈ l, c.1 ≤ x)) : laSums l x = (0, 0, 0) := by
  induction l with
  | nil => rfl
  | cons a rest ih =>
    obtain ⟨t, r⟩ := a
    cases rest with
    | nil => rfl
    | cons b rest =>
      rw [laSums_cons_of_not t r b rest x (fun hc => h.elim
        (fun h => absurd hc.1 (not_le.mpr (h (t, r) List.mem_cons_self)))
        (fun h => absurd hc.2 (not_lt.mpr (h b (List.mem_cons_of_mem _ List.mem_cons_self)))))]
      exact ih (h.imp (fun h c hc => h c (List.mem_cons_of_mem _ hc)) (fun h c hc => h c (List.mem_cons_of_mem _ hc)))

theorem laSums_split (pre : Scale) (t r t' r' : Rat) (post : Scale) (x : Rat)
    (hs : StrictSorted (pre ++ (t, r) :: (t', r') :: post)) (h1 : t ≤ x) (h2 : x < t') :
    laSums (pre ++ (t, r) :: (t', r') :: post) x = ((r' - r) / (t' - t), r, t) := by
  induction pre with
  | nil =>
    have hs' := strictSorted_cons.mp (strictSorted_cons.mp hs).2
    have hz : laSums ((t', r') :: post) x = (0, 0, 0) :=
      laSums_zero _ x (Or.inl (List.forall_mem_cons.mpr ⟨h2, fun c hc => h2.trans (hs'.1 c hc)⟩))
    simp only [List.nil_append, laSums, hz, if_pos (And.intro h1 h2), one_mul, add_zero]
  | cons a pre ih =>
    obtain ⟨t0, r0⟩ := a
    rw [List.cons_append, strictSorted_cons] at hs
    -- the bracket after `(t0, r0)` has its threshold `≤ t ≤ x`
    obtain ⟨b, tl, e, hb⟩ : ∃ b tl, pre ++ (t, r) :: (t', r') :: post = b :: tl ∧ b.1 ≤ t := by
      cases pre with
      | nil => exact ⟨_, _, rfl, le_rfl⟩
      | cons b pre => exact ⟨b, _, rfl, ((strictSorted_cons.mp hs.2).1 (t, r) (by simp)).le⟩
    rw [List.cons_append, ← ih hs.2, e, laSums_cons_of_not t0 r0 b tl x (fun hc => absurd hc.2 (not_lt.mpr (hb.trans h1)))]

theorem calcLA_eq {s : Scale} (h : 2 ≤ s.length) (x : Rat) :
    calcLA s x = .ok (x * ((laSums s x).2.1 + (x - (laSums s x).2.2) * (laSums s x).1)) := by
  obtain _ | ⟨⟨t, r⟩, _ | ⟨a', rest⟩⟩ := s
  · exact absurd h (by decide)
  · exact absurd h (by simp)
  · rfl

theorem digitizeE_fin (right : Bool) (s : Scale) (x : Rat) :
    digitizeE right (guardedBins s) (.fin x) = digitize right s x + 1 := by
  have hp : ((fun b : EBase => if right then b.ltB (.fin x) else b.leB (.fin x)) ∘ (fun b : Rat × Rat => EBase.fin b.1))
      = fun b : Rat × Rat => if right then decide (b.1 < x) else decide (b.1 ≤ x) := by
    funext b; cases right <;> rfl
  have h1 : (if right then EBase.negInf.ltB (.fin x) else EBase.negInf.leB (.fin x)) = true := by cases right <;> rfl
  have h2 : (if right then EBase.posInf.ltB (.fin x) else EBase.posInf.leB (.fin x)) = false := by cases right <;> rfl
  unfold digitizeE guardedBins digitize
  rw [List.countP_cons, List.countP_append, List.countP_map, hp, List.countP_cons, List.countP_nil, h1, h2]
  simp

theorem guardedAmounts_getD (s : Scale) (k : Nat) (hk : k < s.length) :
    (guardedAmounts s).getD (k + 1) 0 = (s.getD k (0, 0)).2 := by
  unfold guardedAmounts
  rw [List.getD_cons_succ, ← rates_getD, List.getD_eq_getElem?_getD, List.getD_eq_getElem?_getD,
    List.getElem?_append_left (by rw [List.length_map]; exact hk)]
  rfl

theorem calcSAE_fin (right : Bool) (s : Scale) (x : Rat) : calcSAE right s (.fin x) = .ok (calcSA right s x) := by
  unfold calcSAE calcSA
  have hle : digitize right s x ≤ s.length := List.countP_le_length
  rw [digitizeE_fin, show ((digitize right s x + 1 : Nat) : Int) - 1 = (digitize right s x : Nat) by omega,
    pyIndex_natCast _ _ (by simp [guardedAmounts]; omega)]
  cases hd : digitize right s x with
  | zero => rfl
  | succ k => rw [guardedAmounts_getD s k (by omega)]

theorem dictSet_fresh (d : List (Rat × Rat)) (k v : Rat) (h : ∀ c ∈ d, c.1 ≠ k) : dictSet d k v = d ++ [(k, v)] := by
  induction d with
  | nil => rfl
  | cons a rest ih =>
    obtain ⟨k', v'⟩ := a
    have hne : k' ≠ k := h (k', v') List.mem_cons_self
    simp only [dictSet, hne, if_false, List.cons_append]
    rw [ih (fun c hc => h c (List.mem_cons_of_mem _ hc))]

theorem foldl_dictSet_sorted (s : Scale) (hs : StrictSorted s) :
    ∀ acc : List (Rat × Rat), (∀ a ∈ acc, ∀ c ∈ s, a.1 < c.1) → s.foldl (fun d b => dictSet d b.1 b.2) acc = acc ++ s := by
  induction s with
  | nil => intro acc _; exact (List.append_nil _).symm
  | cons b rest ih =>
    intro acc hacc
    rw [strictSorted_cons] at hs
    simp only [List.foldl_cons]
    rw [dictSet_fresh acc b.1 b.2 (fun c hc => ne_of_lt (hacc c hc b List.mem_cons_self))]
    rw [ih hs.2]
    · simp
    · exact List.forall_mem_append.mpr ⟨fun a h c hc => hacc a h c (List.mem_cons_of_mem _ hc),
        List.forall_mem_singleton.mpr hs.1⟩

theorem toDict_sorted (s : Scale) (hs : StrictSorted s) : toDict s = s :=
  foldl_dictSet_sorted s hs [] (by simp)

theorem selectFirst_append (pre post : List (Bool × Rat)) (h : ∀ p ∈ pre, p.1 = false) :
    selectFirst (pre ++ post) = selectFirst post := by
  induction pre with
  | nil => rfl
  | cons a rest ih =>
    obtain ⟨b, v⟩ := a
    obtain rfl : b = false := h (b, v) List.mem_cons_self
    exact ih (fun p hp => h p (List.mem_cons_of_mem _ hp))

theorem selectFirst_none (l : List (Bool × Rat)) (h : ∀ p ∈ l, p.1 = false) : selectFirst l = 0 := by
  have := selectFirst_append l [] h
  rwa [List.append_nil] at this

theorem conds_false {x : Rat} {ths : List Rat} (hx : ∀ u ∈ ths, u < x) (more : List Rat) :
    ∀ p ∈ (ths.map fun u => decide (x ≤ u)).zip more, p.1 = false := by
  intro p hp
  obtain ⟨u, hu, e⟩ := List.mem_map.mp (List.of_mem_zip hp).1
  rw [← e]
  exact decide_eq_false (not_le.mpr (hx u hu))

theorem applyThresholds_same (x : Rat) (ths cs : List Rat) (hlen : cs.length = ths.length) (hne : ths ≠ []) :
    applyThresholds x ths cs = .ok (selectFirst ((ths.map fun u => decide (x ≤ u)).zip cs)) := by
  unfold applyThresholds
  have e1 : ¬ (ths.map (fun u => decide (x ≤ u))).length + 1 = cs.length := by simp [hlen]
  simp only [e1, if_false]
  rw [if_neg (by simp [hlen]), if_neg (by simpa using hne)]

theorem applyThresholds_extra (x : Rat) (ths cs : List Rat) (hlen : cs.length = ths.length + 1) :
    applyThresholds x ths cs = .ok (selectFirst ((ths.map (fun u => decide (x ≤ u)) ++ [true]).zip cs)) := by
  unfold applyThresholds
  have e1 : (ths.map (fun u => decide (x ≤ u))).length + 1 = cs.length := by simp [hlen]
  simp only [e1, if_true]
  rw [if_neg (by simp [hlen]), if_neg (by simp)]

theorem keys_false {c : Rat} {table : List (Rat × Rat)} (h : ∀ p ∈ table, p.1 ≠ c) :
    ∀ p ∈ table.map (fun kv => (decide (c = kv.1), kv.2)), p.1 = false := by
  intro p hp
  obtain ⟨q, hq, e⟩ := List.mem_map.mp hp
  rw [← e]
  exact decide_eq_false (fun hc => h q hq hc.symm)

theorem switchSel_eq (c : Rat) {table : List (Rat × Rat)} (hne : table ≠ []) :
    switchSel c table = .ok (selectFirst (table.map (fun kv => (decide (c = kv.1), kv.2)))) := by
  unfold switchSel
  rw [if_neg (by simpa using hne)]

end OFCore.Sca
