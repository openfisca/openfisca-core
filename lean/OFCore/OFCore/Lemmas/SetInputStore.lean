import OFCore.SetInput
import Mathlib.Tactic.Ring
import Mathlib.Tactic.Linarith
import Mathlib.Tactic.FieldSimp
import Mathlib.Algebra.Order.Field.Rat
/-!
The vocabulary of the C16 statements that speaks of stores, and the loops of the spreading helpers (`dispatchOn`,
`tally`, `divideOn`) over an arbitrary list of pieces.
-/
namespace OFCore

/-- value of entity `i` in a vector (`0` outside) -/
def ent (v : Vec) (i : Nat) : Rat := v.getD i 0

/-- value of entity `i` for the piece `q`: what `calculate` returns (default `0` when unknown) -/
def entAt (s : Store) (q : Period) (i : Nat) : Rat :=
  match sget s q with
  | some v => ent v i
  | none => 0

/-- Σ over the pieces already known, entity `i` -/
def knownSum (s : Store) (subs : List Period) (i : Nat) : Rat :=
  (subs.map (fun q => entAt s q i)).sum

def unknownCount (s : Store) (subs : List Period) : Nat :=
  (subs.filter (fun q => (sget s q).isNone)).length

/-- every stored vector has one value per entity -/
def WF (n : Nat) (s : Store) : Prop := ∀ q v, sget s q = some v → v.length = n

def SameStore (s t : Store) : Prop := ∀ q, sget s q = sget t q

abbrev DCall := List Period × Vec

/-- `t` is `s` where every piece of `subs` that was unknown now holds `c` -/
def Filled (s : Store) (subs : List Period) (c : Vec) (t : Store) : Prop :=
  ∀ q, sget t q = match sget s q with
    | some v => some v
    | none => if q ∈ subs then some c else none

def runDivide (k : VKind) : Store → List (List Period × Vec) → Except String Store
  | s, [] => .ok s
  | s, (subs, a) :: r =>
    match divideOn k s subs a with
    | .ok s' => runDivide k s' r
    | .error e => .error e

def runDispatch : Store → List (List Period × Vec) → Store
  | s, [] => s
  | s, (subs, a) :: r => runDispatch (dispatchOn s subs a) r

def isOk {α : Type} (r : Except String α) : Bool := match r with | .ok _ => true | .error _ => false

def okStore (r : Except String Store) : Store := match r with | .ok t => t | .error _ => []

theorem sget_sput (s : Store) (p q : Period) (v : Vec) :
    sget (sput s p v) q = if p = q then some v else sget s q := by
  simp [sput, sget]

theorem ent_lt {v : Vec} {i : Nat} (h : i < v.length) : ent v i = v[i] := by
  simp [ent, List.getD, List.getElem?_eq_getElem h]

theorem ent_ge {v : Vec} {i : Nat} (h : v.length ≤ i) : ent v i = 0 := by
  simp [ent, List.getD, List.getElem?_eq_none h]

theorem ent_zipWith (f : Rat → Rat → Rat) (hf : f 0 0 = 0) {a b : Vec} (h : a.length = b.length) (i : Nat) :
    ent (List.zipWith f a b) i = f (ent a i) (ent b i) := by
  have hz : (List.zipWith f a b).length = a.length := by simp [h]
  by_cases hi : i < a.length
  · rw [ent_lt hi, ent_lt (h ▸ hi : i < b.length), ent_lt (hz.symm ▸ hi : i < _), List.getElem_zipWith]
  · have hi := Nat.le_of_not_lt hi
    rw [ent_ge hi, ent_ge (h ▸ hi : b.length ≤ i), ent_ge (hz.symm ▸ hi : _ ≤ i), hf]

theorem vsub_length {a b : Vec} (h : a.length = b.length) : (vsub a b).length = a.length := by
  simp [vsub, h]

theorem vadd_length {a b : Vec} (h : a.length = b.length) : (vadd a b).length = a.length := by
  simp [vadd, h]

theorem ent_vsub {a b : Vec} (h : a.length = b.length) (i : Nat) : ent (vsub a b) i = ent a i - ent b i :=
  ent_zipWith _ (sub_zero 0) h i

theorem ent_vadd {a b : Vec} (h : a.length = b.length) (i : Nat) : ent (vadd a b) i = ent a i + ent b i :=
  ent_zipWith _ (add_zero 0) h i

theorem vdivn_length (a : Vec) (n : Nat) : (vdivn a n).length = a.length := by simp [vdivn]

theorem ent_vdivn (a : Vec) (n i : Nat) : ent (vdivn a n) i = ent a i / (n : Rat) := by
  by_cases hi : i < a.length
  · rw [ent_lt hi, ent_lt (by rw [vdivn_length]; exact hi)]; simp [vdivn]
  · have hi' : a.length ≤ i := Nat.le_of_not_lt hi
    rw [ent_ge hi', ent_ge (by rw [vdivn_length]; exact hi')]; simp

theorem vzero_length (n : Nat) : (vzero n).length = n := by simp [vzero]

theorem ent_vzero (n i : Nat) : ent (vzero n) i = 0 := by
  by_cases hi : i < n
  · rw [ent_lt (by rw [vzero_length]; exact hi)]; simp [vzero]
  · exact ent_ge (by rw [vzero_length]; exact Nat.le_of_not_lt hi)

theorem vec_ext {a b : Vec} (h : a.length = b.length) (he : ∀ i, i < a.length → ent a i = ent b i) : a = b := by
  apply List.ext_getElem h
  intro i h1 h2
  have := he i h1
  rwa [ent_lt h1, ent_lt h2] at this

theorem all_zero_iff (v : Vec) : v.all (fun x => x == 0) = true ↔ ∀ i, ent v i = 0 := by
  rw [List.all_eq_true]
  constructor
  · intro h i
    by_cases hi : i < v.length
    · rw [ent_lt hi]; simpa using h v[i] (List.getElem_mem hi)
    · exact ent_ge (Nat.le_of_not_lt hi)
  · intro h x hx
    obtain ⟨i, hi, rfl⟩ := List.getElem_of_mem hx
    simpa [ent_lt hi] using h i

theorem castVec_length (k : VKind) (v : Vec) : (castVec k v).length = v.length := by
  cases k <;> simp [castVec]

theorem sget_fillStep (a : Vec) (s : Store) (x q : Period) :
    sget (fillStep a s x) q = match sget s q with
      | some v => some v
      | none => if q = x then some a else none := by
  unfold fillStep
  cases hx : sget s x with
  | some w =>
    cases hq : sget s q with
    | some v => rfl
    | none => exact (if_neg fun e => by rw [e, hx] at hq; cases hq).symm
  | none =>
    rw [sget_sput]
    by_cases hxq : x = q
    · rw [if_pos hxq, ← hxq, hx, if_pos rfl]
    · rw [if_neg hxq]; cases sget s q <;> simp [Ne.symm hxq]

theorem sget_dispatchOn (s : Store) (subs : List Period) (a : Vec) (q : Period) :
    sget (dispatchOn s subs a) q =
      match sget s q with
      | some v => some v
      | none => if q ∈ subs then some a else none := by
  induction subs generalizing s with
  | nil => show sget s q = _; cases sget s q <;> simp
  | cons x xs ih =>
    rw [show dispatchOn s (x :: xs) a = dispatchOn (fillStep a s x) xs a from rfl, ih, sget_fillStep]
    cases sget s q with
    | some v => rfl
    | none => by_cases hq : q = x <;> simp [hq]

theorem dispatchOn_filled (s : Store) (subs : List Period) (a : Vec) : Filled s subs a (dispatchOn s subs a) :=
  fun q => sget_dispatchOn s subs a q

theorem dispatchOn_all_known (s : Store) (subs : List Period) (a : Vec)
    (hk : ∀ q, q ∈ subs → sget s q ≠ none) : dispatchOn s subs a = s := by
  induction subs with
  | nil => rfl
  | cons x xs ih =>
    have hx : fillStep a s x = s := by
      unfold fillStep
      cases hs : sget s x with
      | none => exact absurd hs (hk x List.mem_cons_self)
      | some w => rfl
    simp only [dispatchOn, List.foldl_cons, hx]
    exact ih (fun q hq => hk q (List.mem_cons_of_mem _ hq))

theorem knownSum_nil (s : Store) (i : Nat) : knownSum s [] i = 0 := by simp [knownSum]

theorem knownSum_cons (s : Store) (x : Period) (xs : List Period) (i : Nat) :
    knownSum s (x :: xs) i = entAt s x i + knownSum s xs i := by simp [knownSum]

theorem unknownCount_nil (s : Store) : unknownCount s [] = 0 := by simp [unknownCount]

theorem unknownCount_cons_none {s : Store} {x : Period} (xs : List Period) (h : sget s x = none) :
    unknownCount s (x :: xs) = unknownCount s xs + 1 := by simp [unknownCount, h]

theorem unknownCount_cons_some {s : Store} {x : Period} {v : Vec} (xs : List Period) (h : sget s x = some v) :
    unknownCount s (x :: xs) = unknownCount s xs := by simp [unknownCount, h]

theorem entAt_none {s : Store} {q : Period} (h : sget s q = none) (i : Nat) : entAt s q i = 0 := by
  simp [entAt, h]

theorem entAt_some {s : Store} {q : Period} {v : Vec} (h : sget s q = some v) (i : Nat) : entAt s q i = ent v i := by
  simp [entAt, h]

theorem knownSum_congr_ent {s s' : Store} {l : List Period} {i : Nat}
    (h : ∀ q, q ∈ l → entAt s q i = entAt s' q i) : knownSum s l i = knownSum s' l i :=
  congrArg List.sum (List.map_congr_left h)

theorem knownSum_congr {s s' : Store} {l : List Period} (hag : ∀ q, q ∈ l → sget s q = sget s' q) (i : Nat) :
    knownSum s l i = knownSum s' l i :=
  knownSum_congr_ent fun q hq => by unfold entAt; rw [hag q hq]

theorem unknownCount_congr {s s' : Store} {l : List Period} (hag : ∀ q, q ∈ l → sget s q = sget s' q) :
    unknownCount s l = unknownCount s' l := by
  unfold unknownCount
  congr 1
  apply List.filter_congr
  intro q hq
  rw [hag q hq]

theorem unknownCount_pos_iff {s : Store} {subs : List Period} :
    0 < unknownCount s subs ↔ ∃ q, q ∈ subs ∧ sget s q = none := by
  simp [unknownCount, List.length_pos_iff_exists_mem, List.mem_filter]

theorem unknownCount_zero_iff {s : Store} {subs : List Period} :
    unknownCount s subs = 0 ↔ ∀ q, q ∈ subs → sget s q ≠ none := by
  simp [unknownCount, List.filter_eq_nil_iff]

theorem tally_fold (n : Nat) (s : Store) (hwf : WF n s) (subs : List Period) (r : Vec) (c : Nat)
    (hr : r.length = n) :
    (subs.foldl (tallyStep s) (r, c)).1.length = n ∧
    (∀ i, ent (subs.foldl (tallyStep s) (r, c)).1 i = ent r i - knownSum s subs i) ∧
    (subs.foldl (tallyStep s) (r, c)).2 = c + unknownCount s subs := by
  induction subs generalizing r c with
  | nil => simp [knownSum_nil, unknownCount_nil, hr]
  | cons x xs ih =>
    simp only [List.foldl_cons]
    cases hx : sget s x with
    | none =>
      have e : tallyStep s (r, c) x = (r, c + 1) := by simp [tallyStep, hx]
      rw [e]
      obtain ⟨h1, h2, h3⟩ := ih r (c + 1) hr
      refine ⟨h1, ?_, ?_⟩
      · intro i; rw [h2 i, knownSum_cons, entAt_none hx]; ring
      · rw [h3, unknownCount_cons_none xs hx]; omega
    | some e' =>
      have e : tallyStep s (r, c) x = (vsub r e', c) := by simp [tallyStep, hx]
      rw [e]
      have hl : r.length = e'.length := by rw [hr, hwf x e' hx]
      obtain ⟨h1, h2, h3⟩ := ih (vsub r e') c (by rw [vsub_length hl, hr])
      refine ⟨h1, ?_, ?_⟩
      · intro i; rw [h2 i, knownSum_cons, entAt_some hx, ent_vsub hl]; ring
      · rw [h3, unknownCount_cons_some xs hx]

theorem tally_spec (s : Store) (subs : List Period) (a : Vec) (hwf : WF a.length s) :
    (tally s subs a).1.length = a.length ∧
    (∀ i, ent (tally s subs a).1 i = ent a i - knownSum s subs i) ∧
    (tally s subs a).2 = unknownCount s subs := by
  have := tally_fold a.length s hwf subs a 0 rfl
  simpa [tally] using this

theorem Filled.of_some {s t : Store} {subs : List Period} {c : Vec} (hf : Filled s subs c t) {q : Period}
    {v : Vec} (h : sget s q = some v) : sget t q = some v := by rw [hf q, h]

theorem Filled.of_none_mem {s t : Store} {subs : List Period} {c : Vec} (hf : Filled s subs c t)
    {q : Period} (h : sget s q = none) (hq : q ∈ subs) : sget t q = some c := by
  rw [hf q, h]; exact if_pos hq

theorem Filled.of_none_not_mem {s t : Store} {subs : List Period} {c : Vec} (hf : Filled s subs c t)
    {q : Period} (h : sget s q = none) (hq : q ∉ subs) : sget t q = none := by
  rw [hf q, h]; exact if_neg hq

theorem Filled.of_not_mem {s t : Store} {subs : List Period} {c : Vec} (hf : Filled s subs c t)
    {q : Period} (hq : q ∉ subs) : sget t q = sget s q := by
  rw [hf q]; cases sget s q <;> simp [hq]

theorem knownSum_filled_sub {s t : Store} {subs : List Period} {c : Vec} (hf : Filled s subs c t)
    (l : List Period) (hl : ∀ q, q ∈ l → q ∈ subs) (i : Nat) :
    knownSum t l i = knownSum s l i + (unknownCount s l : Rat) * ent c i := by
  induction l with
  | nil => simp [knownSum_nil, unknownCount_nil]
  | cons x xs ih =>
    rw [knownSum_cons, knownSum_cons, ih fun q hq => hl q (List.mem_cons_of_mem _ hq)]
    cases hx : sget s x with
    | none =>
      rw [unknownCount_cons_none xs hx, entAt_none hx, entAt_some (hf.of_none_mem hx (hl x List.mem_cons_self))]
      push_cast; ring
    | some v => rw [unknownCount_cons_some xs hx, entAt_some hx, entAt_some (hf.of_some hx)]; ring

theorem knownSum_filled {s t : Store} {subs : List Period} {c : Vec} (hf : Filled s subs c t) (i : Nat) :
    knownSum t subs i = knownSum s subs i + (unknownCount s subs : Rat) * ent c i :=
  knownSum_filled_sub hf subs (fun _ h => h) i

theorem Filled.known {s t : Store} {subs : List Period} {c : Vec} (hf : Filled s subs c t) :
    ∀ q, q ∈ subs → sget t q ≠ none := by
  intro q hq
  cases hs : sget s q with
  | none => rw [hf.of_none_mem hs hq]; nofun
  | some v => rw [hf.of_some hs]; nofun

theorem Filled.wf {n : Nat} {s t : Store} {subs : List Period} {c : Vec} (hf : Filled s subs c t)
    (hwf : WF n s) (hc : c.length = n) : WF n t := by
  intro q v hv
  cases hs : sget s q with
  | some w => rw [hf.of_some hs] at hv; cases hv; exact hwf q _ hs
  | none =>
    by_cases hq : q ∈ subs
    · rw [hf.of_none_mem hs hq] at hv; cases hv; exact hc
    · rw [hf.of_none_not_mem hs hq] at hv; cases hv

theorem share_length {s : Store} {a : Vec} (hwf : WF a.length s) (subs : List Period) (k : VKind) (n : Nat) :
    (castVec k (vdivn (tally s subs a).1 n)).length = a.length := by
  rw [castVec_length, vdivn_length, (tally_spec s subs a hwf).1]

theorem divideOn_cases (k : VKind) {s : Store} (l : List Period) {a : Vec} (hwf : WF a.length s) :
    (0 < unknownCount s l ∧
      divideOn k s l a = .ok (dispatchOn s l (castVec k (vdivn (tally s l a).1 (unknownCount s l))))) ∨
    (unknownCount s l = 0 ∧ (∀ i, ent a i = knownSum s l i) ∧ divideOn k s l a = .ok s) ∨
    (unknownCount s l = 0 ∧ (∃ i, i < a.length ∧ ent a i ≠ knownSum s l i) ∧
      divideOn k s l a = .error "inconsistent") := by
  obtain ⟨hl, he, hc⟩ := tally_spec s l a hwf
  have hz : (tally s l a).1.all (fun x => x == 0) = true ↔ ∀ i, ent a i = knownSum s l i := by
    rw [all_zero_iff]
    exact forall_congr' fun i => by rw [he i]; exact sub_eq_zero
  simp only [divideOn, hc]
  by_cases hu : unknownCount s l > 0
  · exact .inl ⟨hu, if_pos hu⟩
  rw [if_neg hu]
  by_cases hall : ∀ i, ent a i = knownSum s l i
  · exact .inr (.inl ⟨by omega, hall, if_pos (hz.2 hall)⟩)
  · refine .inr (.inr ⟨by omega, ?_, if_neg (mt hz.1 hall)⟩)
    -- some entity differs, and beyond the length of the amount both sides are 0
    obtain ⟨i, hi⟩ := Classical.not_forall.1 hall
    refine ⟨i, Nat.lt_of_not_le fun hge => hi ?_, hi⟩
    have := he i
    rw [ent_ge (hl ▸ hge), ent_ge hge, zero_sub] at this
    rw [ent_ge hge, ← neg_eq_zero.1 this.symm]

theorem divideOn_ok_filled {k : VKind} {s t : Store} {subs : List Period} {a : Vec}
    (hwf : WF a.length s) (h : divideOn k s subs a = .ok t) :
    ∃ c : Vec, c.length = a.length ∧ Filled s subs c t := by
  rcases divideOn_cases k subs hwf with ⟨-, e⟩ | ⟨hu, -, e⟩ | ⟨-, -, e⟩ <;> rw [e] at h
  · cases h; exact ⟨_, share_length hwf subs k _, dispatchOn_filled _ _ _⟩
  · cases h
    have hf := dispatchOn_filled s subs a
    rw [dispatchOn_all_known s subs a (unknownCount_zero_iff.1 hu)] at hf
    exact ⟨a, rfl, hf⟩
  · cases h

theorem divideOn_wf {k : VKind} {n : Nat} {s t : Store} {subs : List Period} {a : Vec} (hwf : WF n s)
    (ha : a.length = n) (h : divideOn k s subs a = .ok t) : WF n t := by
  subst ha
  obtain ⟨c, hcl, hf⟩ := divideOn_ok_filled hwf h
  exact hf.wf hwf hcl

theorem divideOn_num_ok_iff {s t : Store} {l : List Period} {a : Vec} (hwf : WF a.length s) :
    divideOn .num s l a = .ok t ↔
      ∃ c : Vec, c.length = a.length ∧
        (∀ i, ent a i = knownSum s l i + (unknownCount s l : Rat) * ent c i) ∧ t = dispatchOn s l c := by
  rcases divideOn_cases .num l hwf with ⟨hu, e⟩ | ⟨hu, hall, e⟩ | ⟨hu, ⟨i, -, hne⟩, e⟩ <;> rw [e]
  · -- some piece is unknown: the share is the only `c` that solves the equation
    have hne : (unknownCount s l : Rat) ≠ 0 := by exact_mod_cast Nat.pos_iff_ne_zero.mp hu
    have hsh : ∀ i, ent a i = knownSum s l i +
        (unknownCount s l : Rat) * ent (castVec .num (vdivn (tally s l a).1 (unknownCount s l))) i := fun i => by
      rw [castVec, ent_vdivn, (tally_spec s l a hwf).2.1 i]; field_simp; ring
    refine ⟨fun h => ⟨_, share_length hwf l .num _, hsh, (Except.ok.inj h).symm⟩, ?_⟩
    rintro ⟨c, hcl, hc, rfl⟩
    have : castVec .num (vdivn (tally s l a).1 (unknownCount s l)) = c :=
      vec_ext ((share_length hwf l .num _).trans hcl.symm) fun i _ =>
        mul_left_cancel₀ hne (add_left_cancel ((hsh i).symm.trans (hc i)))
    rw [this]
  all_goals
    -- every piece is known: any `c` dispatches to nothing, and the amount must be the total
    have hk : ∀ c, dispatchOn s l c = s := fun c => dispatchOn_all_known s l c (unknownCount_zero_iff.1 hu)
    simp only [hu, hk, Nat.cast_zero, zero_mul, add_zero]
  · exact ⟨fun h => ⟨a, rfl, hall, (Except.ok.inj h).symm⟩, fun ⟨_, _, _, h⟩ => h ▸ rfl⟩
  · exact ⟨nofun, fun ⟨_, _, h, _⟩ => absurd (h i) hne⟩

theorem divideOn_error_iff {s : Store} {subs : List Period} {a : Vec} (k : VKind) (hwf : WF a.length s) :
    (∃ e, divideOn k s subs a = .error e) ↔
      unknownCount s subs = 0 ∧ ∃ i, i < a.length ∧ ent a i ≠ knownSum s subs i := by
  rcases divideOn_cases k subs hwf with ⟨hu, e⟩ | ⟨-, hall, e⟩ | ⟨hu, hex, e⟩ <;> rw [e]
  · exact ⟨nofun, fun h => absurd h.1 (Nat.pos_iff_ne_zero.1 hu)⟩
  · exact ⟨nofun, fun ⟨_, i, _, hne⟩ => absurd (hall i) hne⟩
  · exact ⟨fun _ => ⟨hu, hex⟩, fun _ => ⟨_, rfl⟩⟩

theorem divideOn_keeps {k : VKind} {s t : Store} {l : List Period} {a : Vec} (h : divideOn k s l a = .ok t)
    {q : Period} {w : Vec} (hq : sget s q = some w) : sget t q = some w := by
  unfold divideOn at h
  simp only at h
  split at h
  · injection h with h; subst h; rw [sget_dispatchOn, hq]
  · split at h
    · injection h with h; subst h; exact hq
    · cases h

theorem fillStep_wf {n : Nat} {s : Store} (hwf : WF n s) (a : Vec) (ha : a.length = n) (x : Period) :
    WF n (fillStep a s x) :=
  (dispatchOn_filled s [x] a).wf hwf ha

theorem knownSum_fillStep_zero (n : Nat) (s : Store) (x : Period) (subs : List Period) (i : Nat) :
    knownSum (fillStep (vzero n) s x) subs i = knownSum s subs i :=
  knownSum_congr_ent fun q _ => by
    unfold entAt
    rw [sget_fillStep]
    cases hs : sget s q with
    | some w => rfl
    | none => by_cases hq : q = x <;> simp [hq, ent_vzero]

theorem sumStep_eq (n : Nat) (r : Vec) (s : Store) (x : Period) :
    sumStep n (r, s) x = (vadd r ((sget s x).getD (vzero n)), fillStep (vzero n) s x) := by
  unfold sumStep fillStep
  cases sget s x <;> simp

theorem sumOver_fold (n : Nat) (subs : List Period) (s : Store) (hwf : WF n s) (r : Vec) (hr : r.length = n) :
    (subs.foldl (sumStep n) (r, s)).2 = dispatchOn s subs (vzero n) ∧
    (subs.foldl (sumStep n) (r, s)).1.length = n ∧
    ∀ i, ent (subs.foldl (sumStep n) (r, s)).1 i = ent r i + knownSum s subs i := by
  induction subs generalizing s r with
  | nil => simp [dispatchOn, knownSum_nil, hr]
  | cons x xs ih =>
    simp only [List.foldl_cons, sumStep_eq, dispatchOn]
    have hv : ((sget s x).getD (vzero n)).length = n := by
      cases hs : sget s x with
      | none => simp [vzero_length]
      | some w => simpa using hwf x w hs
    have hl : r.length = ((sget s x).getD (vzero n)).length := by rw [hr, hv]
    obtain ⟨h1, h2, h3⟩ := ih (fillStep (vzero n) s x) (fillStep_wf hwf _ (vzero_length n) x)
      (vadd r ((sget s x).getD (vzero n))) (by rw [vadd_length hl, hr])
    refine ⟨by simpa [dispatchOn] using h1, h2, ?_⟩
    intro i
    rw [h3 i, ent_vadd hl, knownSum_fillStep_zero, knownSum_cons]
    have : ent ((sget s x).getD (vzero n)) i = entAt s x i := by
      unfold entAt
      cases hs : sget s x <;> simp [ent_vzero]
    rw [this]; ring

theorem sumOver_spec (n : Nat) (s : Store) (hwf : WF n s) (subs : List Period) :
    (sumOver n s subs).2 = dispatchOn s subs (vzero n) ∧ (sumOver n s subs).1.length = n ∧
    ∀ i, ent (sumOver n s subs).1 i = knownSum s subs i := by
  obtain ⟨h1, h2, h3⟩ := sumOver_fold n subs s hwf (vzero n) (vzero_length n)
  refine ⟨h1, h2, ?_⟩
  intro i
  have := h3 i
  rw [ent_vzero] at this
  simpa [sumOver] using this

/-- what a `divide` of `a` over the pieces `l` leaves: every piece known, the known values summing to `a` -/
def Settled (t : Store) (l : List Period) (a : Vec) : Prop :=
  (∀ q, q ∈ l → sget t q ≠ none) ∧ ∀ i, knownSum t l i = ent a i

theorem divideOn_settled {s t : Store} {l : List Period} {a : Vec} (hwf : WF a.length s)
    (h : divideOn .num s l a = .ok t) : Settled t l a := by
  obtain ⟨c, -, hsum, rfl⟩ := (divideOn_num_ok_iff hwf).1 h
  have hf := dispatchOn_filled s l c
  exact ⟨hf.known, fun i => by rw [knownSum_filled hf, hsum i]⟩

theorem Settled.of_keeps {s t : Store} {l : List Period} {a : Vec} (h : Settled s l a)
    (hk : ∀ q v, sget s q = some v → sget t q = some v) : Settled t l a := by
  have hag : ∀ q, q ∈ l → sget t q = sget s q := fun q hq => by
    cases hs : sget s q with
    | none => exact absurd hs (h.1 q hq)
    | some w => exact hk q w hs
  exact ⟨fun q hq => hag q hq ▸ h.1 q hq, fun i => by rw [knownSum_congr hag, h.2 i]⟩

theorem Settled.sumOver {t : Store} {l : List Period} {a : Vec} (h : Settled t l a) (hwt : WF a.length t) :
    sumOver a.length t l = (a, t) := by
  obtain ⟨h1, h2, h3⟩ := sumOver_spec a.length t hwt l
  exact Prod.ext (vec_ext h2 fun i _ => by rw [h3 i]; exact h.2 i)
    (by rw [h1]; exact dispatchOn_all_known t l _ h.1)

theorem Settled.divideOn_iff {k : VKind} {t t' : Store} {L l : List Period} {a x : Vec} (h : Settled t L a)
    (hin : ∀ q, q ∈ l → q ∈ L) (hwt : WF x.length t) :
    divideOn k t l x = .ok t' ↔ (∀ i, i < x.length → ent x i = knownSum t l i) ∧ t' = t := by
  have hu : unknownCount t l = 0 := unknownCount_zero_iff.mpr fun q hq => h.1 q (hin q hq)
  rcases divideOn_cases k l hwt with ⟨hu', -⟩ | ⟨-, hall, e⟩ | ⟨-, ⟨i, hi, hne⟩, e⟩
  · omega
  · rw [e]; exact ⟨fun h => ⟨fun i _ => hall i, (Except.ok.inj h).symm⟩, fun h => h.2 ▸ rfl⟩
  · rw [e]; exact ⟨nofun, fun h => absurd (h.1 i hi) hne⟩

end OFCore
