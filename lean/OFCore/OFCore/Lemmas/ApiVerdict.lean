import OFCore.Lemmas.ApiSpec
import OFCore.Lemmas.Except
/-! C20, the test runner: each Boolean layer decides the predicate of the statements (`near`/`InMargins`, `holds1`/`Within`,
`checkValue`/`HoldsValue`, `checkExpectation`/`Holds`). `checkValue` is a function of the comparison context of
the variable at the period (`cmpCtx`: declared type, calculated vector, the two margins), which does not depend on the instance or
on the expected value. -/
namespace OFCore.Api

theorem absQ_le_iff (x m : Rat) : absQ x ≤ m ↔ -m ≤ x ∧ x ≤ m := by
  unfold absQ; split <;> grind

theorem absQ_nonneg (x : Rat) : 0 ≤ absQ x := by unfold absQ; split <;> grind

theorem absQ_le_zero_iff (x : Rat) : absQ x ≤ 0 ↔ x = 0 := by
  rw [absQ_le_iff]; grind

theorem absQ_neg (x : Rat) : absQ (-x) = absQ x := by unfold absQ; grind

theorem absQ_mul (a b : Rat) : absQ (a * b) = absQ a * absQ b := by
  -- for non-negative factors all three are the numbers themselves; a sign is moved out by `absQ_neg`
  have nonneg : ∀ {a b : Rat}, 0 ≤ a → 0 ≤ b → absQ (a * b) = absQ a * absQ b := by
    intro a b ha hb
    have := Rat.mul_nonneg ha hb
    unfold absQ
    rw [if_neg (by grind), if_neg (by grind), if_neg (by grind)]
  have right : ∀ a {b : Rat}, 0 ≤ b → absQ (a * b) = absQ a * absQ b := by
    intro a b hb
    by_cases ha : 0 ≤ a
    · exact nonneg ha hb
    · have := nonneg (a := -a) (by grind) hb
      rwa [Rat.neg_mul, absQ_neg, absQ_neg] at this
  by_cases hb : 0 ≤ b
  · exact right a hb
  · have := right a (b := -b) (by grind)
    rwa [Rat.mul_neg, absQ_neg, absQ_neg] at this

section Near
variable (e a m r : Rat)

@[simp] theorem near_none_none : near none none e a = decide (absQ (e - a) ≤ 0) := by simp [near]

@[simp] theorem near_some_none : near (some m) none e a = decide (absQ (e - a) ≤ m) := by simp [near]

@[simp] theorem near_none_some : near none (some r) e a = decide (absQ (e - a) ≤ absQ (r * e)) := by
  simp [near]

@[simp] theorem near_some_some :
    near (some m) (some r) e a = (decide (absQ (e - a) ≤ m) && decide (absQ (e - a) ≤ absQ (r * e))) := by
  simp [near]

end Near

theorem near_none_none_iff (e a : Rat) : near none none e a = true ↔ e = a := by
  rw [near_none_none, decide_eq_true_eq, absQ_le_zero_iff]; grind

theorem near_iff (abs rel : Option Rat) (e a : Rat) : near abs rel e a = true ↔ InMargins abs rel e a := by
  cases abs with
  | none =>
    cases rel with
    | none => rw [near_none_none_iff]; simp [InMargins]
    | some r => simp [InMargins]
  | some m => cases rel <;> simp [InMargins]

/-- the distance `assert_near` accepts: the smaller of the stated margins, `0` when none is stated -/
def tol (abs rel : Option Rat) (e : Rat) : Rat :=
  match abs, rel with
  | none, none => 0
  | some m, none => m
  | none, some r => absQ (r * e)
  | some m, some r => min m (absQ (r * e))

theorem near_iff_tol (abs rel : Option Rat) (e a : Rat) : near abs rel e a = true ↔ absQ (e - a) ≤ tol abs rel e := by
  cases abs <;> cases rel <;> simp [tol, Std.le_min_iff]

theorem holds1_iff (mode : Mode) (abs rel : Option Rat) (v : Val) (e : Exp) :
    holds1 mode abs rel (v, e) = true ↔ Within mode abs rel v e := by
  cases mode with
  | enum =>
    cases v with
    | enum name => cases e <;> simp [holds1, cmp1, Within, eq_comm]
    | _ => simp [holds1, cmp1, Within]
  | date =>
    cases v with
    | date d =>
      simp only [holds1, cmp1, Within]
      cases e.toDate with
      | error x => simp
      | ok d' => simp [near_iff, eq_comm (a := d)]
    | _ => simp [holds1, cmp1, Within]
  | text =>
    cases v with
    | str s =>
      simp only [holds1, cmp1, Within]
      cases e.toText <;> simp [eq_comm]
    | _ => simp [holds1, cmp1, Within]
  | numeric =>
    simp only [holds1, cmp1, Within]
    cases v.toNum with
    | error x => simp
    | ok a =>
      cases e.toNum with
      | error x => simp
      | ok t => simp [near_iff]

theorem assertNear_iff (ty : VType) (vs : List Val) (tg : Target) (a r : Option Rat) :
    assertNear ty vs tg a r = true ↔
      ∃ ps, pairUp vs tg = .ok ps ∧ ∀ p ∈ ps, Within (cmpMode ty tg) a r p.1 p.2 := by
  unfold assertNear
  cases hp : pairUp vs tg with
  | error e => simp
  | ok ps =>
    simp only [List.all_eq_true, Except.ok.injEq, exists_eq_left']
    constructor
    · intro h p hp; exact (holds1_iff _ a r p.1 p.2).mp (h p hp)
    · intro h p hp; exact (holds1_iff _ a r p.1 p.2).mpr (h p hp)

/-- what `check_variable` compares a variable with at a period, before it looks at the instance or the expected value -/
structure CmpCtx where
  ty : VType
  vec : List Val
  abs : Option Rat
  rel : Option Rat

def cmpCtx (w : Sim) (t : YTest) (var : String) (per : Option String) : Option CmpCtx := do
  let p ← per
  let ty ← w.vtype var
  let vec ← (w.calcv var p).toOption
  let a ← (marginFor t.absM var).toOption
  let r ← (marginFor t.relM var).toOption
  pure ⟨ty, vec, a, r⟩

theorem cmpCtx_eq_some {w : Sim} {t : YTest} {var : String} {per : Option String} {c : CmpCtx} :
    cmpCtx w t var per = some c ↔ ∃ p, per = some p ∧ w.vtype var = some c.ty ∧ w.calcv var p = .ok c.vec ∧
      marginFor t.absM var = .ok c.abs ∧ marginFor t.relM var = .ok c.rel := by
  obtain ⟨ty, vec, a, r⟩ := c
  simp only [cmpCtx, bind, pure, Option.bind_eq_some_iff, toOption_eq_some, Option.some.injEq, CmpCtx.mk.injEq]
  constructor
  · rintro ⟨p, hp, _, hty, _, hv, _, ha, _, hr, rfl, rfl, rfl, rfl⟩
    exact ⟨p, hp, hty, hv, ha, hr⟩
  · rintro ⟨p, hp, hty, hv, ha, hr⟩
    exact ⟨p, hp, ty, hty, vec, hv, a, ha, r, hr, rfl, rfl, rfl, rfl⟩

theorem checkValue_eq (w : Sim) (t : YTest) (x : Expectation) :
    checkValue w t x = match cmpCtx w t x.var x.period with
      | none => false
      | some c =>
        match selectInst w x c.vec with
        | .ok vs => assertNear c.ty vs x.expected c.abs c.rel
        | .error _ => false := by
  unfold checkValue cmpCtx
  cases x.period with
  | none => rfl
  | some per =>
    cases w.vtype x.var with
    | none => rfl
    | some ty =>
      dsimp only [bind, Option.bind]
      cases w.calcv x.var per with
      | error e => rfl
      | ok vec =>
        -- the two sides test the margins and the selection in a different order: eight outcomes, each by computation
        cases marginFor t.absM x.var <;> cases marginFor t.relM x.var
        all_goals dsimp only [Except.toOption, pure]
        all_goals cases selectInst w x vec <;> rfl

theorem checkValue_iff (w : Sim) (t : YTest) (x : Expectation) :
    checkValue w t x = true ↔ HoldsValue w t x := by
  rw [checkValue_eq]
  constructor
  · intro h
    split at h
    · cases h
    next c hc =>
    obtain ⟨per, hper, hty, hv, ha, hr⟩ := cmpCtx_eq_some.mp hc
    split at h
    next vs hs =>
      obtain ⟨ps, hp, hall⟩ := (assertNear_iff _ vs x.expected _ _).mp h
      exact ⟨per, c.ty, c.vec, vs, c.abs, c.rel, ps, hper, hty, hv, hs, ha, hr, hp, hall⟩
    · cases h
  · rintro ⟨per, ty, vec, vs, a, r, ps, h1, h2, h3, h4, h5, h6, h7, h8⟩
    rw [(cmpCtx_eq_some (c := ⟨ty, vec, a, r⟩)).mpr ⟨per, h1, h2, h3, h5, h6⟩]
    simp only [h4]
    exact (assertNear_iff ty vs x.expected a r).mpr ⟨ps, h7, h8⟩

theorem checkExpectation_eq (w : Sim) (t : YTest) (x : Expectation) :
    checkExpectation w t x = (instKnown w x && (shouldIgnore t x.var || checkValue w t x)) := by
  unfold checkExpectation
  cases instKnown w x <;> cases shouldIgnore t x.var <;> rfl

theorem checkExpectation_iff (w : Sim) (t : YTest) (x : Expectation) :
    checkExpectation w t x = true ↔ Holds w t x := by
  simp only [checkExpectation_eq, Holds, Bool.and_eq_true, Bool.or_eq_true, checkValue_iff]

theorem Wider.of_tol_le {a r a' r' : Option Rat} (h : ∀ e, tol a r e ≤ tol a' r' e) : Wider a r a' r' := fun e _ hn =>
  (near_iff_tol ..).mpr (Rat.le_trans ((near_iff_tol ..).mp hn) (h e))

theorem Wider.of_abs_le {m m' : Rat} (r : Option Rat) (h : m ≤ m') : Wider (some m) r (some m') r := by
  refine .of_tol_le fun e => ?_
  cases r
  · exact h
  · exact Std.le_min_iff.mpr ⟨Rat.le_trans Std.min_le_left h, Std.min_le_right⟩

theorem Wider.of_rel_le (a : Option Rat) {r r' : Rat} (h : absQ r ≤ absQ r') : Wider a (some r) a (some r') := by
  have hre : ∀ e, absQ (r * e) ≤ absQ (r' * e) := fun e => by
    rw [absQ_mul, absQ_mul]; exact Rat.mul_le_mul_of_nonneg_right h (absQ_nonneg e)
  refine .of_tol_le fun e => ?_
  cases a
  · exact hre e
  · exact Std.le_min_iff.mpr ⟨Std.min_le_left, Rat.le_trans Std.min_le_right (hre e)⟩

theorem Wider.of_exact {m : Rat} (r : Option Rat) (h : 0 ≤ m) : Wider none none (some m) r := by
  refine .of_tol_le fun e => ?_
  cases r
  · exact h
  · exact Std.le_min_iff.mpr ⟨h, absQ_nonneg _⟩

theorem Wider.drop_rel (m r : Rat) : Wider (some m) (some r) (some m) none := .of_tol_le fun _ => Std.min_le_left

theorem Wider.drop_abs (m r : Rat) : Wider (some m) (some r) none (some r) := .of_tol_le fun _ => Std.min_le_right

theorem Wider.refl (a r : Option Rat) : Wider a r a r := fun _ _ h => h

theorem Wider.trans {a r a' r' a'' r'' : Option Rat} (h₁ : Wider a r a' r') (h₂ : Wider a' r' a'' r'') :
    Wider a r a'' r'' := fun e x h => h₂ e x (h₁ e x h)

theorem Within.mono {a r a' r' : Option Rat} (hw : Wider a r a' r') {mode : Mode} {v : Val} {e : Exp}
    (h : Within mode a r v e) : Within mode a' r' v e := by
  have hm : ∀ t x, InMargins a r t x → InMargins a' r' t x :=
    fun t x h => (near_iff a' r' t x).mp (hw t x ((near_iff a r t x).mpr h))
  cases mode with
  | enum => exact h
  | text => exact h
  | date => obtain ⟨d, hv, he, hd⟩ := h; exact ⟨d, hv, he, hm 0 0 hd⟩
  | numeric => obtain ⟨x, t, hv, he, hn⟩ := h; exact ⟨x, t, hv, he, hm t x hn⟩

theorem HoldsValue.mono {w : Sim} {t t' : YTest} (hm : MarginsWider t t') {x : Expectation}
    (h : HoldsValue w t x) : HoldsValue w t' x := by
  obtain ⟨per, ty, vec, vs, a, r, ps, h1, h2, h3, h4, h5, h6, h7, h8⟩ := h
  obtain ⟨a', r', ha', hr', hw⟩ := hm x.var a r h5 h6
  exact ⟨per, ty, vec, vs, a', r', ps, h1, h2, h3, h4, ha', hr', h7, fun p hp => (h8 p hp).mono hw⟩

theorem Holds.mono {w : Sim} {t t' : YTest} (hm : MarginsWider t t')
    (hig : ∀ v, shouldIgnore t' v = shouldIgnore t v) {x : Expectation} (h : Holds w t x) : Holds w t' x :=
  ⟨h.1, h.2.imp (fun hi => by rw [hig]; exact hi) (HoldsValue.mono hm)⟩

theorem verdictSim_iff (w : Sim) (t : YTest) :
    verdictSim w t = true ↔ ∃ xs, expectations w t = .ok xs ∧ ∀ x ∈ xs, Holds w t x := by
  unfold verdictSim
  cases expectations w t with
  | error e => simp
  | ok xs => simp only [List.all_eq_true, checkExpectation_iff, Except.ok.injEq, exists_eq_left']

theorem verdict_iff (built : Except String Sim) (t : YTest) :
    verdict built t = true ↔ ∃ w xs, built = .ok w ∧ expectations w t = .ok xs ∧ ∀ x ∈ xs, Holds w t x := by
  cases built with
  | error e => simp [verdict]
  | ok w => simp only [verdict, verdictSim_iff, Except.ok.injEq, exists_and_left, exists_eq_left']

theorem verdictSim_mono {w : Sim} {t t' : YTest} (hp : t'.period = t.period) (ho : t'.output = t.output)
    (hon : t'.only = t.only) (hig : t'.ignore = t.ignore) (hm : MarginsWider t t')
    (h : verdictSim w t = true) : verdictSim w t' = true := by
  rw [verdictSim_iff] at h ⊢
  obtain ⟨xs, hx, hall⟩ := h
  exact ⟨xs, by simpa only [expectations, ho, hp] using hx,
    fun x hxm => (hall x hxm).mono hm fun v => by simp only [shouldIgnore, hon, hig]⟩

end OFCore.Api
