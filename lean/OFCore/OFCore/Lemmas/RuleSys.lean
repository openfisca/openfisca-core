import OFCore.RuleSys
/-!
# Which dated entry is in force

`Variable.get_formula` and `Parameter.get_at_instant` are the same scan (greatest start on or before the
date, the later entry winning a tie): specified once, for any step function of that shape.
Last, the fields of `elabSys` at a variable, declared or not.
-/
namespace OFCore.RuleSys
open OFCore

def IsScanStep {α : Type} (o : Int) (step : Option (Int × α) → Int × α → Option (Int × α)) : Prop :=
  ∀ best f, step best f =
    if f.1 ≤ o then (match best with | none => some f | some b => if b.1 ≤ f.1 then some f else some b) else best

theorem pickStep_isScanStep (o : Int) : IsScanStep o (pickStep o) := fun best _ => by cases best <;> rfl
theorem latestStep_isScanStep (o : Int) : IsScanStep o (latestStep o) := fun best _ => by cases best <;> rfl

section scan
variable {α : Type} {o : Int} {step : Option (Int × α) → Int × α → Option (Int × α)} (hstep : IsScanStep o step)
include hstep

theorem scan_fold_spec : ∀ (l : List (Int × α)) (best : Option (Int × α)) (seen : List (Int × α)),
    (∀ b, best = some b → b ∈ seen ∧ b.1 ≤ o ∧ ∀ f' ∈ seen, f'.1 ≤ o → f'.1 ≤ b.1) →
    (best = none → ∀ f' ∈ seen, ¬ f'.1 ≤ o) →
    (∀ b, l.foldl step best = some b → b ∈ seen ++ l ∧ b.1 ≤ o ∧ ∀ f' ∈ seen ++ l, f'.1 ≤ o → f'.1 ≤ b.1) ∧
    (l.foldl step best = none → ∀ f' ∈ seen ++ l, ¬ f'.1 ≤ o)
  | [], best, seen, h1, h2 => by simpa only [List.foldl_nil, List.append_nil] using ⟨h1, h2⟩
  | f :: l, best, seen, h1, h2 => by
    have := scan_fold_spec l (step best f) (seen ++ [f]) ?_ ?_
    · simpa only [List.foldl_cons, List.append_assoc, List.singleton_append] using this
    all_goals
      rw [hstep]
      simp only [List.mem_append, List.mem_singleton]
    · intro b hb
      by_cases hf : f.1 ≤ o
      · rw [if_pos hf] at hb
        cases best with
        | none =>
          cases hb
          refine ⟨.inr rfl, hf, ?_⟩
          rintro f' (hm | rfl) hle
          · exact absurd hle (h2 rfl f' hm)
          · exact Int.le_refl _
        | some b0 =>
          obtain ⟨hm0, hle0, hmax0⟩ := h1 b0 rfl
          by_cases hb0 : b0.1 ≤ f.1
          · simp only [if_pos hb0] at hb; cases hb
            refine ⟨.inr rfl, hf, ?_⟩
            rintro f' (hm | rfl) hle
            · exact Int.le_trans (hmax0 f' hm hle) hb0
            · exact Int.le_refl _
          · simp only [if_neg hb0] at hb; cases hb
            refine ⟨.inl hm0, hle0, ?_⟩
            rintro f' (hm | rfl) hle
            · exact hmax0 f' hm hle
            · omega
      · rw [if_neg hf] at hb
        obtain ⟨hm0, hle0, hmax0⟩ := h1 b hb
        refine ⟨.inl hm0, hle0, ?_⟩
        rintro f' (hm | rfl) hle
        · exact hmax0 f' hm hle
        · exact absurd hle hf
    · intro hn f' hf'
      by_cases hf : f.1 ≤ o
      · rw [if_pos hf] at hn
        cases best with
        | none => cases hn
        | some b0 => simp only at hn; split at hn <;> cases hn
      · rw [if_neg hf] at hn
        exact hf'.elim (h2 hn f') (fun e => e ▸ hf)

theorem scan_spec (l : List (Int × α)) :
    (∀ b, l.foldl step none = some b → b ∈ l ∧ b.1 ≤ o ∧ ∀ f ∈ l, f.1 ≤ o → f.1 ≤ b.1) ∧
    (l.foldl step none = none → ∀ f ∈ l, ¬ f.1 ≤ o) := by
  simpa only [List.nil_append] using scan_fold_spec hstep l none [] nofun nofun

theorem scan_value_spec (l : List (Int × α)) :
    (∀ x, (l.foldl step none).map (·.2) = some x → ∃ s, (s, x) ∈ l ∧ s ≤ o ∧ ∀ f ∈ l, f.1 ≤ o → f.1 ≤ s) ∧
    ((l.foldl step none).map (·.2) = none → ∀ f ∈ l, ¬ f.1 ≤ o) := by
  obtain ⟨h1, h2⟩ := scan_spec hstep l
  refine ⟨fun x hx => ?_, fun hn => h2 (Option.map_eq_none_iff.1 hn)⟩
  obtain ⟨b, hb, rfl⟩ := Option.map_eq_some_iff.1 hx
  exact ⟨b.1, h1 b hb⟩

end scan

theorem pick_spec (v : Var) (o : Int) :
    (∀ e, pickFormula v o = some e →
        ∃ s, (s, e) ∈ v.formulas ∧ s ≤ o ∧ ∀ f ∈ v.formulas, f.1 ≤ o → f.1 ≤ s) ∧
    (pickFormula v o = none → ∀ f ∈ v.formulas, ¬ f.1 ≤ o) :=
  scan_value_spec (pickStep_isScanStep o) v.formulas

theorem pick_snoc (o : Int) (l : List (Int × DExpr)) (a : Int × DExpr) (hs : ∀ f ∈ l, f.1 < a.1) :
    (l ++ [a]).foldl (pickStep o) none = if a.1 ≤ o then some a else l.foldl (pickStep o) none := by
  rw [List.foldl_append]
  simp only [List.foldl_cons, List.foldl_nil]
  have hm : ∀ b, l.foldl (pickStep o) none = some b → b ∈ l :=
    fun b hb => ((scan_spec (pickStep_isScanStep o) l).1 b hb).1
  generalize l.foldl (pickStep o) none = r at hm
  unfold pickStep
  by_cases h1 : a.1 ≤ o
  · simp only [h1, if_true]
    cases r with
    | none => rfl
    | some b =>
      have := hs b (hm b rfl)
      simp only [show b.1 ≤ a.1 by omega, if_true]
  · simp only [h1, if_false]

/-- `r` is the descending list `Variable.get_formula` scans (`reversed(self.formulas)`), `r.reverse` the ascending
    content the model folds over: the fold is the first match of the scan -/
theorem pick_eq_scan (o : Int) : ∀ (r : List (Int × DExpr)), (r.reverse).Pairwise (fun a b => a.1 < b.1) →
    r.reverse.foldl (pickStep o) none = r.find? (fun f => decide (f.1 ≤ o)) := by
  intro r
  induction r with
  | nil => intro _; rfl
  | cons a r ih =>
    intro hp
    rw [List.reverse_cons] at hp ⊢
    rw [List.pairwise_append] at hp
    obtain ⟨hp1, _, hp3⟩ := hp
    rw [pick_snoc o r.reverse a (fun f hf => hp3 f hf a (by simp)), ih hp1, List.find?_cons]
    by_cases h : a.1 ≤ o <;> simp [h]

theorem fst_inj_of_nodup : ∀ (l : List (Int × DExpr)), (l.map (·.1)).Nodup → ∀ a ∈ l, ∀ b ∈ l, a.1 = b.1 → a = b := by
  intro l
  induction l with
  | nil => intro _ a ha; cases ha
  | cons x l ih =>
    intro hn a ha b hb hab
    rw [List.map_cons, List.nodup_cons] at hn
    obtain ⟨hx, hn⟩ := hn
    rcases List.mem_cons.mp ha with rfl | ha' <;> rcases List.mem_cons.mp hb with rfl | hb'
    · rfl
    · exact absurd (List.mem_map.mpr ⟨b, hb', hab.symm⟩) hx
    · exact absurd (List.mem_map.mpr ⟨a, ha', hab⟩) hx
    · exact ih hn a ha' b hb' hab

theorem pick_perm (o : Int) (l1 l2 : List (Int × DExpr)) (hp : l1.Perm l2) (hn : (l1.map (·.1)).Nodup) :
    l1.foldl (pickStep o) none = l2.foldl (pickStep o) none := by
  have s1 := scan_spec (pickStep_isScanStep o) l1
  have s2 := scan_spec (pickStep_isScanStep o) l2
  cases h1 : l1.foldl (pickStep o) none with
  | none =>
    cases h2 : l2.foldl (pickStep o) none with
    | none => rfl
    | some b2 =>
      obtain ⟨m2, le2, _⟩ := s2.1 b2 h2
      exact absurd le2 (s1.2 h1 b2 (hp.mem_iff.mpr m2))
  | some b1 =>
    obtain ⟨m1, le1, mx1⟩ := s1.1 b1 h1
    cases h2 : l2.foldl (pickStep o) none with
    | none => exact absurd le1 (s2.2 h2 b1 (hp.mem_iff.mp m1))
    | some b2 =>
      obtain ⟨m2, le2, mx2⟩ := s2.1 b2 h2
      have e : b1.1 = b2.1 := by
        have := mx1 b2 (hp.mem_iff.mpr m2) le2
        have := mx2 b1 (hp.mem_iff.mp m1) le1
        omega
      rw [fst_inj_of_nodup l1 hn b1 m1 b2 (hp.mem_iff.mpr m2) e]

theorem formulaInForce_cases (v : Var) (o : Int) :
    (∃ en, v.endOrd = some en ∧ en < o ∧ formulaInForce v o = none) ∨
    ((∀ en, v.endOrd = some en → o ≤ en) ∧ formulaInForce v o = pickFormula v o) := by
  unfold formulaInForce
  cases hen : v.endOrd with
  | none => exact .inr ⟨nofun, rfl⟩
  | some en =>
    by_cases hgt : o > en
    · exact .inl ⟨en, rfl, hgt, if_pos hgt⟩
    · exact .inr ⟨fun en' h => by cases h; omega, if_neg hgt⟩

theorem formulaInForce_eq_pick {v : Var} {o : Int} (h : ∀ en, v.endOrd = some en → o ≤ en) :
    formulaInForce v o = pickFormula v o := by
  rcases formulaInForce_cases v o with ⟨en, hen, hlt, _⟩ | ⟨_, he⟩
  · have := h en hen; omega
  · exact he

theorem formulaInForce_mem (vv : Var) (o : Int) (e : DExpr) (h : formulaInForce vv o = some e) :
    ∃ s, (s, e) ∈ vv.formulas := by
  rcases formulaInForce_cases vv o with ⟨_, _, _, hn⟩ | ⟨_, he⟩
  · rw [hn] at h; cases h
  · rw [he] at h
    obtain ⟨s, hs, _⟩ := (pick_spec vv o).1 e h
    exact ⟨s, hs⟩

theorem elabSys_unknown {d : Decl} {armed : List Nat} {v : Nat} (h : d.vars[v]? = none) :
    (elabSys d armed).input v = (fun _ => none) ∧ (elabSys d armed).formula v = (fun _ => none) ∧
    (elabSys d armed).dflt v = [] ∧ (elabSys d armed).post v = id := by
  simp only [elabSys, h, true_and]
  rfl

theorem elabSys_declared {d : Decl} {armed : List Nat} {v : Nat} {vv : Var} (h : d.vars[v]? = some vv) :
    ((elabSys d armed).input v = fun p =>
      if vv.neutralized then some (List.replicate (d.size vv.entity) vv.dflt)
      else match vv.endOrd with
        | some e => if p.unit ≠ .eternity ∧ ord p.start > e then none else inputLookup d v p
        | none => inputLookup d v p) ∧
    ((elabSys d armed).formula v = fun p =>
      (formulaInForce vv (startOrdOf p)).map (elabExpr d vv.entity p)) ∧
    (elabSys d armed).dflt v = List.replicate (d.size vv.entity) vv.dflt ∧
    (elabSys d armed).post v = castTo vv.vtype := by
  simp only [elabSys, h, and_true]
  rfl

end OFCore.RuleSys

namespace OFCore
open RuleSys

theorem pick_fold_spec (o : Int) : ∀ (l : List (Int × DExpr)) (best : Option (Int × DExpr)) (seen : List (Int × DExpr)),
    (∀ b, best = some b → b ∈ seen ∧ b.1 ≤ o ∧ ∀ f' ∈ seen, f'.1 ≤ o → f'.1 ≤ b.1) →
    (best = none → ∀ f' ∈ seen, ¬ f'.1 ≤ o) →
    (∀ b, l.foldl (pickStep o) best = some b → b ∈ seen ++ l ∧ b.1 ≤ o ∧ ∀ f' ∈ seen ++ l, f'.1 ≤ o → f'.1 ≤ b.1) ∧
    (l.foldl (pickStep o) best = none → ∀ f' ∈ seen ++ l, ¬ f'.1 ≤ o) := by
  exact scan_fold_spec (pickStep_isScanStep o)

end OFCore
