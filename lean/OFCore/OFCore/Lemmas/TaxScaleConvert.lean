import OFCore.Lemmas.TaxScaleClip
/-!
# Tax scales: `inverse`, `to_average`, `to_marginal`: each loop appends above what it has produced, so its result is
the accumulator followed by an explicit list (`invL`, `avgL`; `to_marginal` is only run on an `avgL`, where that list is
the scale the `avgL` was made from)
-/
namespace OFCore.Sca

/-- the brackets `inverse` produces from the state `(previous_rate, theta)` -/
def invL (prev θ : Rat) : Scale → Scale
  | [] => []
  | (t, r) :: rest => ((1 - prev) * t + θ, 1 / (1 - r)) :: invL r ((r - prev) * t + θ) rest

/-- a threshold 0 resets the state of `inverse` to `(0, 0)`: the state must be that already when the scale starts at 0 -/
theorem inverseGo_eq (s : Scale) :
    ∀ (prev θ : Rat) (acc : Scale), StrictSorted s → (∀ c ∈ s, 0 ≤ c.1) →
      (∀ c ∈ s.head?, c.1 = 0 → prev = 0 ∧ θ = 0) → (∀ c ∈ s, c.2 < 1) →
      (∀ c ∈ acc, ∀ d ∈ s.head?, c.1 < (1 - prev) * d.1 + θ) →
      inverseGo (some (prev, θ)) s acc = .ok (acc ++ invL prev θ s) := by
  induction s with
  | nil => intro prev θ acc _ _ _ _ _; exact congrArg _ (List.append_nil _).symm
  | cons a rest ih =>
    obtain ⟨t, r⟩ := a
    intro prev θ acc hs hnn h0 hr hlt
    rw [strictSorted_cons] at hs
    have hst : (if t = 0 then some ((0 : Rat), (0 : Rat)) else some (prev, θ)) = some (prev, θ) := by
      split_ifs with ht
      · obtain ⟨rfl, rfl⟩ := h0 (t, r) rfl ht; rfl
      · rfl
    have hr1 : r < 1 := hr (t, r) List.mem_cons_self
    have hlt' : ∀ c ∈ acc, c.1 < (1 - prev) * t + θ := fun c hc => hlt c hc (t, r) rfl
    have hpos : ∀ d ∈ rest, 0 < d.1 := fun d hd => lt_of_le_of_lt (hnn (t, r) List.mem_cons_self) (hs.1 d hd)
    simp only [inverseGo, hst, ne_of_lt hr1, if_false]
    rw [addBracket_append acc _ _ hlt',
      ih r ((r - prev) * t + θ) _ hs.2 (fun c hc => (hpos c hc).le)
        (fun d hd hd0 => absurd hd0 (hpos d (List.mem_of_mem_head? hd)).ne')
        (fun c hc => hr c (List.mem_cons_of_mem _ hc))]
    · simp [invL]
    · intro c hc d hd
      have key : (1 - prev) * t + θ < (1 - r) * d.1 + ((r - prev) * t + θ) := by
        have := mul_pos (sub_pos.mpr hr1) (sub_pos.mpr (hs.1 d (List.mem_of_mem_head? hd)))
        linarith
      rcases List.mem_append.mp hc with h | h
      · exact (hlt' c h).trans key
      · rw [List.mem_singleton.mp h]; exact key

theorem inverse_eq (r0 : Rat) (rest : Scale) (hs : StrictSorted ((0, r0) :: rest))
    (hr : ∀ c ∈ (0, r0) :: rest, c.2 < 1) :
    inverse ((0, r0) :: rest) = .ok (invL 0 0 ((0, r0) :: rest)) := by
  have h := inverseGo_eq ((0, r0) :: rest) 0 0 [] hs
    (List.forall_mem_cons.mpr ⟨le_rfl, fun c hc => ((strictSorted_cons.mp hs).1 c hc).le⟩)
    (fun _ _ _ => ⟨rfl, rfl⟩) hr (fun c hc => absurd hc List.not_mem_nil)
  rw [List.nil_append] at h
  -- the first threshold 0 binds the unbound state to `(0, 0)`
  rw [← h]
  unfold inverse
  simp only [inverseGo, if_true]

theorem invL_ge (s : Scale) : ∀ (prev θ x : Rat), prev ≤ 1 → StrictSorted s → (∀ c ∈ s, c.2 < 1) →
    (∀ c ∈ s, x ≤ c.1) → ∀ c ∈ invL prev θ s, (1 - prev) * x + θ ≤ c.1 := by
  induction s with
  | nil => intro _ _ _ _ _ _ _ c hc; cases hc
  | cons a rest ih =>
    obtain ⟨t, r⟩ := a
    intro prev θ x hp hs hr hx c hc
    have hs' := strictSorted_cons.mp hs
    have h0 := mul_le_mul_of_nonneg_left (hx (t, r) List.mem_cons_self) (sub_nonneg.mpr hp)
    rcases List.mem_cons.mp hc with e | e
    · rw [e]; exact add_le_add_left h0 θ
    · have := ih r ((r - prev) * t + θ) t (hr (t, r) List.mem_cons_self).le hs'.2
        (fun c hc => hr c (List.mem_cons_of_mem _ hc)) (fun c hc => (hs'.1 c hc).le) c e
      linarith

/-- the inverse scale maps net back to gross, measured from the head threshold `t`, whose net image is `(1 − prev)·t + θ`;
here for a base in the first bracket -/
theorem inv_calc_first (s : Scale) (prev θ t r x : Rat) (hs : StrictSorted ((t, r) :: s))
    (hr : ∀ c ∈ (t, r) :: s, c.2 < 1) (hx : t ≤ x) (hpost : ∀ c ∈ s, x ≤ c.1) :
    clipSum none true (invL prev θ ((t, r) :: s))
      ((1 - prev) * t + θ + (x - t) - clipSum none true ((t, r) :: s) x) = x - t := by
  have hr1 : 0 < 1 - r := sub_pos.mpr (hr (t, r) List.mem_cons_self)
  have hy : (1 - prev) * t + θ + (x - t) - r * (x - t) = (1 - r) * x + ((r - prev) * t + θ) := by ring
  rw [clipSum_first hx hpost, invL, hy, clipSum_first
    (by have := mul_nonneg hr1.le (sub_nonneg.mpr hx); linarith)
    (invL_ge s r _ x (sub_nonneg.mp hr1.le) (strictSorted_cons.mp hs).2
      (fun c hc => hr c (List.mem_cons_of_mem _ hc)) hpost),
    show (1 - r) * x + ((r - prev) * t + θ) - ((1 - prev) * t + θ) = (1 - r) * (x - t) by ring,
    one_div, inv_mul_cancel_left₀ hr1.ne']

theorem inv_calc (s : Scale) : ∀ (prev θ t r x : Rat), StrictSorted ((t, r) :: s) → (∀ c ∈ (t, r) :: s, c.2 < 1) →
    t ≤ x →
    clipSum none true (invL prev θ ((t, r) :: s))
      ((1 - prev) * t + θ + (x - t) - clipSum none true ((t, r) :: s) x) = x - t := by
  induction s with
  | nil => intro prev θ t r x hs hr hx; exact inv_calc_first [] prev θ t r x hs hr hx (fun c hc => nomatch hc)
  | cons b rest ih =>
    obtain ⟨t', r'⟩ := b
    intro prev θ t r x hs hr hx
    have hs' := strictSorted_cons.mp hs
    rcases le_total x t' with h | h
    · exact inv_calc_first _ prev θ t r x hs hr hx
        (List.forall_mem_cons.mpr ⟨h, fun c hc => h.trans ((strictSorted_cons.mp hs'.2).1 c hc).le⟩)
    have htt : t < t' := hs'.1 (t', r') List.mem_cons_self
    have hr1 : 0 < 1 - r := sub_pos.mpr (hr (t, r) List.mem_cons_self)
    have hr' : ∀ c ∈ (t', r') :: rest, c.2 < 1 := fun c hc => hr c (List.mem_cons_of_mem _ hc)
    have ih := ih r ((r - prev) * t + θ) t' r' x hs'.2 hr' h
    have hS := clipSum_le_of_rates_le_one rest t' r' hs'.2 (fun c hc => (hr' c hc).le) x h
    have h01 : (1 - r) * t' + ((r - prev) * t + θ) = (1 - prev) * t + θ + (1 - r) * (t' - t) := by ring
    have h0 := mul_nonneg hr1.le (sub_nonneg.mpr htt.le)
    rw [invL] at ih
    rw [invL, invL, clipSum_full (r := r) (b := (t', r')) (rest := rest) htt.le h]
    -- `T0`, `T1`: the net images of `t` and `t'`; `S`: the tax above `t'`
    generalize (1 - r) * t' + ((r - prev) * t + θ) = T1 at h01 ih ⊢
    generalize (1 - prev) * t + θ = T0 at h01 ⊢
    generalize clipSum none true ((t', r') :: rest) x = S at ih hS ⊢
    rw [show T0 + (x - t) - (r * (t' - t) + S) = T1 + (x - t') - S by rw [h01]; ring,
      clipSum_full (t := T0) (b := (T1, 1 / (1 - r'))) (by show T0 ≤ T1; linarith) (by show T1 ≤ _; linarith), ih]
    show 1 / (1 - r) * (T1 - T0) + (x - t') = x - t
    rw [show T1 - T0 = (1 - r) * (t' - t) by rw [h01]; ring, one_div, inv_mul_cancel_left₀ hr1.ne']
    ring

theorem inverse_calc (r0 : Rat) (rest : Scale) (hs : StrictSorted ((0, r0) :: rest)) (hr : ∀ c ∈ (0, r0) :: rest, c.2 < 1)
    (x : Rat) (hx : 0 ≤ x) :
    calcMR 0 1 none (invL 0 0 ((0, r0) :: rest)) (x - calcMR 0 1 none ((0, r0) :: rest) x) = x := by
  rw [calcMR_textbook, calcMR_textbook]
  have := inv_calc rest 0 0 0 r0 x hs hr hx
  rwa [sub_zero, mul_zero, zero_add, zero_add, sub_zero] at this

/-- the brackets `to_average` appends: `(t, tax(t) / t)`; `i` is the tax at `pt`, `pr` the rate from `pt` on -/
def avgL (i pt pr : Rat) : Scale → Scale
  | [] => []
  | (t, r) :: rest => (t, (i + pr * (t - pt)) / t) :: avgL (i + pr * (t - pt)) t r rest

theorem thresholds_avgL (rest : Scale) : ∀ (i pt pr : Rat), thresholds (avgL i pt pr rest) = thresholds rest := by
  induction rest with
  | nil => intro i pt pr; rfl
  | cons b rest ih => obtain ⟨t, r⟩ := b; intro i pt pr; exact congrArg (t :: ·) (ih _ t r)

theorem strictSorted_next {pt pr t r : Rat} {rest : Scale} (hs : StrictSorted ((pt, pr) :: (t, r) :: rest))
    (hpt : 0 ≤ pt) : StrictSorted ((t, r) :: rest) ∧ pt < t ∧ 0 < t :=
  have hs' := strictSorted_cons.mp hs
  have htt := hs'.1 (t, r) List.mem_cons_self
  ⟨hs'.2, htt, lt_of_le_of_lt hpt htt⟩

theorem toAverageGo_eq (rest : Scale) :
    ∀ (i pt pr : Rat) (a : Scale), StrictSorted ((pt, pr) :: rest) → 0 ≤ pt → (∀ c ∈ a, c.1 ≤ pt) →
      toAverageGo rest i pt pr a = .ok ⟨a ++ avgL i pt pr rest, some (lastRate pr rest)⟩ := by
  induction rest with
  | nil => intro i pt pr a _ _ _; rw [show avgL i pt pr [] = [] from rfl, List.append_nil]; rfl
  | cons b rest ih =>
    obtain ⟨t, r⟩ := b
    intro i pt pr a hs hpt hle
    obtain ⟨hs', htt, ht⟩ := strictSorted_next hs hpt
    have hlt : ∀ c ∈ a, c.1 < t := fun c hc => lt_of_le_of_lt (hle c hc) htt
    simp only [toAverageGo, ht.ne', if_false]
    rw [addBracket_append a _ _ hlt, ih _ t r _ hs' ht.le]
    · simp [avgL, lastRate]
    · exact List.forall_mem_append.mpr ⟨fun c hc => (hlt c hc).le, List.forall_mem_singleton.mpr le_rfl⟩

theorem toAverage_eq (t0 r0 : Rat) (rest : Scale) (hs : StrictSorted ((t0, r0) :: rest)) (h0 : 0 ≤ t0) :
    toAverage ((t0, r0) :: rest)
      = .ok ⟨(if 0 < t0 then [(0, 0), (t0, 0)] else [(0, 0)]) ++ avgL 0 t0 r0 rest, some (lastRate r0 rest)⟩ := by
  show toAverageGo rest 0 t0 r0 (if 0 < t0 then addBracket [(0, 0)] t0 0 else [(0, 0)]) = _
  by_cases hpos : 0 < t0
  · have hlt : ∀ c ∈ [((0 : Rat), (0 : Rat))], c.1 < t0 := fun c hc => by rw [List.mem_singleton.mp hc]; exact hpos
    rw [if_pos hpos, if_pos hpos, addBracket_append _ t0 0 hlt]
    exact toAverageGo_eq rest 0 t0 r0 _ hs h0
      (List.forall_mem_append.mpr ⟨fun c hc => (hlt c hc).le, List.forall_mem_singleton.mpr le_rfl⟩)
  · rw [if_neg hpos, if_neg hpos]
    exact toAverageGo_eq rest 0 t0 r0 _ hs h0 (fun c hc => by rw [List.mem_singleton.mp hc]; exact h0)

theorem toMarginalGo_avgL (rest : Scale) :
    ∀ (i pt pr : Rat) (last : Option Rat) (m : Scale), StrictSorted ((pt, pr) :: rest) → 0 ≤ pt →
      (∀ c ∈ m, c.1 < pt) →
      ∃ pt' last' m', toMarginalGo (avgL i pt pr rest) i pt last m = .ok (pt', last', m') ∧
        addBracket m' pt' (lastRate pr rest) = m ++ (pt, pr) :: rest := by
  induction rest with
  | nil =>
    intro i pt pr last m _ _ hlt
    exact ⟨pt, last, m, rfl, addBracket_append m _ _ hlt⟩
  | cons b rest ih =>
    obtain ⟨t, r⟩ := b
    intro i pt pr last m hs hpt hlt
    obtain ⟨hs', htt, ht⟩ := strictSorted_next hs hpt
    have hd : t - pt ≠ 0 := (sub_pos.mpr htt).ne'
    simp only [avgL, toMarginalGo, hd, if_false]
    have e1 : (i + pr * (t - pt)) / t * t = i + pr * (t - pt) := div_mul_cancel₀ _ ht.ne'
    have e2 : ((i + pr * (t - pt)) / t * t - i) / (t - pt) = pr := by
      rw [e1, add_sub_cancel_left, mul_div_assoc, div_self hd, mul_one]
    rw [e2, e1, addBracket_append m _ _ hlt]
    obtain ⟨pt', last', m', g1, g2⟩ := ih (i + pr * (t - pt)) t r (some ((i + pr * (t - pt)) / t)) (m ++ [(pt, pr)])
      hs' ht.le (List.forall_mem_append.mpr ⟨fun c hc => (hlt c hc).trans htt, List.forall_mem_singleton.mpr htt⟩)
    refine ⟨pt', last', m', g1, ?_⟩
    rw [show lastRate pr ((t, r) :: rest) = lastRate r rest from rfl, g2, List.append_assoc]
    rfl

theorem avg_roundtrip (t0 r0 : Rat) (rest : Scale) (hs : StrictSorted ((t0, r0) :: rest)) (h0 : 0 ≤ t0) :
    ∃ a, toAverage ((t0, r0) :: rest) = .ok a ∧
      toMarginal a = .ok (if 0 < t0 then (0, 0) :: (t0, r0) :: rest else (t0, r0) :: rest) := by
  refine ⟨_, toAverage_eq t0 r0 rest hs h0, ?_⟩
  by_cases hpos : 0 < t0
  · obtain ⟨pt', last', m', g1, g2⟩ := toMarginalGo_avgL rest 0 t0 r0 (some 0) [(0, 0)] hs h0
      (fun c hc => by rw [List.mem_singleton.mp hc]; exact hpos)
    rw [if_pos hpos, if_pos hpos]
    unfold toMarginal
    simp only [List.cons_append, List.nil_append, toMarginalGo, (sub_pos.mpr hpos).ne', if_false]
    rw [zero_mul, sub_zero, zero_div, addBracket_nil, g1]
    simp only [g2]
    rfl
  · obtain rfl : t0 = 0 := le_antisymm (not_lt.mp hpos) h0
    obtain ⟨pt', last', m', g1, g2⟩ := toMarginalGo_avgL rest 0 0 r0 none [] hs le_rfl (by simp)
    rw [if_neg hpos, if_neg hpos]
    unfold toMarginal
    simp only [List.cons_append, List.nil_append]
    rw [g1]
    simp only [g2]
    rfl

theorem avgL_spec (rest : Scale) : ∀ (i pt pr : Rat), StrictSorted ((pt, pr) :: rest) → 0 ≤ pt →
    ∀ c ∈ avgL i pt pr rest, c.2 * c.1 = i + clipSum none true ((pt, pr) :: rest) c.1 := by
  induction rest with
  | nil => intro i pt pr _ _ c hc; cases hc
  | cons b rest ih =>
    obtain ⟨t, r⟩ := b
    intro i pt pr hs hpt c hc
    obtain ⟨hs', htt, ht⟩ := strictSorted_next hs hpt
    rcases List.mem_cons.mp hc with h | h
    · rw [h]
      show (i + pr * (t - pt)) / t * t = i + clipSum none true ((pt, pr) :: (t, r) :: rest) t
      rw [clipSum_full (b := (t, r)) htt.le le_rfl, clipSum_zero_below_head hs'.wsorted le_rfl, add_zero,
        div_mul_cancel₀ _ ht.ne']
    · have hct : t < c.1 := by
        have : c.1 ∈ thresholds rest := thresholds_avgL rest _ t r ▸ List.mem_map_of_mem h
        obtain ⟨d, hd, e⟩ := List.mem_map.mp this
        rw [← e]; exact (strictSorted_cons.mp hs').1 d hd
      rw [clipSum_full (b := (t, r)) htt.le hct.le, ih (i + pr * (t - pt)) t r hs' ht.le c h, add_assoc]

end OFCore.Sca
