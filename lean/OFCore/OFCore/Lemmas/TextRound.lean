import OFCore.Lemmas.TextSpelling
import OFCore.Lemmas.Iso
import OFCore.Lemmas.Period
/-! Printing then parsing a period gives `canon p`: every branch of `Period.text` prints an explicit `Shape` whose token spells the
start date, and every shape is read back. -/
namespace OFCore

/-- what `periods.period(str(p))` answers: twelve months read back as one year -/
def canon (p : Period) : Period :=
  if p.unit = .month ∧ p.size = 12 then ⟨.year, p.start, 1⟩ else p

theorem canon_inj {p q : Period} (hu : p.unit = q.unit) (h : canon p = canon q) : p = q := by
  unfold canon at h
  obtain ⟨pu, ps, pn⟩ := p
  obtain ⟨qu, qs, qn⟩ := q
  simp only at hu h
  subst hu
  split at h <;> split at h
  · rename_i a b; simp only [Period.mk.injEq, true_and, and_true] at h
    rw [h, a.2, b.2]
  · rename_i a b; injection h with h _ _; rw [a.1] at h; cases h
  · rename_i a b; injection h with h _ _; rw [b.1] at h; cases h
  · exact h

theorem dateOk_mk (y m d : Int) (hy1 : 1 ≤ y) (hy2 : y ≤ 9999) (hm1 : 1 ≤ m) (hm2 : m ≤ 12)
    (hd1 : 1 ≤ d) (hd2 : d ≤ dim y m) : dateOk ⟨y, m, d⟩ = true := by
  rw [dateOk_iff]; exact ⟨⟨hy1, hm1, hm2, hd1, hd2⟩, hy2⟩

theorem Date.Valid.exists_nat {c : Date} (hv : c.Valid) : ∃ Y M D : Nat, c = ⟨Y, M, D⟩ := by
  obtain ⟨y, m, d⟩ := c
  obtain ⟨hy, hm, _, hd, _⟩ := hv
  exact ⟨y.toNat, m.toNat, d.toNat, by simp only at hy hm hd; congr <;> omega⟩

theorem instantText_eq (Y M D : Nat) (h1 : 1000 ≤ Y) (h2 : Y ≤ 9999) :
    instantText ⟨Y, M, D⟩ = (Tok.ymd Y M D).text := by
  have hp4 : pad 4 Y = natDigits Y := by
    unfold pad
    have : (natDigits Y).length = 4 := by rw [natDigits4 Y h1 h2]; rfl
    simp only [this, Nat.sub_self, List.replicate_zero, List.nil_append]
  simp only [instantText, Tok.text, Int.toNat_natCast, hp4, List.append_assoc, List.cons_append, List.nil_append]

theorem tokUnit_y (y : Nat) : tokUnit (.y y) = some .year := rfl
theorem tokUnit_ym (y m : Nat) : tokUnit (.ym y m) = some .month := rfl
theorem tokUnit_ymd (y m d : Nat) : tokUnit (.ymd y m d) = some .day := rfl
theorem tokUnit_yw (y w : Nat) : tokUnit (.yw y w) = some .week := rfl
theorem tokUnit_ywd (y w d : Nat) : tokUnit (.ywd y w d) = some .weekday := rfl

theorem year_not_finer_than_month : finerThanDate DUnit.year DUnit.month = false := by decide +kernel
theorem finerThanDate_self (u : DUnit) : finerThanDate u u = false := by cases u <;> decide +kernel

theorem tok_ym (Y M : Nat) (h1 : 1000 ≤ Y) (h2 : Y ≤ 9999) (hm1 : 1 ≤ M) (hm2 : M ≤ 12) :
    (Tok.ym Y M).InRange ∧ tokDate (.ym Y M) = some ⟨Y, M, 1⟩ := by
  refine ⟨⟨⟨h1, h2⟩, hm1, hm2⟩, ?_⟩
  simp only [tokDate, dateOk_mk Y M 1 (by omega) (by omega) (by omega) (by omega) (by omega)
    (by have := dim_ge (Y : Int) M; omega), if_true]

theorem tok_y (Y : Nat) (h1 : 1000 ≤ Y) (h2 : Y ≤ 9999) :
    (Tok.y Y).InRange ∧ tokDate (.y Y) = some ⟨Y, 1, 1⟩ :=
  ⟨⟨h1, h2⟩, (tok_ym Y 1 h1 h2 (by decide) (by decide)).2⟩

theorem tok_ymd (Y M D : Nat) (h1 : 1000 ≤ Y) (h2 : Y ≤ 9999) (hv : (Date.mk Y M D).Valid) :
    (Tok.ymd Y M D).InRange ∧ tokDate (.ymd Y M D) = some ⟨Y, M, D⟩ := by
  obtain ⟨_, hm1, hm2, hd1, hd2⟩ := hv
  simp only at hm1 hm2 hd1 hd2
  have := dim_le (Y : Int) M
  refine ⟨⟨⟨h1, h2⟩, ⟨by omega, by omega⟩, by omega, by omega⟩, ?_⟩
  simp only [tokDate, dateOk_mk Y M D (by omega) (by omega) hm1 hm2 hd1 hd2, if_true]

theorem parse_instantText (c : Date) (hv : c.Valid) (h1 : 1000 ≤ c.y) (h2 : c.y ≤ 9999) :
    parseInstant (instantText c) = .ok c ∧ parsePeriod (instantText c) = .ok ⟨.day, c, 1⟩ := by
  obtain ⟨Y, M, D, rfl⟩ := Date.Valid.exists_nat hv
  simp only at h1 h2
  obtain ⟨ht, hc⟩ := tok_ymd Y M D (by omega) (by omega) hv
  rw [instantText_eq Y M D (by omega) (by omega)]
  exact parse_spelling _ ht _ .day hc rfl

theorem tok_week (c : Date) (hv : c.Valid) (hy : c.y ≤ 9999) (CY W WD : Nat)
    (hiso : toIso c = ((CY : Int), (W : Int), (WD : Int))) (h1 : 1000 ≤ CY) (h2 : CY ≤ 9999) :
    ((Tok.ywd CY W WD).InRange ∧ tokDate (.ywd CY W WD) = some c) ∧
    (weekday0 (ord c) = 0 → (Tok.yw CY W).InRange ∧ tokDate (.yw CY W) = some c) := by
  obtain ⟨hw1, hw2, hw3, hd1, hd2, hof, hmon, _, _⟩ := toIso_spec c hv _ _ _ hiso
  have hdok : dateOk c = true := (dateOk_iff c).2 ⟨hv, hy⟩
  refine ⟨⟨⟨⟨h1, h2⟩, ⟨by omega, by omega⟩, by omega, by omega⟩, ?_⟩, fun hm => ⟨⟨⟨h1, h2⟩, by omega, by omega⟩, ?_⟩⟩
  · simp only [tokDate]
    rw [if_pos ⟨by omega, by omega, hw2⟩, hof, if_pos hdok]
  · simp only [tokDate]
    rw [hmon hm] at hof
    rw [if_pos ⟨by omega, by omega, hw2⟩, hof, if_pos hdok]

theorem toIso_nat (c : Date) (hv : c.Valid) (hcy : 1000 ≤ (toIso c).1) :
    ∃ CY W D : Nat, toIso c = ((CY : Int), (W : Int), (D : Int)) := by
  have hsp := toIso_spec c hv (toIso c).1 (toIso c).2.1 (toIso c).2.2 rfl
  refine ⟨(toIso c).1.toNat, (toIso c).2.1.toNat, (toIso c).2.2.toNat, ?_⟩
  rw [Int.toNat_of_nonneg (by omega), Int.toNat_of_nonneg (by omega), Int.toNat_of_nonneg (by omega)]

theorem parse_via_shape {p : Period} (s : Shape) {q : Period} (hq : parsePeriod s.text = .ok q)
    (hc : q = canon p) (ht : p.text = s.text) : parsePeriod p.text = .ok (canon p) := by
  rw [ht, hq, hc]

/-- start aligned to the period's own unit: first of month for month and year units, Monday for week units -/
def OwnAligned (p : Period) : Prop :=
  match p.unit with
  | .month => p.start.d = 1
  | .year => p.start.d = 1
  | .week => weekday0 (ord p.start) = 0
  | .day => True
  | .weekday => True
  | .eternity => True

/-- the claim domain of the round trip: four-digit years, also for the ISO year that week and
    weekday periods are printed with -/
def InTextDomain (p : Period) : Prop :=
  1000 ≤ p.start.y ∧ p.start.y ≤ 9999 ∧
  ((p.unit = .week ∨ p.unit = .weekday) → 1000 ≤ (toIso p.start).1 ∧ (toIso p.start).1 ≤ 9999)

theorem parse_text_cal (u : DUnit) (hu : u = .month ∨ u = .year ∨ u = .day) (Y M D N : Nat)
    (h1 : 1000 ≤ Y) (h2 : Y ≤ 9999) (hv : (Date.mk Y M D).Valid) (hal : OwnAligned ⟨u, ⟨Y, M, D⟩, N⟩) :
    parsePeriod (Period.text ⟨u, ⟨Y, M, D⟩, N⟩) = .ok (canon ⟨u, ⟨Y, M, D⟩, N⟩) := by
  have hm1 := hv.2.1; have hm2 := hv.2.2.1
  simp only at hm1 hm2
  obtain ⟨ty, dy⟩ := tok_y Y h1 h2
  obtain ⟨tm, dm⟩ := tok_ym Y M h1 h2 (by omega) (by omega)
  obtain ⟨td, dd⟩ := tok_ymd Y M D h1 h2 hv
  have bare_y := (parse_spelling (.y Y) ty _ .year dy rfl).2
  have bare_ym := (parse_spelling (.ym Y M) tm _ .month dm rfl).2
  have year_ym := fun sz => parse_shape_unit .year (.ym Y M) sz tm _ .month dm rfl nofun year_not_finer_than_month
  have year_y := parse_shape_unit .year (.y Y) (some N) ty _ .year dy rfl nofun (finerThanDate_self _)
  have month_ym := parse_shape_unit .month (.ym Y M) (some N) tm _ .month dm rfl nofun (finerThanDate_self _)
  have bare_ymd := (parse_spelling (.ymd Y M D) td _ .day dd rfl).2
  have day_ymd := parse_shape_unit .day (.ymd Y M D) (some N) td _ .day dd rfl nofun (finerThanDate_self _)
  rcases hu with rfl | rfl | rfl
  · have hD : (D : Int) = 1 := hal
    by_cases h12 : (N : Int) = 12
    · by_cases hM : (M : Int) = 1
      · exact parse_via_shape _ bare_y (by simp [canon, h12, hM, hD])
          (by simp [Period.text, Shape.text, Tok.text, h12, hM, intText_nat])
      · exact parse_via_shape _ (year_ym none) (by simp [canon, h12, hD])
          (by simp [Period.text, Shape.text, Tok.text, h12, hM, intText_nat, DUnit.name])
    · by_cases hN1 : (N : Int) = 1
      · exact parse_via_shape _ bare_ym (by simp [canon, hN1, hD])
          (by simp [Period.text, Shape.text, Tok.text, hN1, intText_nat])
      · exact parse_via_shape _ month_ym (by simp [canon, h12, hD])
          (by simp [Period.text, Shape.text, Tok.text, h12, hN1, intText_nat, DUnit.name])
  · have hD : (D : Int) = 1 := hal
    by_cases hN1 : (N : Int) = 1 <;> by_cases hM : (M : Int) = 1
    · exact parse_via_shape _ bare_y (by simp [canon, hN1, hM, hD])
        (by simp [Period.text, Shape.text, Tok.text, hN1, hM, intText_nat])
    · exact parse_via_shape _ (year_ym none) (by simp [canon, hN1, hD])
        (by simp [Period.text, Shape.text, Tok.text, hN1, hM, intText_nat, DUnit.name])
    · exact parse_via_shape _ year_y (by simp [canon, hM, hD])
        (by simp [Period.text, Shape.text, Tok.text, hN1, hM, intText_nat, DUnit.name])
    · exact parse_via_shape _ (year_ym (some N)) (by simp [canon, hD])
        (by simp [Period.text, Shape.text, Tok.text, hN1, hM, intText_nat, DUnit.name])
  · by_cases hN1 : (N : Int) = 1
    · exact parse_via_shape _ bare_ymd (by simp [canon, hN1])
        (by simp [Period.text, Shape.text, Tok.text, hN1, intText_nat])
    · exact parse_via_shape _ day_ymd (by simp [canon])
        (by simp [Period.text, Shape.text, Tok.text, hN1, intText_nat, DUnit.name])

theorem parse_text_week (u : DUnit) (hu : u = .week ∨ u = .weekday) (c : Date) (hv : c.Valid) (hy : c.y ≤ 9999)
    (CY W WD N : Nat) (hN : 1 ≤ N) (hiso : toIso c = ((CY : Int), (W : Int), (WD : Int))) (h1 : 1000 ≤ CY) (h2 : CY ≤ 9999)
    (hal : OwnAligned ⟨u, c, N⟩) :
    parsePeriod (Period.text ⟨u, c, N⟩) = .ok (canon ⟨u, c, N⟩) := by
  obtain ⟨⟨td, dd⟩, hwk⟩ := tok_week c hv hy CY W WD hiso h1 h2
  have hgt : (N : Int) > 1 ↔ ¬ (N : Int) = 1 := by omega
  rcases hu with rfl | rfl
  · obtain ⟨tw, dw⟩ := hwk hal
    have bare := (parse_spelling (.yw CY W) tw _ .week dw rfl).2
    have sized := parse_shape_unit .week (.yw CY W) (some N) tw _ .week dw rfl nofun (finerThanDate_self _)
    by_cases hN1 : (N : Int) = 1
    · exact parse_via_shape _ bare (by simp [canon, hN1])
        (by simp [Period.text, Shape.text, Tok.text, weekText, hiso, hN1, intText_nat])
    · exact parse_via_shape _ sized (by simp [canon])
        (by simp [Period.text, Shape.text, Tok.text, weekText, hiso, hN1, hgt, intText_nat, DUnit.name])
  · have bare := (parse_spelling (.ywd CY W WD) td _ .weekday dd rfl).2
    have sized := parse_shape_unit .weekday (.ywd CY W WD) (some N) td _ .weekday dd rfl nofun (finerThanDate_self _)
    by_cases hN1 : (N : Int) = 1
    · exact parse_via_shape _ bare (by simp [canon, hN1])
        (by simp [Period.text, Shape.text, Tok.text, weekText, hiso, hN1, intText_nat])
    · exact parse_via_shape _ sized (by simp [canon])
        (by simp [Period.text, Shape.text, Tok.text, weekText, hiso, hN1, hgt, intText_nat, DUnit.name])

theorem parse_text (p : Period) (hwf : p.WF) (hal : OwnAligned p) (hdom : InTextDomain p) :
    parsePeriod p.text = .ok (canon p) := by
  obtain ⟨u, c, n⟩ := p
  obtain ⟨hu, hv, hn⟩ := hwf
  obtain ⟨hy1, hy2, hiy⟩ := hdom
  simp only at hu hn hy1 hy2 hiy hv
  obtain ⟨N, rfl⟩ := Int.eq_ofNat_of_zero_le (show 0 ≤ n by omega)
  by_cases hw : u = .week ∨ u = .weekday
  · obtain ⟨hcy1, hcy2⟩ := hiy hw
    obtain ⟨CY, W, WD, hiso⟩ := toIso_nat c hv hcy1
    rw [hiso] at hcy1 hcy2
    simp only at hcy1 hcy2
    exact parse_text_week u hw c hv hy2 CY W WD N (by omega) hiso (by omega) (by omega) hal
  · obtain ⟨Y, M, D, rfl⟩ := Date.Valid.exists_nat hv
    have hc : u = .month ∨ u = .year ∨ u = .day := by
      cases u <;> simp at hu hw ⊢
    simp only at hy1 hy2
    exact parse_text_cal u hc Y M D N (by omega) (by omega) hv hal

end OFCore
