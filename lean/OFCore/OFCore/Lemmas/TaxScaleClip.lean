import Mathlib.Tactic.Ring
import Mathlib.Tactic.Linarith
import OFCore.Lemmas.TaxScale
import OFCore.Lemmas.TaxScaleRound
/-!
# Tax scales: the clip sum on sorted thresholds is the textbook sum; a bracket wholly below the base counts in full
(`clipSum_full`), which gives the closed form; bounds on differences go one bracket at a time in positive parts (`clipSum_cons`)

Then the two scaling laws (`clipSum_scaleT`, `clipSum_scaleR`), `calc` as the clip sum over the transformed thresholds
(`mapT`, `calcMR_pos`), and the vector forms as `map`s.
-/
namespace OFCore.Sca

theorem brTerm_none (r a : Rat) : brTerm none r a = r * a := rfl

theorem clipSum_single (rd : Option Nat) (opn : Bool) (t r x : Rat) :
    clipSum rd opn [(t, r)] x = if opn then brTerm rd r (max (x - t) 0) else brTerm rd r 0 := rfl

theorem clipSum_cons_cons (rd : Option Nat) (opn : Bool) (t r : Rat) (b : Rat × Rat) (rest : Scale) (x : Rat) :
    clipSum rd opn ((t, r) :: b :: rest) x
      = brTerm rd r (max (min x b.1 - t) 0) + clipSum rd opn (b :: rest) x := rfl

theorem fullBr_cons_cons (t r : Rat) (b : Rat × Rat) (rest : Scale) :
    fullBr ((t, r) :: b :: rest) = r * (b.1 - t) + fullBr (b :: rest) := rfl

theorem clip_eq_interLen_some (t t' x : Rat) (h : t ≤ t') : max (min x t' - t) 0 = interLen t (some t') x := by
  show _ = if x ≤ t then 0 else if t' ≤ x then t' - t else x - t
  split_ifs with h1 h2
  · exact max_eq_right (sub_nonpos.mpr (le_trans (min_le_left x t') h1))
  · rw [min_eq_right h2, max_eq_left (sub_nonneg.mpr h)]
  · rw [min_eq_left (le_of_not_ge h2), max_eq_left (sub_nonneg.mpr (le_of_not_ge h1))]

theorem clip_eq_interLen_none (t x : Rat) : max (x - t) 0 = interLen t none x := by
  show _ = if x ≤ t then 0 else x - t
  split_ifs with h1
  · exact max_eq_right (sub_nonpos.mpr h1)
  · exact max_eq_left (sub_nonneg.mpr (le_of_not_ge h1))

theorem clipSum_eq_specMR (rd : Option Nat) (l : Scale) (hl : WSorted l) (x : Rat) :
    clipSum rd true l x = specMR rd l x := by
  induction l with
  | nil => rfl
  | cons a rest ih =>
    obtain ⟨t, r⟩ := a
    cases rest with
    | nil => rw [clipSum_single, if_pos rfl, clip_eq_interLen_none]; rfl
    | cons b rest =>
      rw [wsorted_cons] at hl
      rw [clipSum_cons_cons, clip_eq_interLen_some t b.1 x (hl.1 _ List.mem_cons_self), ih hl.2]
      rfl

theorem clipSum_zero_of_le (opn : Bool) (l : Scale) (x : Rat) (h : ∀ c ∈ l, x ≤ c.1) :
    clipSum none opn l x = 0 := by
  induction l with
  | nil => rfl
  | cons a rest ih =>
    obtain ⟨t, r⟩ := a
    have ht : x ≤ t := h (t, r) List.mem_cons_self
    cases rest with
    | nil => rw [clipSum_single, brTerm_none, brTerm_none, max_eq_right (sub_nonpos.mpr ht), ite_self, mul_zero]
    | cons b rest =>
      have : min x b.1 - t ≤ 0 := sub_nonpos.mpr (le_trans (min_le_left x b.1) ht)
      rw [clipSum_cons_cons, ih (fun c hc => h c (List.mem_cons_of_mem _ hc)), brTerm_none, max_eq_right this]
      ring

theorem clipSum_zero_below_head {t r : Rat} {rest : Scale} (hl : WSorted ((t, r) :: rest)) {x : Rat} (hx : x ≤ t) :
    clipSum none true ((t, r) :: rest) x = 0 :=
  clipSum_zero_of_le true _ x
    (List.forall_mem_cons.mpr ⟨hx, fun c hc => le_trans hx ((wsorted_cons.mp hl).1 c hc)⟩)

theorem clipSum_full {t r : Rat} {b : Rat × Rat} {rest : Scale} {x : Rat} (ht : t ≤ b.1) (hx : b.1 ≤ x) :
    clipSum none true ((t, r) :: b :: rest) x = r * (b.1 - t) + clipSum none true (b :: rest) x := by
  rw [clipSum_cons_cons, brTerm_none, min_eq_right hx, max_eq_left (sub_nonneg.mpr ht)]

theorem clipSum_first {t r : Rat} {post : Scale} {x : Rat} (hx : t ≤ x) (hpost : ∀ c ∈ post, x ≤ c.1) :
    clipSum none true ((t, r) :: post) x = r * (x - t) := by
  cases post with
  | nil => rw [clipSum_single, if_pos rfl, brTerm_none, max_eq_left (sub_nonneg.mpr hx)]
  | cons b post =>
    rw [clipSum_cons_cons, brTerm_none, min_eq_left (hpost b List.mem_cons_self), max_eq_left (sub_nonneg.mpr hx),
      clipSum_zero_of_le true _ x hpost, add_zero]

theorem clipSum_closed (pre : Scale) (t r : Rat) (post : Scale) (x : Rat)
    (hl : WSorted (pre ++ (t, r) :: post)) (hx : t ≤ x) (hpost : ∀ c ∈ post, x ≤ c.1) :
    clipSum none true (pre ++ (t, r) :: post) x = fullBr (pre ++ [(t, r)]) + r * (x - t) := by
  induction pre with
  | nil => exact (clipSum_first hx hpost).trans (zero_add _).symm
  | cons a pre ih =>
    obtain ⟨t0, r0⟩ := a
    rw [List.cons_append, wsorted_cons] at hl
    -- the list after `(t0, r0)` starts with a threshold `t1` with `t0 ≤ t1 ≤ t ≤ x`, in `pre ++ [(t, r)]` as well
    obtain ⟨b, tl, tl', e1, e2, hb⟩ : ∃ b tl tl', pre ++ (t, r) :: post = b :: tl ∧ pre ++ [(t, r)] = b :: tl' ∧ b.1 ≤ t := by
      cases pre with
      | nil => exact ⟨_, _, _, rfl, rfl, le_rfl⟩
      | cons b pre => exact ⟨b, _, _, rfl, rfl, (wsorted_cons.mp hl.2).1 (t, r) (by simp)⟩
    have h0 : t0 ≤ b.1 := hl.1 b (by rw [e1]; exact List.mem_cons_self)
    rw [List.cons_append, List.cons_append, e1, clipSum_full h0 (hb.trans hx), ← e1, ih hl.2, e2, fullBr_cons_cons]
    exact (add_assoc _ _ _).symm

def pp (a : Rat) : Rat := max a 0

theorem pp_of_nonneg {a : Rat} (h : 0 ≤ a) : pp a = a := max_eq_left h

theorem pp_of_nonpos {a : Rat} (h : a ≤ 0) : pp a = 0 := max_eq_right h

theorem pp_mono {a b : Rat} (h : a ≤ b) : pp a ≤ pp b := max_le_max h le_rfl

theorem pp_diff_le {a b : Rat} (h : a ≤ b) : pp b - pp a ≤ b - a := by
  rcases le_total 0 a with h0 | h0
  · rw [pp_of_nonneg h0, pp_of_nonneg (le_trans h0 h)]
  · rw [pp_of_nonpos h0, sub_zero]
    exact max_le ((le_sub_self_iff b).mpr h0) (sub_nonneg.mpr h)

theorem pp_clip (x t t' : Rat) (h : t ≤ t') : max (min x t' - t) 0 = pp (x - t) - pp (x - t') := by
  rw [clip_eq_interLen_some t t' x h]
  show (if x ≤ t then 0 else if t' ≤ x then t' - t else x - t) = _
  split_ifs with h1 h2
  · rw [pp_of_nonpos (sub_nonpos.mpr h1), pp_of_nonpos (sub_nonpos.mpr (le_trans h1 h)), sub_zero]
  · rw [pp_of_nonneg (sub_nonneg.mpr (le_trans h h2)), pp_of_nonneg (sub_nonneg.mpr h2), sub_sub_sub_cancel_left]
  · rw [pp_of_nonneg (sub_nonneg.mpr (le_of_not_ge h1)), pp_of_nonpos (sub_nonpos.mpr (le_of_not_ge h2)), sub_zero]

theorem pp_clip_mono (x x' t t' : Rat) (h : t ≤ t') (hx : x ≤ x') :
    pp (x - t) - pp (x - t') ≤ pp (x' - t) - pp (x' - t') := by
  rw [← pp_clip x t t' h, ← pp_clip x' t t' h]
  exact max_le_max (sub_le_sub_right (min_le_min_right t' hx) t) le_rfl

/-- the part of the base `x` above the first threshold -/
def ppHead : Scale → Rat → Rat
  | [], _ => 0
  | b :: _, x => pp (x - b.1)

theorem ppHead_cons (b : Rat × Rat) (l : Scale) (x : Rat) : ppHead (b :: l) x = pp (x - b.1) := rfl

theorem clipSum_cons (t r : Rat) (rest : Scale) (x : Rat) (h : ∀ c ∈ rest, t ≤ c.1) :
    clipSum none true ((t, r) :: rest) x = r * (pp (x - t) - ppHead rest x) + clipSum none true rest x := by
  cases rest with
  | nil => rw [clipSum_single, if_pos rfl, brTerm_none]; simp only [ppHead, pp, clipSum, sub_zero, add_zero]
  | cons b rest => rw [clipSum_cons_cons, brTerm_none, pp_clip x t b.1 (h b List.mem_cons_self)]; rfl

theorem ppHead_diff (l : Scale) {x x' : Rat} (h : x ≤ x') : ppHead l x' - ppHead l x ≤ x' - x := by
  cases l with
  | nil => exact (sub_self _).trans_le (sub_nonneg.mpr h)
  | cons b l => exact (pp_diff_le (sub_le_sub_right h b.1)).trans_eq (sub_sub_sub_cancel_right _ _ _)

theorem ppHead_diff_le {t : Rat} {rest : Scale} (h : ∀ c ∈ rest, t ≤ c.1) {x x' : Rat} (hxx : x ≤ x') :
    ppHead rest x' - ppHead rest x ≤ pp (x' - t) - pp (x - t) := by
  cases rest with
  | nil =>
    show (0 : Rat) - 0 ≤ _
    rw [sub_zero]; exact sub_nonneg.mpr (pp_mono (sub_le_sub_right hxx t))
  | cons b rest =>
    have := pp_clip_mono x x' t b.1 (h b List.mem_cons_self) hxx
    rw [ppHead_cons, ppHead_cons]; linarith

/-- the tax difference between two bases is at least `lo` times, at most `hi` times the part of `[x, x']` above the
    first threshold, when every rate is at least `lo`, at most `hi`: it is `≥ 0` when every rate is -/
theorem clipSum_diff_bounds (lo hi : Rat) (l : Scale) (hl : WSorted l) (x x' : Rat) (hxx : x ≤ x') :
    ((∀ c ∈ l, lo ≤ c.2) → lo * (ppHead l x' - ppHead l x) ≤ clipSum none true l x' - clipSum none true l x) ∧
    ((∀ c ∈ l, c.2 ≤ hi) → clipSum none true l x' - clipSum none true l x ≤ hi * (ppHead l x' - ppHead l x)) := by
  induction l with
  | nil => simp [clipSum, ppHead]
  | cons a rest ih =>
    obtain ⟨t, r⟩ := a
    rw [wsorted_cons] at hl
    obtain ⟨ihlo, ihhi⟩ := ih hl.2
    rw [clipSum_cons t r rest x' hl.1, clipSum_cons t r rest x hl.1]
    -- the first bracket grows by `r × d` with `d ≥ 0`
    have hd := sub_nonneg.mpr (ppHead_diff_le hl.1 hxx)
    simp only [ppHead_cons]
    constructor
    · intro h
      have h1 := ihlo (fun c hc => h c (List.mem_cons_of_mem _ hc))
      have h2 := mul_le_mul_of_nonneg_right (h (t, r) List.mem_cons_self) hd
      linarith
    · intro h
      have h1 := ihhi (fun c hc => h c (List.mem_cons_of_mem _ hc))
      have h2 := mul_le_mul_of_nonneg_right (h (t, r) List.mem_cons_self) hd
      linarith

theorem clipSum_mono (l : Scale) (hl : WSorted l) (hr : ∀ c ∈ l, 0 ≤ c.2) (x x' : Rat) (hxx : x ≤ x') :
    clipSum none true l x ≤ clipSum none true l x' := by
  have := (clipSum_diff_bounds 0 0 l hl x x' hxx).1 hr
  rw [zero_mul] at this
  exact sub_nonneg.mp this

theorem clipSum_lipschitz (l : Scale) (hl : WSorted l) (R : Rat) (h0 : 0 ≤ R) (hR : ∀ c ∈ l, |c.2| ≤ R) (x x' : Rat) :
    |clipSum none true l x' - clipSum none true l x| ≤ R * |x' - x| := by
  have key : ∀ x x' : Rat, x ≤ x' → |clipSum none true l x' - clipSum none true l x| ≤ R * (x' - x) := by
    intro x x' hxx
    obtain ⟨hlo, hhi⟩ := clipSum_diff_bounds (-R) R l hl x x' hxx
    have h1 := hlo (fun c hc => (abs_le.mp (hR c hc)).1)
    have h2 := hhi (fun c hc => (abs_le.mp (hR c hc)).2)
    -- the part of the base above the first threshold grows by at most `x' − x`
    have h3 := mul_le_mul_of_nonneg_left (ppHead_diff l hxx) h0
    rw [abs_le]
    constructor <;> linarith
  rcases le_total x x' with h | h
  · rw [abs_of_nonneg (sub_nonneg.mpr h)]; exact key x x' h
  · rw [abs_sub_comm, abs_sub_comm x' x, abs_of_nonneg (sub_nonneg.mpr h)]; exact key x' x h

theorem clipSum_le_of_rates_le_one (s : Scale) (t r : Rat) (hs : StrictSorted ((t, r) :: s))
    (hr : ∀ c ∈ (t, r) :: s, c.2 ≤ 1) (x : Rat) (hx : t ≤ x) :
    clipSum none true ((t, r) :: s) x ≤ x - t := by
  have h := (clipSum_diff_bounds 1 1 _ hs.wsorted t x hx).2 hr
  rw [clipSum_zero_below_head hs.wsorted le_rfl] at h
  simp only [ppHead_cons] at h
  rw [sub_self, pp_of_nonneg le_rfl, pp_of_nonneg (sub_nonneg.mpr hx)] at h
  linarith

theorem clipSum_zero_head (rd : Option Nat) (opn : Bool) (t0 : Rat) (l : Scale) (x : Rat) :
    clipSum rd opn ((t0, 0) :: l) x = clipSum rd opn l x := by
  cases l with
  | nil => rw [clipSum_single, brTerm_zero_rate, brTerm_zero_rate, ite_self]; rfl
  | cons b l => rw [clipSum_cons_cons, brTerm_zero_rate, zero_add]

theorem clipSum_scaleT (k : Rat) (hk : 0 < k) (opn : Bool) (l : Scale) (x : Rat) :
    clipSum none opn (mapT (fun t => k * t) l) (k * x) = k * clipSum none opn l x := by
  have hclip : ∀ a : Rat, max (k * a) 0 = k * max a 0 := fun a => by
    have := mul_max_of_nonneg a 0 hk.le
    rw [mul_zero] at this; exact this.symm
  induction l with
  | nil => exact (mul_zero k).symm
  | cons a rest ih =>
    obtain ⟨t, r⟩ := a
    cases rest with
    | nil =>
      simp only [mapT, List.map, clipSum, brTerm]
      rw [← mul_sub, hclip]; split <;> ring
    | cons b rest =>
      obtain ⟨t', r'⟩ := b
      simp only [mapT, List.map_cons, clipSum, brTerm] at ih ⊢
      rw [ih, ← mul_min_of_nonneg _ _ hk.le, ← mul_sub, hclip]; ring

theorem clipSum_scaleR (k : Rat) (opn : Bool) (l : Scale) (x : Rat) :
    clipSum none opn (l.map (fun b => (b.1, b.2 * k))) x = k * clipSum none opn l x := by
  induction l with
  | nil => exact (mul_zero k).symm
  | cons a rest ih =>
    obtain ⟨t, r⟩ := a
    cases rest with
    | nil => simp only [List.map, clipSum, brTerm]; split <;> ring
    | cons b rest =>
      obtain ⟨t', r'⟩ := b
      simp only [List.map_cons, clipSum, brTerm] at ih ⊢
      rw [ih]; ring

theorem mapT_wsorted {τ : Rat → Rat} (hτ : ∀ a b, a ≤ b → τ a ≤ τ b) {s : Scale}
    (hs : WSorted s) : WSorted (mapT τ s) :=
  List.Pairwise.map _ (fun _ _ h => hτ _ _ h) hs

theorem mapT_length (τ : Rat → Rat) (s : Scale) : (mapT τ s).length = s.length := List.length_map _

theorem mapT_getElem? (τ : Rat → Rat) (s : Scale) (i : Nat) :
    (mapT τ s)[i]? = (s[i]?).map (fun b => (τ b.1, b.2)) := List.getElem?_map

theorem mapT_append (τ : Rat → Rat) (a b : Scale) : mapT τ (a ++ b) = mapT τ a ++ mapT τ b := List.map_append

theorem mapT_id (s : Scale) : mapT (fun t => t) s = s := List.map_id s

theorem mapT_mapT (σ τ : Rat → Rat) (s : Scale) : mapT σ (mapT τ s) = mapT (fun t => σ (τ t)) s := by
  unfold mapT; rw [List.map_map]; rfl

theorem multiplyThresholds_eq (s : Scale) (k : Rat) (rd : Option Nat) :
    multiplyThresholds s k rd = mapT (fun t => rnd rd (t * k)) s := rfl

theorem forall_mem_mapT {τ : Rat → Rat} {s : Scale} {p : Rat × Rat → Prop} (h : ∀ b ∈ s, p (τ b.1, b.2)) :
    ∀ c ∈ mapT τ s, p c := by
  intro c hc
  obtain ⟨b, hb, e⟩ := List.mem_map.mp hc
  rw [← e]; exact h b hb

/-- with a factor `f + ε > 0` the bound of the last bracket is `+inf` -/
theorem calcMR_pos {ε f : Rat} (hf : 0 < f + ε) (rd : Option Nat) (s : Scale) (x : Rat) :
    calcMR ε f rd s x = clipSum rd true (mapT (thrMap ε f rd) s) x := by
  unfold calcMR; rw [decide_eq_true hf]

theorem wsorted_thr {ε f : Rat} {rd : Option Nat} (hf : 0 < f + ε) {s : Scale} (hs : StrictSorted s) :
    WSorted (mapT (thrMap ε f rd) s) :=
  mapT_wsorted (thrMap_mono ε f rd hf) hs.wsorted

theorem calcMR_textbook (s : Scale) (x : Rat) : calcMR 0 1 none s x = clipSum none true s x := by
  have e : mapT (thrMap 0 1 none) s = s := by
    rw [show thrMap 0 1 none = fun t => t from funext fun t => by rw [thrMap_none, add_zero, one_mul]]
    exact mapT_id s
  rw [calcMR_pos (by rw [add_zero]; exact one_pos), e]

theorem clipSumVec_eq_map (rd : Option Nat) (opn : Bool) (l : Scale) (xs : List Rat) :
    clipSumVec rd opn l xs = xs.map (clipSum rd opn l) := by
  induction l with
  | nil => rfl
  | cons a rest ih =>
    obtain ⟨t, r⟩ := a
    cases rest with
    | nil => rfl
    | cons b rest =>
      show List.zipWith (· + ·) (xs.map fun x => brTerm rd r (max (min x b.1 - t) 0)) (clipSumVec rd opn (b :: rest) xs) = _
      rw [ih, List.zipWith_map, List.zipWith_self]
      rfl

theorem calcMRVec_eq_map (ε f : Rat) (rd : Option Nat) (s : Scale) (xs : List Rat) :
    calcMRVec ε f rd s xs = xs.map (calcMR ε f rd s) := clipSumVec_eq_map _ _ _ _

theorem calcMRVecF_eq {efs : List (Rat × Rat)} {xs : List Rat} (hlen : efs.length = xs.length) (rd : Option Nat) (s : Scale) :
    calcMRVecF efs rd s xs = .ok (List.zipWith (fun ef x => calcMR ef.1 ef.2 rd s x) efs xs) := by
  unfold calcMRVecF
  rw [if_neg (not_not.mpr hlen)]

end OFCore.Sca
