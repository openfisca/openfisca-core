import OFCore.Lemmas.HeapRun
/-!
# `Tidy r` with `Closed r` implies `WellFormed` and `MemoryBacked` and, unlike those, is kept by every call and handed on to
every clone: it is a `Stable` invariant, under which `createDisk` gives no storage, so every call is `LocI (Tidy r) r`.
-/
namespace OFCore.Heap
open HM

def Tidy (r : Nat) (h : Heap) : Prop :=
  (∀ i so, h.get? ⟨r, i⟩ = some (.sim so) →
      so.memConfig = none ∧ so.dir = none ∧ alGet so.pops 0 = some so.persons
      ∧ ∀ po, h.get? so.persons = some (.pop po) → po.members = none ∧ po.sim = ⟨r, i⟩)
  ∧ (∀ i ho, h.get? ⟨r, i⟩ = some (.holder ho) → ho.disk = none)

/-- `Tidy` with the indices bounded by the size of the region -/
def TidyB (r : Nat) (h : Heap) : Prop :=
  (∀ i, i < h.size r → ∀ so, h.get? ⟨r, i⟩ = some (.sim so) →
      so.memConfig = none ∧ so.dir = none ∧ alGet so.pops 0 = some so.persons
      ∧ ∀ po, h.get? so.persons = some (.pop po) → po.members = none ∧ po.sim = ⟨r, i⟩)
  ∧ (∀ i, i < h.size r → ∀ ho, h.get? ⟨r, i⟩ = some (.holder ho) → ho.disk = none)

instance (r : Nat) (h : Heap) : Decidable (TidyB r h) := by unfold TidyB; infer_instance

theorem Tidy.ofB {r : Nat} {h : Heap} (t : TidyB r h) : Tidy r h :=
  ⟨fun i so hs => t.1 i (lt_size_of_get? hs) so hs, fun i ho hh => t.2 i (lt_size_of_get? hh) ho hh⟩

theorem Tidy.congr {r : Nat} {h1 h2 : Heap} (t : Tidy r h1) (c : Closed r h1) (e : h1[r]? = h2[r]?) : Tidy r h2 := by
  have eg : ∀ i, h2.get? ⟨r, i⟩ = h1.get? ⟨r, i⟩ := fun i => (get?_congr (p := ⟨r, i⟩) e).symm
  refine ⟨fun i so hs => ?_, fun i ho hh => t.2 i ho (by rw [← eg]; exact hh)⟩
  rw [eg] at hs
  obtain ⟨a, b, c', d⟩ := t.1 i so hs
  refine ⟨a, b, c', fun po hp => d po ?_⟩
  have hr : so.persons.reg = r := (c i _ hs).1
  rw [get?_congr (p := so.persons) (hr ▸ e)]
  exact hp

theorem Tidy.wellFormed {h : Heap} {x : Id} (c : Closed x.reg h) (t : Tidy x.reg h) : WellFormed h x ∧ MemoryBacked h x := by
  obtain ⟨xr, xi⟩ := x
  refine ⟨⟨c, fun so hs => (t.1 xi so hs).2.2.1, fun so po m hs hp hm => ?_, fun so po hs hp => ((t.1 xi so hs).2.2.2 po hp).2⟩,
    ⟨fun q ho hq hg => ?_, fun so hs => (t.1 xi so hs).2.1⟩⟩
  · rw [((t.1 xi so hs).2.2.2 po hp).1] at hm
    cases hm
  · obtain ⟨qr, qi⟩ := q
    simp only at hq
    subst hq
    exact t.2 qi ho hg

theorem Tidy.of_attrs {r : Nat} {h h' : Heap} (t : Tidy r h)
    (hsim : ∀ q so', h'.get? q = some (.sim so') → ∃ so, h.get? q = some (.sim so) ∧ so'.memConfig = so.memConfig
      ∧ so'.dir = so.dir ∧ so'.pops = so.pops ∧ so'.persons = so.persons)
    (hpop : ∀ q po', h'.get? q = some (.pop po') →
      ∃ po, h.get? q = some (.pop po) ∧ po'.members = po.members ∧ po'.sim = po.sim)
    (hhol : ∀ q ho, h'.get? q = some (.holder ho) → ho.disk = none ∨ h.get? q = some (.holder ho)) :
    Tidy r h' := by
  refine ⟨fun i so' hs => ?_, fun i ho hh => (hhol _ ho hh).elim id (t.2 i ho)⟩
  obtain ⟨so, hs0, e1, e2, e3, e4⟩ := hsim _ _ hs
  obtain ⟨a, b, c, d⟩ := t.1 i so hs0
  refine ⟨e1.trans a, e2.trans b, by rw [e3, e4]; exact c, fun po' hp => ?_⟩
  rw [e4] at hp
  obtain ⟨po, hp0, f1, f2⟩ := hpop _ _ hp
  exact ⟨f1.trans (d po hp0).1, f2.trans (d po hp0).2⟩

theorem Tidy.put {r : Nat} {h : Heap} (t : Tidy r h) {p : Id} {old o : Obj} (hg : h.get? p = some old)
    (k : Kept old o) : Tidy r (h.put p o) := by
  -- at `p` stands `o`, which `Kept` compares with `old`; elsewhere nothing has changed
  refine t.of_attrs (fun q so hq => ?_) (fun q po hq => ?_) (fun q ho hq => ?_)
  · rcases get?_put hq with ⟨rfl, rfl⟩ | ⟨_, hq⟩
    · rcases k with hk | ⟨a, b, rfl, e, h1, h2, h3, h4⟩ | ⟨a, b, _, e, _⟩
      · exact absurd rfl hk
      · cases e; exact ⟨a, hg, h1, h2, h3, h4⟩
      · cases e
    · exact ⟨so, hq, rfl, rfl, rfl, rfl⟩
  · rcases get?_put hq with ⟨rfl, rfl⟩ | ⟨_, hq⟩
    · rcases k with hk | ⟨a, b, _, e, _⟩ | ⟨a, b, rfl, e, h1, h2⟩
      · exact absurd rfl hk
      · cases e
      · cases e; exact ⟨a, hg, h1, h2⟩
    · exact ⟨po, hq, rfl, rfl⟩
  · rcases get?_put hq with ⟨rfl, rfl⟩ | ⟨_, hq⟩
    · rcases k with hk | ⟨a, b, _, e, _⟩ | ⟨a, b, _, e, _⟩
      · exact absurd rfl hk
      · cases e
      · cases e
    · exact Or.inr hq

theorem Tidy.push {r : Nat} {h : Heap} (t : Tidy r h) {r' : Nat} {o : Obj} (hs : o.sim? = none) (hp : o.pop? = none)
    (hh : ∀ ho, o = .holder ho → ho.disk = none) : Tidy r (h.push r' o) := by
  refine t.of_attrs (fun q so hq => ?_) (fun q po hq => ?_) (fun q ho hq => ?_)
  · rcases get?_push hq with old | ⟨_, _, _, eo⟩
    · exact ⟨so, old, rfl, rfl, rfl, rfl⟩
    · rw [← eo] at hs; cases hs
  · rcases get?_push hq with old | ⟨_, _, _, eo⟩
    · exact ⟨po, old, rfl, rfl⟩
    · rw [← eo] at hp; cases hp
  · rcases get?_push hq with old | ⟨_, _, _, eo⟩
    · exact Or.inr old
    · exact Or.inl (hh ho eo.symm)

theorem Tidy.stable (r : Nat) : Stable r (Tidy r) (fun d => d = none) :=
  ⟨fun h x e => (by rw [h] at e; cases e), fun t hg k => t.put hg k, fun t hs hp hh => t.push hs hp hh⟩

def Keep {α : Type} (r : Nat) (m : HM α) (Q : α → Prop) : Prop :=
  ∀ h, Closed r h → Tidy r h → Closed r (m h).2 ∧ Tidy r (m h).2 ∧ (∀ a, (m h).1 = .ok a → Q a)

theorem Keep.mono {α : Type} {r : Nat} {m : HM α} {Q Q' : α → Prop} (l : Keep r m Q) (hq : ∀ a, Q a → Q' a) :
    Keep r m Q' := fun h c t => ⟨(l h c t).1, (l h c t).2.1, fun a e => hq a ((l h c t).2.2 a e)⟩

theorem LocI.toKeep {α : Type} {r : Nat} {m : HM α} {Q : α → Prop} (l : LocI (Tidy r) r m Q) : Keep r m Q :=
  fun h c t => ⟨(l.frame h c t).1, (l.frame h c t).2.1, (l.frame h c t).2.2.2⟩

/-- in a tidy region no simulation has a memory configuration: `createDisk` reads that and gives no storage -/
theorem createDisk_tidy {r : Nat} {sid : Id} (hs : sid.reg = r) (v : Var) (eternal : Bool) :
    LocI (Tidy r) r (createDisk r sid v eternal) (fun (d : Option Id) => d = none) := by
  unfold Heap.createDisk
  refine LocI.bind (Q := fun so => so.memConfig = none)
    (LocI.ofAccess (rdAs_access Obj.sim? sid) hs (fun _ _ e => by cases e) (fun _ _ _ _ _ e => by cases e)
      fun h old so t hg _ e => ?_) fun so hso => ?_
  · obtain ⟨sr, si⟩ := sid
    cases old <;> cases e
    cases hs
    exact (t.1 si so hg).1
  · rw [hso]
    exact LocI.pure _ rfl

theorem Keep.holderKnown {r : Nat} {ho : HolderObj} (hho : InReg r (.holder ho)) :
    Keep r (holderKnown ho) (fun _ => True) := (LocI.holderKnown hho).toKeep

theorem Keep.setInput {r : Nat} (sys : Sys) {x : Id} (hx : x.reg = r) (v : Var) (p : Period) (a : Vec) :
    Keep r (setInput sys x v p a) (fun _ => True) :=
  (LocI.setInput (Tidy.stable r) createDisk_tidy sys hx v p a).toKeep

theorem Keep.deleteArrays {r : Nat} (sys : Sys) {x : Id} (hx : x.reg = r) (v : Var) (p : Option Period) :
    Keep r (deleteArrays sys x v p) (fun _ => True) :=
  (LocI.deleteArrays (Tidy.stable r) createDisk_tidy sys hx v p).toKeep

theorem Keep.calcAdd {r : Nat} (sys : Sys) (n : Nat) {x : Id} (hx : x.reg = r) (v : Var) (p : Period) :
    Keep r (calcAdd sys n x v p) (fun _ => True) :=
  (LocI.calcAdd (Tidy.stable r) createDisk_tidy sys n hx v p).toKeep

theorem step_tidy {r : Nat} (sys : Sys) (fuel : Nat) {x : Id} (hx : x.reg = r) (op : Op) :
    LocI (Tidy r) r (step sys fuel x op) (fun _ => True) :=
  LocI.step (Tidy.stable r) createDisk_tidy sys fuel hx op

/-- closed and disk-free by `SimCloned.newRegion`; of `Tidy` there remains the clone object itself -/
theorem SimCloned.tidy {x c : Id} {t d : Bool} {h h' : Heap} (sc : SimCloned x c t d h h') (cx : Closed x.reg h)
    (tx : Tidy x.reg h) : Closed c.reg h' ∧ Tidy c.reg h' := by
  obtain ⟨so, persons', groups', trc, inv, a1, a2, _, _, _, _, a7, _, _⟩ := sc.ex
  obtain ⟨wf, mb⟩ := Tidy.wellFormed cx tx
  have all := sc.newRegion wf mb
  refine ⟨fun i y hy => (all i y hy).1, ?_⟩
  obtain ⟨xr, xi⟩ := x
  obtain ⟨m1, m2, m3, m4⟩ := tx.1 xi so a1
  refine ⟨fun i s2 hs => ?_, fun i ho hh => ?_⟩
  · by_cases e : (⟨c.reg, i⟩ : Id) = c
    · rw [e, a2] at hs
      cases hs
      refine ⟨m1, m2, alGet_cons_self .., fun po hpo => ?_⟩
      simp only at hpo
      obtain ⟨_, po0, hs0, members, b1, b2, b3, b4, b5, b6⟩ := a7
      simp only at b5
      rw [b5] at hpo
      cases hpo
      have hplain := (m4 po0 b1).1
      rcases b4 with ⟨_, hm⟩ | ⟨m, hm, _⟩
      · exact ⟨hm, e.symm ▸ rfl⟩
      · rw [hplain] at hm; cases hm
    · have := ((all i _ hs).2 e).1
      cases this
  · by_cases e : (⟨c.reg, i⟩ : Id) = c
    · rw [e, a2] at hh
      cases hh
    · exact ((all i _ hh).2 e).2 ho rfl

end OFCore.Heap
