import OFCore.Dump
/-! Association lists (`alookup`, `upsert`, `upsertAll`, `keys`; `Tab`: a table as the tabulation of a function over a list)
and the `Except` loops (`mapE`, `foldE`) of the dump model. -/
namespace OFCore.Dump

section AList
variable {κ α : Type} [DecidableEq κ]

theorem alookup_upsert (m : List (κ × α)) (k k' : κ) (v : α) :
    alookup k' (upsert m k v) = if k = k' then some v else alookup k' m := by
  induction m with
  | nil => simp only [upsert, alookup]
  | cons e r ih =>
    unfold upsert
    by_cases h : e.1 = k
    · simp only [h, if_true, alookup]
      by_cases h' : k = k'
      · simp only [h', if_true]
      · simp only [h', if_false]
    · simp only [h, if_false, alookup, ih]
      by_cases h' : k = k'
      · subst h'; simp only [h, if_false, if_true]
      · simp only [h', if_false]

theorem mem_keys_upsert (m : List (κ × α)) (k x : κ) (v : α) :
    x ∈ keys (upsert m k v) ↔ x = k ∨ x ∈ keys m := by
  induction m with
  | nil => simp [upsert, keys]
  | cons e r ih =>
    have ih' : x ∈ List.map (fun x => x.1) (upsert r k v) ↔ x = k ∨ x ∈ List.map (fun x => x.1) r := ih
    unfold upsert
    by_cases h : e.1 = k
    · simp only [h, if_true, keys, List.map_cons, List.mem_cons, or_self_left]
    · simp only [h, if_false, keys, List.map_cons, List.mem_cons, ih']
      exact or_left_comm

theorem alookup_eq_none_iff {m : List (κ × α)} {k : κ} : alookup k m = none ↔ k ∉ keys m := by
  induction m with
  | nil => simp [alookup, keys]
  | cons e r ih =>
    unfold alookup
    by_cases h : e.1 = k
    · simp [h, keys]
    · simp only [h, if_false, ih, keys, List.map_cons, List.mem_cons, not_or]
      constructor
      · intro h1; exact ⟨fun h2 => h h2.symm, h1⟩
      · intro h1; exact h1.2

theorem mem_of_alookup {m : List (κ × α)} {k : κ} {v : α} (h : alookup k m = some v) :
    (k, v) ∈ m := by
  induction m with
  | nil => simp [alookup] at h
  | cons e r ih =>
    unfold alookup at h
    by_cases h' : e.1 = k
    · simp only [h', if_true, Option.some.injEq] at h
      have : e = (k, v) := by rw [← h', ← h]
      rw [this]; exact List.mem_cons_self
    · simp only [h', if_false] at h
      exact List.mem_cons_of_mem _ (ih h)

omit [DecidableEq κ] in
theorem mem_keys_of_mem {m : List (κ × α)} {k : κ} {v : α} (h : (k, v) ∈ m) : k ∈ keys m :=
  List.mem_map.2 ⟨(k, v), h, rfl⟩

def Functional (l : List (κ × α)) : Prop := ∀ k v v', (k, v) ∈ l → (k, v') ∈ l → v = v'

theorem upsertAll_cons (m : List (κ × α)) (a : κ × α) (r : List (κ × α)) :
    upsertAll m (a :: r) = upsertAll (upsert m a.1 a.2) r := rfl

theorem mem_keys_upsertAll (m l : List (κ × α)) (k : κ) :
    k ∈ keys (upsertAll m l) ↔ k ∈ keys m ∨ k ∈ keys l := by
  induction l generalizing m with
  | nil => simp [upsertAll, keys]
  | cons a r ih =>
    rw [upsertAll_cons, ih, mem_keys_upsert]
    simp only [keys, List.map_cons, List.mem_cons, or_assoc]
    exact or_left_comm

theorem mem_keys_upsertAll_nil (l : List (κ × α)) (k : κ) : k ∈ keys (upsertAll [] l) ↔ ∃ v, (k, v) ∈ l := by
  rw [mem_keys_upsertAll]
  simp [keys]

theorem alookup_upsertAll_of_not_mem (m : List (κ × α)) {l : List (κ × α)} {k : κ} (h : k ∉ keys l) :
    alookup k (upsertAll m l) = alookup k m := by
  induction l generalizing m with
  | nil => rfl
  | cons a r ih =>
    simp only [keys, List.map_cons, List.mem_cons, not_or] at h
    rw [upsertAll_cons, ih _ h.2, alookup_upsert, if_neg (fun h' => h.1 h'.symm)]

theorem alookup_upsertAll_of_mem (m : List (κ × α)) {l : List (κ × α)} (hf : Functional l) {k : κ} {v : α}
    (h : (k, v) ∈ l) : alookup k (upsertAll m l) = some v := by
  induction l generalizing m with
  | nil => cases h
  | cons a r ih =>
    have hfr : Functional r := fun k v v' h1 h2 =>
      hf k v v' (List.mem_cons_of_mem _ h1) (List.mem_cons_of_mem _ h2)
    rw [upsertAll_cons]
    by_cases hk : k ∈ keys r
    · obtain ⟨⟨k', v'⟩, hm, hk'⟩ := List.mem_map.1 hk
      simp only at hk'; subst hk'
      have : v' = v := hf k' v' v (List.mem_cons_of_mem _ hm) h
      subst this
      exact ih _ hfr hm
    · rw [alookup_upsertAll_of_not_mem _ hk, alookup_upsert]
      rcases List.mem_cons.1 h with h | h
      · rw [← h]; simp only [if_true]
      · exact absurd (mem_keys_of_mem h) hk

theorem alookup_map_of_nodup {β : Type} {l : List β} (f : β → κ) (g : β → α) (hn : (l.map f).Nodup)
    {b : β} (hb : b ∈ l) : alookup (f b) (l.map (fun x => (f x, g x))) = some (g b) := by
  induction l with
  | nil => cases hb
  | cons a r ih =>
    rw [List.map_cons, List.nodup_cons] at hn
    simp only [List.map_cons, alookup]
    rcases List.mem_cons.1 hb with rfl | hb
    · rw [if_pos rfl]
    · rw [if_neg (fun e => hn.1 (List.mem_map.2 ⟨b, hb, e.symm⟩)), ih hn.2 hb]

theorem alookup_map_val {β : Type} (g : κ → α → β) (m : List (κ × α)) (k : κ) :
    alookup k (m.map fun e => (e.1, g e.1 e.2)) = (alookup k m).map (g k) := by
  induction m with
  | nil => rfl
  | cons e r ih =>
    simp only [List.map_cons, alookup]
    by_cases h : e.1 = k
    · simp only [h, if_true, Option.map_some]
    · simp only [h, if_false]
      exact ih

theorem upsert_of_not_mem {m : List (κ × α)} {k : κ} (v : α) (h : k ∉ keys m) :
    upsert m k v = m ++ [(k, v)] := by
  induction m with
  | nil => rfl
  | cons e r ih =>
    simp only [keys, List.map_cons, List.mem_cons, not_or] at h
    unfold upsert
    rw [if_neg (fun hh => h.1 hh.symm), ih h.2]
    rfl

omit [DecidableEq κ] in
theorem keys_append (m l : List (κ × α)) : keys (m ++ l) = keys m ++ keys l := by
  unfold keys; exact List.map_append

theorem alookup_append_of_mem {a : List (κ × α)} (b : List (κ × α)) {k : κ} (h : k ∈ keys a) :
    alookup k (a ++ b) = alookup k a := by
  induction a with
  | nil => cases h
  | cons e r ih =>
    rw [List.cons_append]
    unfold alookup
    split
    · rfl
    · next hne => exact ih ((List.mem_cons.1 h).resolve_left fun hk => hne hk.symm)

theorem mem_upsert {m : List (κ × α)} {k : κ} {v : α} {x : κ × α} (h : x ∈ upsert m k v) :
    x = (k, v) ∨ x ∈ m := by
  induction m with
  | nil => exact .inl (List.mem_singleton.1 h)
  | cons e r ih =>
    unfold upsert at h
    split at h
    · exact (List.mem_cons.1 h).imp id (List.mem_cons_of_mem _)
    · rcases List.mem_cons.1 h with h | h
      · exact .inr (h ▸ List.mem_cons_self)
      · exact (ih h).imp id (List.mem_cons_of_mem _)

theorem mem_upsertAll {m l : List (κ × α)} {x : κ × α} (h : x ∈ upsertAll m l) :
    x ∈ m ∨ x ∈ l := by
  induction l generalizing m with
  | nil => exact .inl h
  | cons a r ih =>
    rw [upsertAll_cons] at h
    rcases ih h with h | h
    · rcases mem_upsert h with h | h
      · exact .inr (h ▸ List.mem_cons_self)
      · exact .inl h
    · exact .inr (List.mem_cons_of_mem _ h)

/-- `t` tabulates `v` over `l` under the keys `k` -/
structure Tab {ι : Type} (l : List ι) (k : ι → κ) (v : ι → α) (t : List (κ × α)) : Prop where
  mem_keys : ∀ x, x ∈ keys t ↔ ∃ a ∈ l, k a = x
  get : ∀ a ∈ l, alookup (k a) t = some (v a)

/-- One stage of a chain of tables over the same `l`: the table written from the entries `F y` for the keys `y` of the table
    before (`L`, the `k' a`). -/
theorem Tab.of_filterMap {ι κ' : Type} {l : List ι} {k' : ι → κ'} {L : List κ'} (hL : ∀ y, y ∈ L ↔ ∃ a ∈ l, k' a = y)
    {F : κ' → Option (κ × α)} {k : ι → κ} {v : ι → α} (hF : ∀ a ∈ l, F (k' a) = some (k a, v a))
    (hv : ∀ a ∈ l, ∀ b ∈ l, k a = k b → v a = v b) : Tab l k v (upsertAll [] (L.filterMap F)) := by
  have hmem : ∀ x w, (x, w) ∈ L.filterMap F ↔ ∃ a ∈ l, k a = x ∧ v a = w := fun x w => by
    simp only [List.mem_filterMap, hL]
    constructor
    · rintro ⟨_, ⟨a, ha, rfl⟩, hy⟩
      rw [hF a ha] at hy; cases hy
      exact ⟨a, ha, rfl, rfl⟩
    · rintro ⟨a, ha, rfl, rfl⟩
      exact ⟨_, ⟨a, ha, rfl⟩, hF a ha⟩
  refine ⟨fun x => ?_, fun a ha => alookup_upsertAll_of_mem _ ?_ ((hmem _ _).2 ⟨a, ha, rfl, rfl⟩)⟩
  · rw [mem_keys_upsertAll_nil]
    simp only [hmem]
    exact ⟨fun ⟨_, a, ha, hk, _⟩ => ⟨a, ha, hk⟩, fun ⟨a, ha, hk⟩ => ⟨_, a, ha, hk, rfl⟩⟩
  · intro x w w' h1 h2
    obtain ⟨a, ha, rfl, rfl⟩ := (hmem _ _).1 h1
    obtain ⟨b, hb, hk, rfl⟩ := (hmem _ _).1 h2
    exact hv a ha b hb hk.symm

end AList

theorem keys_map {α κ β : Type} (l : List α) (g : α → κ × β) : keys (l.map g) = l.map fun a => (g a).1 :=
  List.map_map

theorem mapE_map_ok {α β γ : Type} {f : β → Except String γ} {g : α → β} {k : α → γ} {l : List α}
    (h : ∀ x ∈ l, f (g x) = .ok (k x)) : mapE f (l.map g) = .ok (l.map k) := by
  induction l with
  | nil => rfl
  | cons a r ih =>
    rw [List.map_cons]
    unfold mapE
    rw [h a List.mem_cons_self, ih (fun x hx => h x (List.mem_cons_of_mem _ hx))]
    rfl

theorem mapE_ok_map {α β : Type} (f : α → Except String β) (g : α → β) (l : List α)
    (h : ∀ x ∈ l, f x = .ok (g x)) : mapE f l = .ok (l.map g) := by
  have := mapE_map_ok (g := id) h
  rwa [List.map_id] at this

theorem mapE_cons_ok {α β : Type} {f : α → Except String β} {a : α} {r : List α} {bs : List β} :
    mapE f (a :: r) = .ok bs ↔ ∃ b bs', f a = .ok b ∧ mapE f r = .ok bs' ∧ bs = b :: bs' := by
  simp only [mapE]
  cases f a with
  | error e => simp
  | ok b =>
    cases mapE f r with
    | error e => simp
    | ok bs' => simp [eq_comm]

theorem mapE_mem {α β : Type} {f : α → Except String β} : ∀ {l : List α} {bs : List β},
    mapE f l = .ok bs → ∀ b ∈ bs, ∃ a ∈ l, f a = .ok b
  | [], _, h, b, hb => by cases h; cases hb
  | a :: r, _, h, b, hb => by
    obtain ⟨b0, bs0, hfa, hr, rfl⟩ := mapE_cons_ok.mp h
    rcases List.mem_cons.1 hb with rfl | hb
    · exact ⟨a, List.mem_cons_self, hfa⟩
    · obtain ⟨a', ha', h'⟩ := mapE_mem hr b hb
      exact ⟨a', List.mem_cons_of_mem _ ha', h'⟩

theorem mapE_map_eq {α β : Type} {f : α → Except String β} (g : β → α)
    (hg : ∀ a b, f a = .ok b → g b = a) : ∀ {l : List α} {bs : List β}, mapE f l = .ok bs → bs.map g = l
  | [], _, h => by cases h; rfl
  | a :: r, _, h => by
    obtain ⟨b, bs', hfa, hr, rfl⟩ := mapE_cons_ok.mp h
    rw [List.map_cons, hg a b hfa, mapE_map_eq g hg hr]

theorem mapE_error_of_mem {α β : Type} {f : α → Except String β} {l : List α} {x : α} {e : String}
    (hx : x ∈ l) (h : f x = .error e) : ∃ e', mapE f l = .error e' := by
  induction l with
  | nil => cases hx
  | cons a r ih =>
    unfold mapE
    cases hfa : f a with
    | error e1 => exact ⟨e1, rfl⟩
    | ok b =>
      rcases List.mem_cons.1 hx with hx | hx
      · rw [hx, hfa] at h; cases h
      · obtain ⟨e', he'⟩ := ih hx
        rw [he']; exact ⟨e', rfl⟩

theorem mapE_congr {α β : Type} (f g : α → Except String β) (l : List α)
    (h : ∀ x ∈ l, f x = g x) : mapE f l = mapE g l := by
  induction l with
  | nil => rfl
  | cons a r ih =>
    unfold mapE
    rw [h a List.mem_cons_self, ih (fun x hx => h x (List.mem_cons_of_mem _ hx))]

theorem mapE_append_ok {α β : Type} (f : α → Except String β) (g : α → β) (a b : List α)
    (hb : ∀ x ∈ b, f x = .ok (g x)) :
    mapE f (a ++ b) = match mapE f a with
      | .error e => .error e
      | .ok as => .ok (as ++ b.map g) := by
  induction a with
  | nil =>
    rw [List.nil_append, mapE_ok_map f g b hb]
    rfl
  | cons x r ih =>
    rw [List.cons_append]
    unfold mapE
    cases f x with
    | error e => rfl
    | ok y =>
      simp only
      rw [ih]
      cases mapE f r with
      | error e => rfl
      | ok ys => rfl

theorem foldE_inv {α σ : Type} {f : σ → α → Except String σ} (I : σ → Prop) {l : List α} {s r : σ}
    (hs : I s) (hstep : ∀ s a s', a ∈ l → I s → f s a = .ok s' → I s')
    (h : foldE f s l = .ok r) : I r := by
  induction l generalizing s with
  | nil => unfold foldE at h; injection h with h; rw [← h]; exact hs
  | cons a t ih =>
    unfold foldE at h
    cases hfa : f s a with
    | error e => rw [hfa] at h; cases h
    | ok s' =>
      rw [hfa] at h
      exact ih (hstep s a s' List.mem_cons_self hs hfa)
        (fun s a s' ha => hstep s a s' (List.mem_cons_of_mem _ ha)) h

theorem foldE_error_of_mem {α σ : Type} {f : σ → α → Except String σ} {l : List α} {x : α}
    (hx : x ∈ l) (hf : ∀ s, ∃ e, f s x = .error e) (s : σ) : ∃ e, foldE f s l = .error e := by
  induction l generalizing s with
  | nil => cases hx
  | cons a t ih =>
    unfold foldE
    cases hfa : f s a with
    | error e => exact ⟨e, rfl⟩
    | ok s' =>
      rcases List.mem_cons.1 hx with hx | hx
      · obtain ⟨e, he⟩ := hf s
        rw [hx, hfa] at he; cases he
      · exact ih hx s'

theorem foldE_pure {α σ : Type} (f : σ → α → σ) : ∀ (l : List α) (s : σ),
    foldE (fun s a => .ok (f s a)) s l = .ok (l.foldl f s)
  | [], _ => rfl
  | a :: t, s => by simp only [foldE, List.foldl_cons]; exact foldE_pure f t (f s a)

theorem foldE_map {α β σ : Type} (f : σ → β → Except String σ) (g : α → β) : ∀ (l : List α) (s : σ),
    foldE f s (l.map g) = foldE (fun s a => f s (g a)) s l
  | [], _ => rfl
  | a :: t, s => by
    simp only [List.map_cons, foldE]
    cases f s (g a) with
    | error e => rfl
    | ok s' => exact foldE_map f g t s'

theorem foldE_prefix {α σ : Type} (f : σ → α → Except String σ) (st : List α → σ) (l : List α)
    (h : ∀ p a q, l = p ++ a :: q → a ∈ l → f (st p) a = .ok (st (p ++ [a]))) : foldE f (st []) l = .ok (st l) :=
  go l [] rfl
where
  go : ∀ post pre, l = pre ++ post → foldE f (st pre) post = .ok (st l)
  | [], pre, hl => by rw [List.append_nil] at hl; rw [hl]; rfl
  | a :: t, pre, hl => by
    simp only [foldE, h pre a t hl (hl ▸ List.mem_append_right _ List.mem_cons_self)]
    exact go t (pre ++ [a]) (by rw [hl, List.append_assoc]; rfl)

theorem foldl_prefix {α σ : Type} (f : σ → α → σ) (st : List α → σ) (l : List α)
    (h : ∀ p a q, l = p ++ a :: q → a ∈ l → f (st p) a = st (p ++ [a])) : l.foldl f (st []) = st l :=
  Except.ok.inj <| (foldE_pure f l _).symm.trans <|
    foldE_prefix (fun s a => .ok (f s a)) st l fun p a q hl ha => congrArg _ (h p a q hl ha)

theorem key_fresh_of_split {α κ : Type} {k : α → κ} {l p q : List α} {a : α} (hn : (l.map k).Nodup)
    (hl : l = p ++ a :: q) : ∀ b ∈ p, k b ≠ k a := by
  rw [hl, List.map_append, List.map_cons] at hn
  exact fun b hb e => (List.nodup_append.1 hn).2.2 _ (List.mem_map.2 ⟨b, hb, rfl⟩) _ List.mem_cons_self e

theorem not_mem_keys_of_split {α κ β : Type} {g : α → κ × β} {l p q : List α} {a : α}
    (hn : (l.map fun a => (g a).1).Nodup) (hl : l = p ++ a :: q) : (g a).1 ∉ keys (p.map g) := by
  rw [keys_map]
  intro hm
  obtain ⟨b, hb, hk⟩ := List.mem_map.1 hm
  exact key_fresh_of_split hn hl b hb hk

end OFCore.Dump
