import OFCore.Lemmas.RuleSys
import OFCore.Lemmas.EngineRanked
import OFCore.Lemmas.RuleSysCoherent
import OFCore.Lemmas.ElabRead
/-!
# Declarative acyclicity gives node-level acyclicity

An elaborated expression reads only nodes of the variables the expression reads (`refs_xelabExpr`),
so a ranked declaration (`DeclRanked`) elaborates to a `VarRanked` system.  For a concrete declaration
`DeclRanked` is a finite test (`declRanked_of_test`).
-/
namespace OFCore.RuleSys
open OFCore OFCore.Engine

/-- what `divideTarget` returns: the variable exists, is dated and not shorter than the requested period, which is one
    unit long; the node is the variable at its definition-period-long period around the start of the requested one;
    the denominator is the (positive) size of that period in units of the requested one -/
theorem divideTarget_spec (d : Decl) (w : Nat) (q : Period) (k : Node Period) (m : Nat)
    (h : divideTarget d w q = .ok (k, m)) :
    ∃ wv c n, d.vars[w]? = some wv ∧ ¬ (unitWeight wv.unit < unitWeight q.unit) ∧ q.size = 1 ∧
      wv.unit ≠ .eternity ∧ q.unit ≠ .eternity ∧
      divPeriod wv.unit q = .ok c ∧ divDenominator q.unit c = .ok n ∧ 0 < n ∧ m = n.toNat ∧
      servedPeriod wv.unit c = .ok k.2 ∧ k.1 = w := by
  unfold divideTarget at h
  split at h
  · cases h
  rename_i wv hw
  split at h
  · cases h
  rename_i h1
  split at h
  · cases h
  rename_i h2
  split at h
  · cases h
  rename_i h3
  split at h
  · cases h
  rename_i c hc
  split at h
  · cases h
  rename_i n hn
  split at h
  · cases h
  rename_i h4
  split at h
  · cases h
  rename_i c' hs
  cases h
  have h5 : ¬ q.size ≠ 1 := fun hne => h3 (.inr hne)
  exact ⟨wv, c, n, hw, fun hlt => h1 (.inl hlt), by omega, h2, fun hq => h3 (.inl hq), hc, hn, by omega, rfl, hs, rfl⟩

/-- the variables a declarative expression reads -/
def dreads : DExpr → List Nat
  | .const _ => []
  | .var w _ _ => [w]
  | .op1 o a =>
    match a with
    | .var w _ _ => if o = OP_PARAM then [] else [w]
    | .const _ => []
    | .op1 _ _ => dreads a
    | .op2 _ _ _ => dreads a
    | .fail _ _ => dreads a
  | .op2 _ a b => dreads a ++ dreads b
  | .fail _ a => dreads a

theorem refs_elabRead (d : Decl) (w : Nat) (q : Except String Period) (add : Bool) :
    ∀ k ∈ refs (elabRead d w q add), k.1 = w := by
  refine elabRead_ind (C := fun e => ∀ k ∈ refs e, k.1 = w) d w q add (fun k hk => nomatch hk) ?_ ?_
  · intro p k hk
    rw [refs, List.mem_singleton] at hk
    rw [hk]
  · intro a b ha hb k hk
    rw [refs, List.mem_append] at hk
    exact hk.elim (ha k) (hb k)

theorem refs_elabDivide (d : Decl) (w : Nat) (q : Except String Period) :
    ∀ k ∈ refs (elabDivide d w q), k.1 = w := by
  unfold elabDivide
  cases q with
  | error e => intro k hk; simp [refs] at hk
  | ok q =>
    simp only
    cases h : divideTarget d w q with
    | error e => intro k hk; simp [refs] at hk
    | ok kn =>
      obtain ⟨k0, m⟩ := kn
      obtain ⟨_, _, _, _, _, _, _, _, _, _, _, _, _, hk0⟩ := divideTarget_spec d w q k0 m h
      intro k hk
      simp only [refs, List.mem_singleton] at hk
      rw [hk]; exact hk0

theorem refs_elabParam (x : XDecl) (ent i : Nat) (q : Except String Period) : refs (elabParam x ent i q) = [] := by
  unfold elabParam
  split <;> rfl

theorem refs_specialOp (x : XDecl) (ent : Nat) (p : Period) (o : Nat) (a : DExpr) (e : Expr Period)
    (h : specialOp x ent p o a = some e) : ∀ k ∈ refs e, k.1 ∈ dreads (.op1 o a) := by
  rcases specialOp_cases o a with hn | ⟨w, pt, add, rfl, rfl | rfl⟩
  · rw [hn] at h; cases h
  · cases h
    intro k hk
    show k.1 ∈ [w]
    rw [List.mem_singleton]
    cases hw : x.vars[w]? with
    | none => rw [hw] at hk; cases hk
    | some wv =>
      rw [hw] at hk
      simp only at hk
      split at hk
      · exact refs_elabDivide _ w _ k hk
      · cases hk
  · cases h
    intro k hk
    rw [refs_elabParam] at hk; cases hk

theorem dreads_op1_of_none (x : XDecl) (ent : Nat) (p : Period) (o : Nat) (a : DExpr)
    (h : specialOp x ent p o a = none) : dreads (.op1 o a) = dreads a := by
  cases a with
  | var w pt add =>
    have h2 : ¬ o = OP_PARAM := fun e => by
      subst e
      cases h
    simp only [dreads, h2, if_false]
  | const c => rfl
  | op1 o' b => rfl
  | op2 o' b c => rfl
  | fail id b => rfl

theorem refs_xelabExpr (x : XDecl) (p : Period) : ∀ (e : DExpr) (ent : Nat),
    ∀ k ∈ refs (xelabExpr x ent p e), k.1 ∈ dreads e := by
  intro e
  induction e with
  | const c => intro ent k hk; cases hk
  | var w pt add =>
    intro ent k hk
    simp only [xelabExpr] at hk
    cases hw : x.vars[w]? with
    | none => rw [hw] at hk; cases hk
    | some wv =>
      rw [hw] at hk
      simp only at hk
      split at hk
      · simp only [dreads, List.mem_singleton]; exact refs_elabRead _ w _ add k hk
      · cases hk
  | op1 o a ih =>
    intro ent k hk
    simp only [xelabExpr] at hk
    cases hs : specialOp x ent p o a with
    | some e => rw [hs] at hk; exact refs_specialOp x ent p o a e hs k hk
    | none => rw [hs] at hk; rw [dreads_op1_of_none x ent p o a hs]; exact ih _ k hk
  | op2 o a b iha ihb =>
    intro ent k hk
    simp only [xelabExpr, refs, List.mem_append] at hk
    simp only [dreads, List.mem_append]
    exact hk.imp (iha _ k) (ihb _ k)
  | fail id a ih => intro ent k hk; exact ih _ k hk

/-- every formula of a variable reads only variables of strictly lower rank: the rules are a DAG of variables -/
def DeclRanked (x : XDecl) (rk : Nat → Nat) : Prop :=
  ∀ (v : Nat) (vv : Var), x.vars[v]? = some vv → ∀ f ∈ vv.formulas, ∀ w ∈ dreads f.2, rk w < rk v

theorem xelabSys_varRanked (x : XDecl) (armed : List Nat) (rk : Nat → Nat) (h : DeclRanked x rk) :
    VarRanked (xelabSys x armed) rk := by
  intro v p e hf k hk
  cases hv : x.vars[v]? with
  | none => simp only [xelabSys, hv] at hf; cases hf
  | some vv =>
    rw [xelab_formula x armed v vv hv] at hf
    obtain ⟨de, hde, rfl⟩ := Option.map_eq_some_iff.1 hf
    obtain ⟨s, hs⟩ := formulaInForce_mem vv _ de hde
    exact h v vv hv (s, de) hs k.1 (refs_xelabExpr x p de vv.entity k hk)

def declRankedB (x : XDecl) (rk : Nat → Nat) : Bool :=
  (List.range x.vars.length).all fun v => match x.vars[v]? with
    | none => true
    | some vv => vv.formulas.all fun f => (dreads f.2).all fun w => decide (rk w < rk v)

theorem declRanked_of_test (x : XDecl) (rk : Nat → Nat) (h : declRankedB x rk = true) : DeclRanked x rk := by
  intro v vv hv f hf w hw
  have hlt : v < x.vars.length := by
    rcases Nat.lt_or_ge v x.vars.length with h | h
    · exact h
    · rw [List.getElem?_eq_none h] at hv; cases hv
  have := List.all_eq_true.1 h v (List.mem_range.2 hlt)
  rw [hv] at this
  exact of_decide_eq_true (List.all_eq_true.1 (List.all_eq_true.1 this f hf) w hw)

theorem elabSys_varRanked (d : Decl) (armed : List Nat) (rk : Nat → Nat)
    (hp : ∀ vv ∈ d.vars, ∀ f ∈ vv.formulas, Plain f.2) (h : DeclRanked { toDecl := d } rk) :
    VarRanked (elabSys d armed) rk := by
  intro v p e hf
  refine xelabSys_varRanked { toDecl := d } armed rk h v p e ?_
  cases hv : d.vars[v]? with
  | none => rw [(elabSys_unknown hv).2.1] at hf; cases hf
  | some vv =>
    rw [(elabSys_declared hv).2.1] at hf
    obtain ⟨de, hde, rfl⟩ := Option.map_eq_some_iff.1 hf
    obtain ⟨s, hs⟩ := formulaInForce_mem vv _ de hde
    rw [xelab_formula _ armed v vv hv, hde]
    exact congrArg some (xelabExpr_plain _ p de vv.entity (hp vv (List.mem_of_getElem? hv) (s, de) hs))

end OFCore.RuleSys
