import OFCore.Lemmas.Param
import OFCore.Lemmas.ParamNode
import OFCore.Lemmas.Except
import OFCore.Lemmas.InsertionSort
/-!
Construction of parameters from YAML-like data (C06): the dispatch of `helpers._parse_child` is one equation
(`parseChild_map`), inverted by the kind of object built (`parseChild_map_ok`).
-/
namespace OFCore.Param

variable {V : Type}

def AllDates (kvs : List (YKey × Y)) : Prop := ∀ p ∈ kvs, ∃ o sp t, p.1 = YKey.date o sp t

def keyTick : YKey → Int
  | .date o sp _ => fine o sp
  | .name _ => 0
  | .int _ => 0

theorem allDates_cons (p : YKey × Y) (r : List (YKey × Y)) :
    AllDates (p :: r) ↔ (∃ o sp t, p.1 = YKey.date o sp t) ∧ AllDates r := by
  unfold AllDates
  simp only [List.mem_cons, forall_eq_or_imp]

theorem lookupName_none_of_allDates (kvs : List (YKey × Y)) (h : AllDates kvs) (s : String) :
    lookupName kvs s = none := by
  induction kvs with
  | nil => rfl
  | cons p r ih =>
    obtain ⟨k, y⟩ := p
    obtain ⟨⟨o, sp, t, hk⟩, hr⟩ := (allDates_cons _ _).mp h
    simp only at hk
    subst hk
    simp only [lookupName, YKey.isName, Bool.false_eq_true, if_false]
    exact ih hr

/-- when `paramItems` succeeds the keys are all instant texts and the values all readable (`itemOf`); the items are the
    ticks of the keys with what the values denote, in order -/
theorem paramItems_spec {kvs : List (YKey × Y)} {its : List (Int × Item String)} (h : paramItems kvs = .ok its) :
    AllDates kvs ∧ its.map (·.1) = kvs.map (fun p => keyTick p.1) ∧
    ∀ d i, (d, i) ∈ its ↔ ∃ o sp t y, (YKey.date o sp t, y) ∈ kvs ∧ itemOf y = .ok i ∧ d = fine o sp := by
  induction kvs generalizing its with
  | nil =>
    cases h
    exact ⟨fun p hp => (nomatch hp), rfl, fun d i => by simp⟩
  | cons p r ih =>
    obtain ⟨k, y⟩ := p
    cases k with
    | name s => cases h
    | int i => cases h
    | date o sp t =>
      rw [paramItems] at h
      split at h
      · rename_i it its' h1 h2
        cases h
        obtain ⟨a1, a2, a3⟩ := ih h2
        refine ⟨(allDates_cons _ _).mpr ⟨⟨o, sp, t, rfl⟩, a1⟩, by rw [List.map_cons, List.map_cons, a2]; rfl, fun d i => ?_⟩
        rw [List.mem_cons, a3 d i]
        constructor
        · rintro (heq | ⟨o', sp', t', y', hm, hi, rfl⟩)
          · cases heq; exact ⟨o, sp, t, y, List.mem_cons_self .., h1, rfl⟩
          · exact ⟨o', sp', t', y', List.mem_cons_of_mem _ hm, hi, rfl⟩
        · rintro ⟨o', sp', t', y', hm, hi, rfl⟩
          rcases List.mem_cons.mp hm with heq | hm
          · cases heq
            exact Or.inl (by rw [h1] at hi; cases hi; rfl)
          · exact Or.inr ⟨o', sp', t', y', hm, hi, rfl⟩
      · cases h
      · cases h

theorem itemOf_map_value {kvs : List (YKey × Y)} {y : Y} {tok : Option String}
    (he : lookupName kvs "expected" = none) (hk : keysWithin kvs atInstantKeys = true)
    (hv : lookupName kvs "value" = some y) (hm : metaOk kvs = true) (hy : y.valTok = some tok) :
    itemOf (.map kvs) = .ok (.value tok) := by
  simp only [itemOf, he, hk, hv, hm, hy, Bool.false_eq_true, if_false, Bool.not_true, if_true]

theorem parseChild_map (rat : String → Option Rat) (kvs : List (YKey × Y)) :
    parseChild rat (.map kvs) =
      if hasName kvs "values" then (buildParam kvs).map .param
      else if hasName kvs "brackets" then
        if !keysWithin kvs (commonKeys ++ ["brackets"]) then .error "Unexpected property"
        else if !metaOk kvs then .error "metadata"
        else (scaleBrackets rat kvs).map (.scale (isSingleAmount kvs))
      else if kvs.all (fun p => p.1.isInstant) then (buildParam kvs).map .param
      else if !metaOk kvs then .error "metadata"
      else (nodeKids rat kvs []).map .node := by
  rw [parseChild]
  cases buildParam kvs <;> cases scaleBrackets rat kvs <;> cases nodeKids rat kvs [] <;> rfl

theorem parseChild_map_ok {rat : String → Option Rat} {kvs : List (YKey × Y)} {t : PNode String}
    (h : parseChild rat (.map kvs) = .ok t) :
    match t with
    | .param l => buildParam kvs = .ok l
    | .scale m bs => m = isSingleAmount kvs ∧ keysWithin kvs (commonKeys ++ ["brackets"]) = true ∧
        scaleBrackets rat kvs = .ok bs
    | .node cs => nodeKids rat kvs [] = .ok cs := by
  rw [parseChild_map] at h
  by_cases hv : hasName kvs "values" = true
  · rw [if_pos hv] at h; obtain ⟨l, hl, rfl⟩ := map_eq_ok.mp h; exact hl
  rw [if_neg hv] at h
  by_cases hb : hasName kvs "brackets" = true
  · rw [if_pos hb] at h
    cases hk : keysWithin kvs (commonKeys ++ ["brackets"])
    · rw [hk] at h; cases h
    cases hm : metaOk kvs
    · rw [hk, hm] at h; cases h
    rw [hk, hm] at h
    obtain ⟨bs, hs, rfl⟩ := map_eq_ok.mp h
    exact ⟨rfl, rfl, hs⟩
  rw [if_neg hb] at h
  by_cases ha : kvs.all (fun p => p.1.isInstant) = true
  · rw [if_pos ha] at h; obtain ⟨l, hl, rfl⟩ := map_eq_ok.mp h; exact hl
  rw [if_neg ha] at h
  cases hm : metaOk kvs
  · rw [hm] at h; cases h
  rw [hm] at h
  obtain ⟨cs, hn, rfl⟩ := map_eq_ok.mp h
  exact hn

theorem parseChild_dates (rat : String → Option Rat) {kvs : List (YKey × Y)} {its : List (Int × Item String)}
    (hi : paramItems kvs = .ok its) : parseChild rat (.map kvs) = .ok (.param (ofData its)) := by
  have h := (paramItems_spec hi).1
  have hv : lookupName kvs "values" = none := lookupName_none_of_allDates kvs h _
  have hb : lookupName kvs "brackets" = none := lookupName_none_of_allDates kvs h _
  have ha : kvs.all (fun p => p.1.isInstant) = true :=
    List.all_eq_true.mpr fun p hp => by obtain ⟨o, sp, t, hk⟩ := h p hp; rw [hk]; rfl
  simp only [parseChild_map, hasName, hv, hb, Option.isSome_none, Bool.false_eq_true, if_false, ha, if_true,
    buildParam, paramValues, hi, Except.map]

/-- the loop of `ParameterNode.__init__`: the children built are those of the non-reserved keys, in order, each named by
    the text of its key and parsed from its data; names end up distinct -/
theorem nodeKids_spec {rat : String → Option Rat} {kvs : List (YKey × Y)} {acc cs : List (String × PNode String)}
    (h : nodeKids rat kvs acc = .ok cs) :
    ∃ new, cs = acc ++ new ∧
      new.map (·.1) = (kvs.filter (fun p => !p.1.within commonKeys)).map (·.1.text) ∧
      (∀ k c, (k, c) ∈ new → ∃ p ∈ kvs, p.1.within commonKeys = false ∧ p.1.text = k ∧ parseChild rat p.2 = .ok c) ∧
      ((acc.map (·.1)).Nodup → (cs.map (·.1)).Nodup) := by
  induction kvs generalizing acc with
  | nil =>
    cases h
    exact ⟨[], (List.append_nil _).symm, rfl, fun k c hm => (nomatch hm), id⟩
  | cons p r ih =>
    obtain ⟨k, y⟩ := p
    rw [nodeKids] at h
    split at h
    · -- a reserved key is not a member
      rename_i hw
      obtain ⟨new, h1, h2, h3, h4⟩ := ih h
      refine ⟨new, h1, ?_, fun k' c hm => ?_, h4⟩
      · rw [h2, List.filter_cons_of_neg (by simp [hw])]
      · obtain ⟨p, hp, hq⟩ := h3 k' c hm
        exact ⟨p, List.mem_cons_of_mem _ hp, hq⟩
    · rename_i hw
      have hwf : k.within commonKeys = false := by simpa using hw
      split at h
      · cases h
      · rename_i c hc
        split at h
        · cases h
        · rename_i acc' ha
          by_cases hk : k.text ∈ acc.map (·.1)
          · obtain ⟨e, he⟩ := (addChild_ok_iff acc k.text c).2.mpr hk
            rw [he] at ha; cases ha
          rw [(addChild_ok_iff acc k.text c).1.mpr hk] at ha
          cases ha
          obtain ⟨new, h1, h2, h3, h4⟩ := ih h
          refine ⟨(k.text, c) :: new, by rw [h1, List.append_assoc]; rfl, ?_, fun k' c' hm => ?_, fun hn => h4 ?_⟩
          · rw [List.filter_cons_of_pos (by simp [hwf]), List.map_cons, List.map_cons, h2]
          · rcases List.mem_cons.mp hm with heq | hm'
            · cases heq
              exact ⟨(k, y), List.mem_cons_self .., hwf, rfl, hc⟩
            · obtain ⟨p, hp, hq⟩ := h3 k' c' hm'
              exact ⟨p, List.mem_cons_of_mem _ hp, hq⟩
          · rw [List.map_append, List.nodup_append]
            refine ⟨hn, by simp, fun a ha b hb hab => hk ?_⟩
            rw [List.mem_singleton.mp hb] at hab
            exact (show a = k.text from hab) ▸ ha

theorem sortDesc_eq (l : List (Int × Item V)) : sortDesc l = Srt.sortBy (fun x y => decide (y.1 ≤ x.1)) l :=
  Srt.sortBy_unique (ins := insertDesc) (fun _ => rfl)
    (fun x y r => by rw [insertDesc]; by_cases h : y.1 ≤ x.1 <;> simp [h]) rfl (fun _ _ => rfl) l

theorem mem_sortDesc (y : Int × Item V) (l : List (Int × Item V)) : y ∈ sortDesc l ↔ y ∈ l :=
  (sortDesc_eq l ▸ Srt.sortBy_perm _ l).mem_iff

def DescKeys (l : List (Int × Item V)) : Prop := l.Pairwise (fun x y => y.1 < x.1)

/-- the keys are distinct, so two entries the sort does not separate never meet: the order is strict -/
theorem descKeys_sortDesc (l : List (Int × Item V)) (hnd : (l.map (·.1)).Nodup) :
    DescKeys (sortDesc l) :=
  sortDesc_eq l ▸ (Srt.sortBy_pairwise (S := fun x y => x.1 ≠ y.1)
    (fun a b => by simpa using Int.le_total b.1 a.1)
    (fun a b c h1 h2 => by simp only [decide_eq_true_eq] at h1 h2 ⊢; exact Int.le_trans h2 h1) l
    (List.pairwise_map.mp hnd)).imp fun h => by
      have h1 := h.1; have h2 := h.2
      simp only [decide_eq_true_eq] at h1 h2
      exact Int.lt_iff_le_and_ne.mpr ⟨h1, fun e => h2 (Int.le_of_eq e.symm) e.symm⟩

theorem mem_keepValues (d : Int) (v : Option V) (l : List (Int × Item V)) :
    (⟨d, v⟩ : Entry V) ∈ keepValues l ↔ (d, Item.value v) ∈ l := by
  induction l with
  | nil => simp [keepValues]
  | cons x r ih =>
    obtain ⟨dx, ix⟩ := x
    cases ix with
    | value w => simp only [keepValues, List.mem_cons, ih, Entry.mk.injEq, Prod.mk.injEq, Item.value.injEq]
    | expected => simp only [keepValues, List.mem_cons, ih, Prod.mk.injEq, reduceCtorEq, and_false, false_or]

theorem sorted_keepValues (l : List (Int × Item V)) (h : DescKeys l) : Sorted (keepValues l) := by
  induction l with
  | nil => trivial
  | cons x r ih =>
    obtain ⟨h1, h2⟩ := List.pairwise_cons.mp h
    obtain ⟨dx, ix⟩ := x
    cases ix with
    | value w => exact sorted_cons.mpr ⟨fun e he => h1 _ ((mem_keepValues e.date e.val r).mp he), ih h2⟩
    | expected => exact ih h2

theorem bracketList_length {rat : String → Option Rat} {xs : List Y} {bs : List Bracket}
    (h : bracketList rat xs = .ok bs) : bs.length = xs.length := by
  induction xs generalizing bs with
  | nil => cases h; rfl
  | cons x r ih =>
    rw [bracketList] at h
    split at h
    · cases h
    · split at h
      · cases h
      · rename_i bs' hr
        cases h
        rw [List.length_cons, List.length_cons, ih hr]

end OFCore.Param
