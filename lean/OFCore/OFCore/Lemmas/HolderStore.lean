import OFCore.HolderStore
/-!
# The two-tier store refines a finite map, whatever the pressure at each write
-/
namespace OFCore.HolderStore

variable {P K V : Type} [DecidableEq K]

theorem tget_tdel (t : Tbl K V) (k k' : K) :
    tget (tdel t k) k' = if k' = k then none else tget t k' := by
  induction t with
  | nil => simp [tget, tdel]
  | cons e r ih =>
    obtain ⟨a, x⟩ := e
    by_cases ha : a = k
    · subst ha
      rw [tdel, if_pos rfl, ih]
      by_cases hk : k' = a
      · rw [if_pos hk, if_pos hk]
      · rw [if_neg hk, if_neg hk, tget, if_neg (Ne.symm hk)]
    · rw [tdel, if_neg ha, tget, tget, ih]
      by_cases hak : a = k'
      · rw [if_pos hak, if_pos hak, if_neg (hak ▸ ha)]
      · rw [if_neg hak, if_neg hak]

theorem tget_tput (t : Tbl K V) (k k' : K) (x : V) :
    tget (tput t k x) k' = if k' = k then some x else tget t k' := by
  by_cases hk : k' = k
  · subst hk; simp [tput, tget]
  · simp [tput, tget, hk, Ne.symm hk, tget_tdel]

theorem tget_ne_none_iff (t : Tbl K V) (k : K) : tget t k ≠ none ↔ k ∈ t.map (·.1) := by
  induction t with
  | nil => simp [tget]
  | cons e r ih =>
    obtain ⟨a, x⟩ := e
    by_cases ha : a = k
    · subst ha; simp [tget]
    · simp only [tget, ha, if_false, List.map_cons, List.mem_cons]
      rw [ih]
      constructor
      · intro h; exact Or.inr h
      · intro h; rcases h with h | h
        · exact absurd h.symm ha
        · exact h

theorem get_eq_view (key : P → K) (h : Holder K V) (p : P) : h.get key p = h.view (key p) := rfl

/-- the key written reads the value and every other key reads as before, whether the value went to memory or,
    under pressure `b`, to disk -/
theorem view_set (key : P → K) (h : Holder K V) (p : P) (x : V) (b : Bool) (k : K) :
    (h.set key p x b).view k = if k = key p then some x else h.view k := by
  unfold Holder.set
  split
  · rename_i hc
    by_cases hk : k = key p <;> simp [Holder.view, tget_tput, hk, hc.1, hc.2.1]
  · by_cases hk : k = key p <;> simp [Holder.view, tget_tput, hk]

theorem view_delete_all (key : P → K) (h : Holder K V) (k : K) : (h.delete key none).view k = none := by
  simp [Holder.delete, Holder.view, tget]

theorem view_delete (key : P → K) (h : Holder K V) (p : P) (k : K) :
    (h.delete key (some p)).view k = if k = key p then none else h.view k := by
  by_cases hk : k = key p <;> simp [Holder.delete, Holder.view, tget_tdel, hk]

theorem view_step (key : P → K) (h : Holder K V) (op : Op P V) :
    (h.step key op).view = specStep key h.view op := by
  funext k
  cases op with
  | set p x b => simp [Holder.step, specStep, view_set]
  | del p =>
    cases p with
    | none => simp [Holder.step, specStep, view_delete_all]
    | some p => simp [Holder.step, specStep, view_delete]

/-- refinement: any history of writes and deletions, under any pressure schedule, shows exactly what the plain
    finite map shows -/
theorem view_run (key : P → K) : ∀ (ops : List (Op P V)) (h : Holder K V),
    (h.run key ops).view = specRun key h.view ops
  | [], h => rfl
  | op :: ops, h => by
    have ih := view_run key ops (h.step key op)
    simp only [Holder.run, List.foldl_cons, specRun] at *
    rw [ih, view_step]

/-- forgetting the pressure of every write -/
def Op.plain : Op P V → Op P V
  | .set p x _ => .set p x false
  | .del p => .del p

theorem specStep_plain (key : P → K) (m : K → Option V) (op : Op P V) :
    specStep key m op.plain = specStep key m op := by
  cases op with
  | set p x b => rfl
  | del p => rfl

theorem specRun_plain (key : P → K) : ∀ (ops : List (Op P V)) (m : K → Option V),
    specRun key m (ops.map Op.plain) = specRun key m ops
  | [], m => rfl
  | op :: ops, m => by
    simp only [specRun, List.map_cons, List.foldl_cons, specStep_plain]
    exact specRun_plain key ops _

theorem known_iff (h : Holder K V) (k : K) : k ∈ h.known ↔ h.view k ≠ none := by
  unfold Holder.known Holder.view
  rw [List.mem_append, ← tget_ne_none_iff]
  cases hm : tget h.mem k with
  | some x => exact ⟨fun _ => Option.some_ne_none x, fun _ => .inl (Option.some_ne_none x)⟩
  | none =>
    -- absent from memory: known exactly when the disk tier is read and has it
    dsimp only
    by_cases hd : h.diskable
    · rw [if_pos hd, if_pos hd, ← tget_ne_none_iff]
      exact ⟨fun hh => hh.resolve_left fun hh => hh rfl, .inr⟩
    · rw [if_neg hd, if_neg hd]
      exact ⟨fun hh => hh.elim (fun hh => absurd rfl hh) nofun, fun hh => absurd rfl hh⟩

end OFCore.HolderStore
