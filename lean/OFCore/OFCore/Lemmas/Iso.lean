import OFCore.Lemmas.CalendarArith
namespace OFCore

theorem isoWeek1_eq (y : Int) : isoWeek1 y = dby y + 4 - (dby y + 4 + 6) % 7 := by
  unfold isoWeek1 weekday0; rw [ord_jan]

theorem isoWeek1_monday (y : Int) : weekday0 (isoWeek1 y) = 0 := by
  rw [isoWeek1_eq]; unfold weekday0; omega

theorem isoWeek1_step (y : Int) :
    isoWeek1 (y + 1) = isoWeek1 y + 364 ∨ isoWeek1 (y + 1) = isoWeek1 y + 371 := by
  rw [isoWeek1_eq, isoWeek1_eq, dby_succ]
  split <;> omega

theorem isoWeeksIn_range (y : Int) : isoWeeksIn y = 52 ∨ isoWeeksIn y = 53 := by
  unfold isoWeeksIn
  rcases isoWeek1_step y with h | h <;> rw [h] <;> omega

theorem isoWeek1_near (y : Int) : dby y - 2 ≤ isoWeek1 y ∧ isoWeek1 y ≤ dby y + 4 := by
  rw [isoWeek1_eq]; omega

theorem toIso_year_bounds (c : Date) (hv : c.Valid) :
    isoWeek1 (toIso c).1 ≤ ord c ∧ ord c < isoWeek1 ((toIso c).1 + 1) := by
  have hlo := (ord_bounds c hv).1
  have hhi := ord_le_dby_succ c hv
  simp only [toIso]
  split
  · -- before week 1 of the civil year: week 1 of the year before began at least 361 days earlier
    rename_i h
    have := (isoWeek1_near (c.y - 1)).2
    have := dby_succ_ge (c.y - 1)
    rw [Int.sub_add_cancel] at *
    exact ⟨by omega, h⟩
  · split
    · -- in week 1 of the next year: the one after that begins at least 363 days after 1 January
      rename_i h1 h2
      have := (isoWeek1_near (c.y + 1 + 1)).1
      have := dby_succ_ge (c.y + 1)
      exact ⟨h2, by omega⟩
    · rename_i h1 h2; exact ⟨by omega, by omega⟩

theorem toIso_spec (c : Date) (hv : c.Valid) (y w d : Int) (hiso : toIso c = (y, w, d)) :
    1 ≤ w ∧ w ≤ isoWeeksIn y ∧ w ≤ 53 ∧ 1 ≤ d ∧ d ≤ 7 ∧ ofIso y w d = c ∧
    (weekday0 (ord c) = 0 → d = 1) ∧ c.y - 1 ≤ y ∧ y ≤ c.y + 1 := by
  have hb := toIso_year_bounds c hv
  have hm := isoWeek1_monday (toIso c).1
  have hst := isoWeek1_step (toIso c).1
  have hr := isoWeeksIn_range (toIso c).1
  have hy : c.y - 1 ≤ (toIso c).1 ∧ (toIso c).1 ≤ c.y + 1 := by
    simp only [toIso]; split
    · omega
    · split <;> omega
  have e : toIso c = ((toIso c).1, (ord c - isoWeek1 (toIso c).1) / 7 + 1, weekday0 (ord c) + 1) := rfl
  rw [e] at hiso
  injection hiso with h1 h2
  injection h2 with h2 h3
  subst h2 h3
  rw [h1] at hb hm hst hr hy ⊢
  clear e h1
  have hw := weekday0_range (ord c)
  unfold weekday0 at hm hw ⊢
  refine ⟨by omega, ?_, by omega, by omega, by omega, ?_, by omega, hy.1, hy.2⟩
  · unfold isoWeeksIn; omega
  · unfold ofIso
    have : isoWeek1 y + ((ord c - isoWeek1 y) / 7 + 1 - 1) * 7 + ((ord c + 6) % 7 + 1 - 1) = ord c := by omega
    rw [this]; exact ofOrd_ord c hv

end OFCore
