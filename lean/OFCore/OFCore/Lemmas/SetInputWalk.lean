import OFCore.SetInput
import OFCore.Lemmas.PeriodTotal
/-! C16: the calendar walk of `set_input` and the pieces of `get_subperiods` are both `shiftPieces` for every request that
satisfies `PieceFacts`, and there `calculate_add` sums over the pieces the walk visits. The two claim domains, `WalkDomain`
and `WeekDomain`, only have to deliver `PieceFacts` for their closed-form count. -/
namespace OFCore

theorem walkFrom_range' (u : DUnit) (after : Date) (f : Nat → Date) (N : Nat)
    (Hlt : ∀ i, (f i).lt after ↔ i < N)
    (Hoff : ∀ i, i < N → Period.offset ⟨u, f i, 1⟩ (.n 1) none = .ok ⟨u, f (i + 1), 1⟩) :
    ∀ n j fuel : Nat, j + n = N → n < fuel →
      walkFrom after fuel ⟨u, f j, 1⟩ = .ok ((List.range' j n).map fun i => ⟨u, f i, 1⟩)
  | _, _, 0, _, hf => absurd hf (Nat.not_lt_zero _)
  | 0, j, fuel + 1, hj, _ => by
    rw [walkFrom, if_neg (mt (Hlt j).1 (by omega))]; rfl
  | n + 1, j, fuel + 1, hj, hf => by
    rw [walkFrom, if_pos ((Hlt j).2 (by omega))]
    simp only [Hoff j (by omega), bind, Except.bind, List.range'_succ, List.map_cons,
      walkFrom_range' u after f N Hlt Hoff n (j + 1) fuel (by omega) (by omega)]

theorem walkFrom_eq_shiftPieces (u : DUnit) (s : Date) (N : Nat) (hv : s.Valid) (hu : u ≠ .eternity)
    (hal : (u = .month ∨ u = .year) → s.d ≤ 28) (hy : (shiftDate s N u).y ≤ 9999)
    (fuel : Nat) (hf : N < fuel) :
    walkFrom (shiftDate s N u) fuel ⟨u, s, 1⟩ = .ok (shiftPieces u s N) := by
  have hval : ∀ i : Nat, (shiftDate s i u).Valid := fun i => shiftDate_valid s hv i (by omega) u
  have := walkFrom_range' u (shiftDate s N u) (fun i => shiftDate s i u) N
    (fun i => by rw [lt_iff_ord_lt _ _ (hval i) (hval N)]; exact ord_shiftDate_lt_iff s hv u hal i N)
    (fun i hi => offset_one_shiftDate s hv u hu hal i
      (Int.le_trans (shiftDate_year_mono s hv (i + 1 : Nat) N (by omega) (by omega) u) hy))
    N 0 fuel (Nat.zero_add N) hf
  rwa [Int.natCast_zero, shiftDate_zero s hv, ← List.range_eq_range'] at this

/-- what the walk and `get_subperiods` need of a request for `N` pieces of unit `u`; 9999 is pendulum's last year, and a
day ≤ 28 is never clipped by month arithmetic -/
structure PieceFacts (p : Period) (u : DUnit) (N : Nat) : Prop where
  wf : p.WF
  year : (shiftDate p.start p.size p.unit).y ≤ 9999
  divides : Divides u p.unit
  noclip : (u = .month ∨ u = .year) → p.start.d ≤ 28
  reach : shiftDate p.start N u = shiftDate p.start p.size p.unit

theorem PieceFacts.punit_ne {p : Period} {u : DUnit} {N : Nat} (h : PieceFacts p u N) : p.unit ≠ .eternity := h.wf.1

theorem PieceFacts.unit_ne {p : Period} {u : DUnit} {N : Nat} (h : PieceFacts p u N) : u ≠ .eternity :=
  (h.divides.weight h.wf.1).1

theorem PieceFacts.weight {p : Period} {u : DUnit} {N : Nat} (h : PieceFacts p u N) :
    ¬ unitWeight u > unitWeight p.unit := (h.divides.weight h.wf.1).2

theorem PieceFacts.walk_shiftPieces {p : Period} {u : DUnit} {N : Nat} (h : PieceFacts p u N) :
    walk u p = .ok (shiftPieces u p.start N) ∧ 0 < N ∧ Tiles (shiftPieces u p.start N) p.lo p.hi := by
  have hu := h.unit_ne
  obtain ⟨⟨hpu, hv, hs⟩, hy, -, hal, hN⟩ := h
  have hlt := ord_shiftDate_lt p.start hv p.size hs p.unit
  have hge := ord_shiftDate_add_le p.start hv u hal 0 N
  have hy0 := shiftDate_year_mono p.start hv 0 N (by omega) (by omega) u
  have hva := shiftDate_valid p.start hv N (by omega) u
  have ht := tiles_shiftPieces p.start hv u hu hal N
  rw [Nat.zero_add, Int.natCast_zero, shiftDate_zero p.start hv] at hge
  rw [shiftDate_zero p.start hv] at hy0
  rw [hN] at hge hy0 hva ht
  refine ⟨?_, Nat.pos_of_ne_zero fun h0 => ?_, ?_⟩
  · rw [walk, instOffset_n_total _ _ _ hv (by omega) hpu hva.1 hy]
    simp only [bind, Except.bind]
    rw [← hN] at hy hge ⊢
    exact walkFrom_eq_shiftPieces u p.start N hv hu hal hy _ (by omega)
  · rw [h0, Int.natCast_zero, shiftDate_zero p.start hv] at hN
    rw [← hN] at hlt; omega
  · rwa [hi_eq_shiftDate p hpu]

theorem offset_unit_size {p q : Period} {off : Off} {u : Option DUnit} (h : p.offset off u = .ok q) :
    q.unit = p.unit ∧ q.size = p.size := by
  obtain ⟨d, _, rfl⟩ := offset_eq_ok.1 h
  exact ⟨rfl, rfl⟩

theorem walkFrom_units (after : Date) (fuel : Nat) (sub : Period) (qs : List Period)
    (h : walkFrom after fuel sub = .ok qs) : ∀ q, q ∈ qs → q.unit = sub.unit ∧ q.size = sub.size := by
  induction fuel generalizing sub qs with
  | zero => simp [walkFrom] at h
  | succ f ih =>
    simp only [walkFrom] at h
    split at h
    · cases ho : sub.offset (.n 1) none with
      | error e => simp [ho, bind, Except.bind] at h
      | ok nxt =>
        cases hr : walkFrom after f nxt with
        | error e => simp [ho, hr, bind, Except.bind] at h
        | ok rest =>
          simp only [ho, hr, bind, Except.bind] at h
          injection h with h
          subst h
          intro q hq
          rcases List.mem_cons.mp hq with rfl | hq
          · exact ⟨rfl, rfl⟩
          · obtain ⟨h1, h2⟩ := ih nxt rest hr q hq
            obtain ⟨h3, h4⟩ := offset_unit_size ho
            exact ⟨h1.trans h3, h2.trans h4⟩
    · injection h with h; subst h; intro q hq; cases hq

theorem walk_units {defU : DUnit} {p : Period} {subs : List Period} (h : walk defU p = .ok subs) :
    ∀ q, q ∈ subs → q.unit = defU ∧ q.size = 1 := by
  obtain ⟨o, _, h⟩ := bind_ok h
  cases o with
  | none => cases h
  | some d => exact walkFrom_units _ _ _ _ h

theorem PieceFacts.walk_eq {p : Period} {u : DUnit} {N : Nat} (h : PieceFacts p u N) :
    walk u p = .ok (shiftPieces u p.start N) :=
  h.walk_shiftPieces.1

theorem PieceFacts.walk_tiles {p : Period} {u : DUnit} {N : Nat} (h : PieceFacts p u N) :
    ∃ qs, walk u p = .ok qs ∧ qs.length = N ∧ qs ≠ [] ∧
      (∀ q, q ∈ qs → q.unit = u ∧ q.size = 1) ∧ Tiles qs p.lo p.hi ∧ qs = shiftPieces u p.start N := by
  obtain ⟨hwalk, hpos, ht⟩ := h.walk_shiftPieces
  exact ⟨_, hwalk, length_shiftPieces .., List.ne_nil_of_length_pos (by rwa [length_shiftPieces]),
    fun _ => mem_shiftPieces, ht, rfl⟩

theorem PieceFacts.subperiods_eq {p : Period} {u : DUnit} {N : Nat} (h : PieceFacts p u N)
    (hal : AlignedTo p.start u) : p.subperiods u = .ok (shiftPieces u p.start N) :=
  subperiods_aligned_eq p u h.wf (hi_succ_le p h.wf h.year) h.divides hal h.reach

theorem calcAdd_input_eq_ok {var : VarSpec} {s : Store} {p : Period} {x : Option Vec × Store} :
    calcAdd var s p = .ok x ↔ ¬ unitWeight var.defUnit > unitWeight p.unit ∧ var.defUnit ≠ .eternity ∧
      p.unit ≠ .eternity ∧ ∃ subs, p.subperiods var.defUnit = .ok subs ∧
        x = if subs.isEmpty then (none, s) else if var.neutralized then (some (vzero var.count), s)
          else (some (sumOver var.count s subs).1, (sumOver var.count s subs).2) := by
  simp only [calcAdd, ite_error_eq_ok, bind_eq_ok]
  refine and_congr_right fun _ => and_congr_right fun _ => and_congr_right fun _ =>
    exists_congr fun subs => and_congr_right fun _ => ?_
  simp only [← apply_ite Except.ok, Except.ok.injEq]
  exact eq_comm

theorem PieceFacts.calcAdd_eq {var : VarSpec} {p : Period} {N : Nat} {subs : List Period}
    (h : PieceFacts p var.defUnit N) (hal : AlignedTo p.start var.defUnit) (hn : var.neutralized = false)
    (s : Store) (hw : walk var.defUnit p = .ok subs) :
    p.subperiods var.defUnit = .ok subs ∧
      calcAdd var s p = .ok (some (sumOver var.count s subs).1, (sumOver var.count s subs).2) := by
  obtain ⟨qs, hw', -, hne, -, -, rfl⟩ := h.walk_tiles
  obtain rfl : _ = subs := Except.ok.inj (hw'.symm.trans hw)
  refine ⟨h.subperiods_eq hal,
    calcAdd_input_eq_ok.2 ⟨h.weight, h.unit_ne, h.punit_ne, _, h.subperiods_eq hal, ?_⟩⟩
  rw [if_neg (by rwa [List.isEmpty_iff]), if_neg (by rw [hn]; exact Bool.false_ne_true)]

/-- first instant after the period (`period.start.offset(period.size, period.unit)`) for every unit but the week, where it
is `start` plus `size` days, unlike `Period.after` -/
def afterDate (p : Period) : Date :=
  match p.unit with
  | .year => addMonths p.start (12 * p.size)
  | .month => addMonths p.start p.size
  | _ => addDays p.start p.size

theorem afterDate_eq (p : Period) (h : p.unit ≠ .week) : afterDate p = shiftDate p.start p.size p.unit := by
  obtain ⟨u, s, n⟩ := p
  cases u
  case week => exact absurd rfl h
  all_goals rfl

/-- the periods for which the walk is claimed to tile: the day / month / year family, with a start that month arithmetic
never clips (day ≤ 28, in particular the 1st) and years within pendulum's range -/
def WalkDomain (p : Period) (defU : DUnit) : Prop :=
  p.start.Valid ∧ 1 ≤ p.size ∧ (afterDate p).y ≤ 9999 ∧
  ((defU = .day ∧ (p.unit = .day ∨ p.unit = .month ∨ p.unit = .year)) ∨
   (defU = .month ∧ (p.unit = .month ∨ p.unit = .year) ∧ p.start.d ≤ 28) ∨
   (defU = .year ∧ p.unit = .year ∧ p.start.d ≤ 28))

instance (p : Period) (defU : DUnit) : Decidable (WalkDomain p defU) := by
  unfold WalkDomain; infer_instance

def pieceCount (p : Period) (defU : DUnit) : Nat :=
  match defU, p.unit with
  | .day, _ => (ord (afterDate p) - ord p.start).toNat
  | .month, .year => (12 * p.size).toNat
  | _, _ => p.size.toNat

def stepDate (defU : DUnit) (c : Date) (i : Nat) : Date :=
  match defU with
  | .month => addMonths c (1 * (i : Int))
  | .year => addMonths c (12 * (i : Int))
  | _ => addDays c (i : Int)

def pieces (p : Period) (defU : DUnit) : List Period :=
  (List.range (pieceCount p defU)).map (fun (i : Nat) => (⟨defU, stepDate defU p.start i, 1⟩ : Period))

theorem stepDate_eq (defU : DUnit) (h : defU ≠ .week) (c : Date) (i : Nat) :
    stepDate defU c i = shiftDate c i defU := by
  cases defU
  case week => exact absurd rfl h
  case month => exact congrArg (addMonths c) (Int.one_mul _)
  all_goals rfl

theorem pieces_eq (p : Period) (defU : DUnit) (h : defU ≠ .week) :
    pieces p defU = shiftPieces defU p.start (pieceCount p defU) := by
  simp only [pieces, shiftPieces, stepDate_eq defU h]

theorem WalkDomain.ne_week {p : Period} {defU : DUnit} (h : WalkDomain p defU) : defU ≠ .week := by
  rcases h.2.2.2 with ⟨rfl, -⟩ | ⟨rfl, -⟩ | ⟨rfl, -⟩ <;> nofun

theorem WalkDomain.facts {p : Period} {defU : DUnit} (h : WalkDomain p defU) :
    PieceFacts p defU (pieceCount p defU) := by
  obtain ⟨u, s, n⟩ := p
  obtain ⟨hv, hs, hay, hcase⟩ := h
  simp only at hv hs hcase
  rcases hcase with ⟨rfl, hpu⟩ | ⟨rfl, hpu, hd⟩ | ⟨rfl, rfl, hd⟩
  · -- days: as many as lie before the instant after the period
    have hne : u ≠ .week ∧ u ≠ .eternity := by rcases hpu with rfl | rfl | rfl <;> exact ⟨nofun, nofun⟩
    rw [afterDate_eq _ hne.1] at hay
    have hlt := ord_shiftDate_lt s hv n hs u
    refine ⟨⟨hne.2, hv, hs⟩, hay, .inl rfl, fun h => h.elim nofun nofun, ?_⟩
    rw [show pieceCount ⟨u, s, n⟩ .day = (ord (afterDate ⟨u, s, n⟩) - ord s).toNat from rfl,
      afterDate_eq _ hne.1]
    exact addDays_diff s (shiftDate s n u) (shiftDate_valid s hv n (by omega) u) (by omega)
  · -- months of a month or year period
    rcases hpu with rfl | rfl
    · exact ⟨⟨nofun, hv, hs⟩, hay, .inr (.inr ⟨rfl, Nat.le_refl _⟩), fun _ => hd,
        congrArg (addMonths s) (by simp only [pieceCount]; omega)⟩
    · exact ⟨⟨nofun, hv, hs⟩, hay, .inr (.inr ⟨rfl, Nat.le_succ 1⟩), fun _ => hd,
        congrArg (addMonths s) (by simp only [pieceCount]; omega)⟩
  · -- years of a year period
    exact ⟨⟨nofun, hv, hs⟩, hay, .inr (.inr ⟨rfl, Nat.le_refl _⟩), fun _ => hd,
      congrArg (addMonths s) (by simp only [pieceCount]; omega)⟩

def Aligned (p : Period) (defU : DUnit) : Prop :=
  (defU = .month → p.start.d = 1) ∧ (defU = .year → p.start.d = 1 ∧ p.start.m = 1)

instance (p : Period) (defU : DUnit) : Decidable (Aligned p defU) := by unfold Aligned; infer_instance

theorem Aligned.alignedTo {p : Period} {defU : DUnit} (h : Aligned p defU) (hd : WalkDomain p defU) :
    AlignedTo p.start defU := by
  have hw := hd.ne_week
  cases defU
  case week => exact absurd rfl hw
  case month => exact h.1 rfl
  case year => exact ⟨(h.2 rfl).2, (h.2 rfl).1⟩
  all_goals trivial

/-- length in days of a period of the week family (or a day range) -/
def spanW (p : Period) : Int := if p.unit = .week then 7 * p.size else p.size

/-- the other claim domain: week and weekday variables, and day variables on week, weekday or day periods; any valid first day -/
def WeekDomain (p : Period) (defU : DUnit) : Prop :=
  p.start.Valid ∧ 1 ≤ p.size ∧ (addDays p.start (spanW p)).y ≤ 9999 ∧
  ((defU = .week ∧ p.unit = .week) ∨
   ((defU = .weekday ∨ defU = .day) ∧ (p.unit = .week ∨ p.unit = .weekday ∨ p.unit = .day)))

instance (p : Period) (defU : DUnit) : Decidable (WeekDomain p defU) := by
  unfold WeekDomain; infer_instance

def pieceCountW (p : Period) (defU : DUnit) : Nat :=
  if defU = .week then p.size.toNat else (spanW p).toNat

def piecesW (p : Period) (defU : DUnit) : List Period :=
  (List.range (pieceCountW p defU)).map (fun (i : Nat) =>
    (⟨defU, addDays p.start ((if defU = .week then 7 else 1) * (i : Int)), 1⟩ : Period))

theorem piecesW_eq (p : Period) (defU : DUnit) (h : defU = .week ∨ defU = .weekday ∨ defU = .day) :
    piecesW p defU = shiftPieces defU p.start (pieceCountW p defU) := by
  rcases h with rfl | rfl | rfl
  · rfl
  · simp only [piecesW, shiftPieces, shiftDate, reduceCtorEq, if_false, Int.one_mul]
  · simp only [piecesW, shiftPieces, shiftDate, reduceCtorEq, if_false, Int.one_mul]

theorem WeekDomain.units {p : Period} {defU : DUnit} (h : WeekDomain p defU) :
    defU = .week ∨ defU = .weekday ∨ defU = .day := by
  rcases h.2.2.2 with ⟨rfl, -⟩ | ⟨rfl | rfl, -⟩ <;> simp only [reduceCtorEq, or_true, or_false]

theorem WeekDomain.facts {p : Period} {defU : DUnit} (h : WeekDomain p defU) :
    PieceFacts p defU (pieceCountW p defU) := by
  obtain ⟨u, s, n⟩ := p
  obtain ⟨hv, hs, hay, hcase⟩ := h
  simp only at hs hcase
  rcases hcase with ⟨rfl, rfl⟩ | ⟨rfl | rfl, hu⟩
  · -- weeks of a week period
    exact ⟨⟨nofun, hv, hs⟩, hay, .inr (.inr ⟨rfl, Nat.le_refl _⟩), fun h => h.elim nofun nofun,
      congrArg (addDays s) (by simp only [pieceCountW, spanW, reduceCtorEq, ↓reduceIte]; omega)⟩
  · -- weekdays of a week, weekday or day period: none of them a year
    rcases hu with rfl | rfl | rfl
    all_goals exact ⟨⟨nofun, hv, hs⟩, hay, .inr (.inl ⟨rfl, nofun⟩), fun h => h.elim nofun nofun,
      congrArg (addDays s) (by simp only [pieceCountW, spanW, reduceCtorEq, ↓reduceIte]; omega)⟩
  · -- days
    rcases hu with rfl | rfl | rfl
    all_goals exact ⟨⟨nofun, hv, hs⟩, hay, .inl rfl, fun h => h.elim nofun nofun,
      congrArg (addDays s) (by simp only [pieceCountW, spanW, reduceCtorEq, ↓reduceIte]; omega)⟩

/-- a week variable's pieces are the ISO weeks only when the period starts on a Monday -/
def AlignedW (p : Period) (defU : DUnit) : Prop := defU = .week → startOfWeek p.start = p.start

instance (p : Period) (defU : DUnit) : Decidable (AlignedW p defU) := by unfold AlignedW; infer_instance

theorem AlignedW.alignedTo {p : Period} {defU : DUnit} (h : AlignedW p defU) (hd : WeekDomain p defU) :
    AlignedTo p.start defU := by
  rcases hd.units with rfl | rfl | rfl
  · -- a date that is the Monday of its own week
    have e := h rfl
    have := weekday0_startOfWeek p.start
    rwa [e] at this
  · trivial
  · trivial

end OFCore
