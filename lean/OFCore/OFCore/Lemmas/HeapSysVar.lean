import OFCore.HeapSys
namespace OFCore.HeapSys

/-- `for start_date in reversed(self.formulas)`: the first one `≤ d` -/
theorem lastLE_eq_find (l : List (Int × Fml)) (d : Int) :
    lastLE l d = (l.reverse.find? (fun p => decide (p.1 ≤ d))).map (·.2) := by
  induction l with
  | nil => rfl
  | cons p r ih =>
    obtain ⟨s, f⟩ := p
    simp only [lastLE, ih, List.reverse_cons, List.find?_append]
    cases r.reverse.find? (fun p => decide (p.1 ≤ d)) with
    | some g => rfl
    | none => by_cases hs : s ≤ d <;> simp [hs]

theorem lastLE_append (l1 l2 : List (Int × Fml)) (d : Int) :
    lastLE (l1 ++ l2) d = match lastLE l2 d with | some g => some g | none => lastLE l1 d := by
  simp only [lastLE_eq_find, List.reverse_append, List.find?_append, Option.map_or]
  cases Option.map (·.2) (l2.reverse.find? fun p => decide (p.1 ≤ d)) <;> rfl

theorem lastLE_none_of_all_gt (l : List (Int × Fml)) (d : Int) (hl : ∀ p ∈ l, d < p.1) : lastLE l d = none := by
  rw [lastLE_eq_find, List.find?_eq_none.mpr, Option.map_none]
  intro p hp
  have := hl p (List.mem_reverse.mp hp)
  simp only [decide_eq_true_eq]; omega

theorem lastLE_isSome_of_mem (l : List (Int × Fml)) (d : Int) {p : Int × Fml} (hp : p ∈ l) (hd : p.1 ≤ d) :
    (lastLE l d).isSome = true := by
  rw [lastLE_eq_find, Option.isSome_map, List.find?_isSome]
  exact ⟨p, List.mem_reverse.mpr hp, decide_eq_true hd⟩

theorem lastLE_map_annual (l : List (Int × Fml)) (d : Int) :
    lastLE (l.map (fun p => (p.1, Fml.annual p.2))) d = (lastLE l d).map Fml.annual := by
  simp only [lastLE_eq_find, ← List.map_reverse, List.find?_map, Option.map_map]
  rfl

theorem lastLE_mem (l : List (Int × Fml)) (d : Int) {f : Fml} (hl : lastLE l d = some f) :
    ∃ s, (s, f) ∈ l ∧ s ≤ d := by
  rw [lastLE_eq_find, Option.map_eq_some_iff] at hl
  obtain ⟨p, hf, rfl⟩ := hl
  have hd := List.find?_some hf
  exact ⟨p.1, List.mem_reverse.mp (List.mem_of_find?_eq_some hf), of_decide_eq_true hd⟩

theorem lastLE_filter (l : List (Int × Fml)) (d : Int) (keep : Int × Fml → Bool)
    (hk : ∀ p ∈ l, keep p = false → d < p.1) : lastLE (l.filter keep) d = lastLE l d := by
  simp only [lastLE_eq_find, ← List.filter_reverse, ← List.head?_filter, List.filter_filter]
  rw [List.filter_congr]
  intro p hp
  cases hkp : keep p with
  | true => exact Bool.and_true _
  | false => rw [Bool.and_false, decide_eq_false (Int.not_le.mpr (hk p (List.mem_reverse.mp hp) hkp))]

theorem getFormula_congr {v b : VarView} {d : Int} (he : v.endDate = b.endDate)
    (hl : lastLE v.formulas d = lastLE b.formulas d) : getFormula v d = getFormula b d := by
  unfold getFormula; rw [he, hl]

theorem insertF_spec (d : Int) (f : Fml) (l : List (Int × Fml)) :
    (∀ p ∈ insertF d f l, p = (d, f) ∨ p ∈ l) ∧ (d, f) ∈ insertF d f l ∧
      ∀ q ∈ l, ∃ g, (q.1, g) ∈ insertF d f l := by
  induction l with
  | nil => exact ⟨fun p hp => Or.inl (List.mem_singleton.mp hp), List.mem_singleton.mpr rfl, fun q hq => by cases hq⟩
  | cons q r ih =>
    obtain ⟨d', f'⟩ := q
    generalize hi : insertF d f ((d', f') :: r) = i
    unfold insertF at hi
    split at hi
    · subst hi
      exact ⟨fun p hp => List.mem_cons.mp hp, List.mem_cons_self .., fun q hq => ⟨q.2, List.mem_cons_of_mem _ hq⟩⟩
    · split at hi
      · rename_i h2
        subst hi
        refine ⟨fun p hp => (List.mem_cons.mp hp).imp_right (List.mem_cons_of_mem _), List.mem_cons_self .., fun q hq => ?_⟩
        rcases List.mem_cons.mp hq with rfl | hq
        · exact ⟨f, h2 ▸ List.mem_cons_self ..⟩
        · exact ⟨q.2, List.mem_cons_of_mem _ hq⟩
      · subst hi
        refine ⟨fun p hp => ?_, List.mem_cons_of_mem _ ih.2.1, fun q hq => ?_⟩
        · rcases List.mem_cons.mp hp with h | h
          · exact Or.inr (h ▸ List.mem_cons_self ..)
          · exact (ih.1 p h).imp_right (List.mem_cons_of_mem _)
        · rcases List.mem_cons.mp hq with rfl | hq
          · exact ⟨f', List.mem_cons_self ..⟩
          · exact (ih.2.2 q hq).imp fun g hg => List.mem_cons_of_mem _ hg

theorem declaredFormulas_spec (e : Option Int) (fs : List (Int × Nat)) (acc decl : List (Int × Fml))
    (hd : declaredFormulas e fs acc = .ok decl) :
    (∀ p ∈ decl, (∃ n, (p.1, n) ∈ fs ∧ p.2 = .base n) ∨ p ∈ acc) ∧
    (∀ q ∈ fs, ∃ g, (q.1, g) ∈ decl) ∧ (∀ q ∈ acc, ∃ g, (q.1, g) ∈ decl) ∧
    (∀ ee, e = some ee → ∀ q ∈ fs, q.1 ≤ ee) := by
  induction fs generalizing acc with
  | nil =>
    simp only [declaredFormulas, Except.ok.injEq] at hd
    subst hd
    exact ⟨fun p hp => Or.inr hp, (fun q hq => by cases hq), fun q hq => ⟨q.2, hq⟩, (fun _ _ q hq => by cases hq)⟩
  | cons x r ih =>
    obtain ⟨d, n⟩ := x
    -- the loop went on: `d` is not after `end`
    have hrec : declaredFormulas e r (insertF d (.base n) acc) = .ok decl ∧ ∀ ee, e = some ee → d ≤ ee := by
      unfold declaredFormulas at hd
      split at hd
      · split at hd
        · cases hd
        · rename_i hlt; exact ⟨hd, fun ee' he' => by cases he'; omega⟩
      · exact ⟨hd, fun ee he => by cases he⟩
    obtain ⟨i1, i2, i3, i4⟩ := ih _ hrec.1
    obtain ⟨j0, j1, j2⟩ := insertF_spec d (.base n) acc
    refine ⟨fun p hp => ?_, fun q hq => ?_, fun q hq => ?_, fun ee he q hq => ?_⟩
    · rcases i1 p hp with ⟨n', hn', hb⟩ | hin
      · exact Or.inl ⟨n', List.mem_cons_of_mem _ hn', hb⟩
      · rcases j0 p hin with rfl | hin
        · exact Or.inl ⟨n, List.mem_cons_self .., rfl⟩
        · exact Or.inr hin
    · rcases List.mem_cons.mp hq with rfl | hq
      · exact i3 _ j1
      · exact i2 q hq
    · obtain ⟨g, hg⟩ := j2 q hq
      exact i3 (q.1, g) hg
    · rcases List.mem_cons.mp hq with rfl | hq
      · exact hrec.2 ee he
      · exact i4 ee he q hq

theorem lastLE_mergeBaseline (decl bf : List (Int × Fml)) (d : Int) :
    lastLE (mergeBaseline decl bf) d = (lastLE decl d).or (lastLE bf d) := by
  cases decl with
  | nil => rfl
  | cons q r =>
    obtain ⟨d0, f0⟩ := q
    show lastLE (bf.filter (fun p => p.1 < d0) ++ (d0, f0) :: r) d = _
    rw [lastLE_append]
    cases hl : lastLE ((d0, f0) :: r) d with
    | some g => rfl
    | none =>
      have h0 : d < d0 := Int.not_le.mp fun hle => by
        have := lastLE_isSome_of_mem ((d0, f0) :: r) d (List.mem_cons_self ..) hle
        rw [hl] at this; cases this
      apply lastLE_filter
      intro p _ hk
      have : ¬ p.1 < d0 := by simpa using hk
      omega

theorem requiredAttr_none {what : String} {d : Option String} {x : String}
    (h : requiredAttr what d none = .ok x) : d = some x := by
  cases d with
  | none => cases h
  | some y => cases h; rfl

theorem requiredAttr_some (what : String) (d : Option String) (x : String) :
    requiredAttr what d (some x) = .ok (d.getD x) := by
  cases d <;> rfl

theorem constructWith_ok_iff {cls : ClassDef} {bid : Option Oid} {b : Option VarObj} {v : VarObj} :
    constructWith cls bid b = .ok v ↔ cls.invalid = false ∧ constructCore cls bid b = .ok v := by
  unfold constructWith
  cases cls.invalid <;> simp

theorem dictGet_map_self {α} (f : String → α) (l : List String) (k : String) (hk : k ∈ l) :
    dictGet k (l.map fun x => (x, f x)) = some (f k) := by
  induction l with
  | nil => cases hk
  | cons a r ih =>
    simp only [List.map_cons, dictGet]
    by_cases ha : a = k
    · rw [if_pos ha, ha]
    · rw [if_neg ha]
      rcases List.mem_cons.mp hk with h | h
      · exact absurd h.symm ha
      · exact ih h

/-- `Variable.__init__(baseline_variable=b)`: each attribute declared by the class, else inherited; the formulas
    (`set_formulas`): those of the baseline before the first declared start date, the declared ones from it on -/
structure FromBaseline (cd : ClassDef) (bid : Oid) (b v : VarObj) : Prop where
  cls : v.cls = cd
  baseline : v.baseline = some bid
  valueType : v.valueType = cd.valueType.getD b.valueType
  default : v.default = cd.default.getD b.default
  entity : v.entity = cd.entity.getD b.entity
  defPeriod : v.defPeriod = cd.defPeriod.getD b.defPeriod
  endDate : v.endDate = declaredEnd cd.endDate b.endDate
  setInput : v.setInput = (match cd.setInput with | some x => some x | none => b.setInput)
  isNeutralized : v.isNeutralized = false
  label : v.label = attrOf "label" v.valueType (dictGet "label" cd.attrs) (some b.label)
  attrs : v.attrs = metaKeys.map fun k => (k, metaAttr k v.valueType (dictGet k cd.attrs) (some (b.attr k)))
  formulas : ∃ decl, declaredFormulas v.endDate cd.formulas [] = .ok decl ∧ v.formulas = mergeBaseline decl b.formulas
  formulas_of_nil : cd.formulas = [] → v.formulas = b.formulas
  lastLE_before : ∀ d, (∀ p ∈ cd.formulas, d < p.1) → lastLE v.formulas d = lastLE b.formulas d
  lastLE_from : ∀ d, (∃ p ∈ cd.formulas, p.1 ≤ d) →
    ∃ n s, lastLE v.formulas d = some (.base n) ∧ (s, n) ∈ cd.formulas ∧ s ≤ d

theorem constructWith_some {cls : ClassDef} {bid : Oid} {b v : VarObj}
    (hc : constructWith cls (some bid) (some b) = .ok v) : FromBaseline cls bid b v := by
  have hc := (constructWith_ok_iff.1 hc).2
  unfold constructCore at hc
  simp only [Option.map_some, requiredAttr_some] at hc
  split at hc
  · cases hc
  · rename_i decl hd
    simp only [Except.ok.injEq] at hc
    subst hc
    obtain ⟨d1, d2, _, _⟩ := declaredFormulas_spec _ _ _ _ hd
    have hdecl : ∀ p ∈ decl, ∃ n, (p.1, n) ∈ cls.formulas ∧ p.2 = .base n := fun p hp => (d1 p hp).resolve_right nofun
    refine ⟨rfl, rfl, rfl, ?_, rfl, rfl, rfl, ?_, rfl, rfl, rfl, ⟨decl, hd, rfl⟩, fun hnil => ?_, fun d hall => ?_, ?_⟩
    · cases cls.default <;> rfl
    · cases cls.setInput <;> rfl
    · rw [hnil] at hd; cases hd; rfl
    · have hnone := lastLE_none_of_all_gt decl d fun p hp => let ⟨n, hn, _⟩ := hdecl p hp; hall _ hn
      exact (lastLE_mergeBaseline decl b.formulas d).trans (by rw [hnone]; rfl)
    · rintro d ⟨p, hp, hpd⟩
      obtain ⟨g, hg⟩ := d2 p hp
      obtain ⟨f, hf⟩ := Option.isSome_iff_exists.mp (lastLE_isSome_of_mem decl d hg hpd)
      obtain ⟨s0, hs0, hs0d⟩ := lastLE_mem decl d hf
      obtain ⟨n, hn, hbn⟩ := hdecl _ hs0
      exact ⟨n, s0, (lastLE_mergeBaseline decl b.formulas d).trans (by rw [hf]; exact congrArg some hbn), hn, hs0d⟩

theorem FromBaseline.attr {cd : ClassDef} {bid : Oid} {b v : VarObj} (fb : FromBaseline cd bid b v) {k : String}
    (hk : k ∈ metaKeys) (hml : k = "max_length" → v.valueType = "str") :
    v.attr k = attrOf k v.valueType (dictGet k cd.attrs) (some (b.attr k)) := by
  unfold VarObj.attr
  rw [fb.attrs, dictGet_map_self _ _ _ hk]
  unfold metaAttr
  by_cases hkm : k = "max_length"
  · rw [if_pos hkm, if_pos (hml hkm)]; rfl
  · rw [if_neg hkm]; rfl

/-- `Variable.__init__()` without a baseline variable: the required attributes are declared, the others declared or
    at their default -/
structure FromClass (cd : ClassDef) (v : VarObj) : Prop where
  cls : v.cls = cd
  baseline : v.baseline = none
  valueType : cd.valueType = some v.valueType
  default : v.default = cd.default.getD (typeDefault v.valueType)
  entity : cd.entity = some v.entity
  defPeriod : cd.defPeriod = some v.defPeriod
  endDate : v.endDate = declaredEnd cd.endDate none
  setInput : v.setInput = cd.setInput
  isNeutralized : v.isNeutralized = false
  label : v.label = attrOf "label" v.valueType (dictGet "label" cd.attrs) none
  attrs : v.attrs = metaKeys.map fun k => (k, metaAttr k v.valueType (dictGet k cd.attrs) none)
  formulas : declaredFormulas v.endDate cd.formulas [] = .ok v.formulas

theorem constructWith_none {cls : ClassDef} {v : VarObj} (hc : constructWith cls none none = .ok v) :
    FromClass cls v := by
  have hc := (constructWith_ok_iff.1 hc).2
  unfold constructCore at hc
  simp only [Option.map_none] at hc
  split at hc
  · cases hc
  rename_i vt hvt
  split at hc
  · cases hc
  rename_i ent hent
  split at hc
  · cases hc
  rename_i dp hdp
  split at hc
  · cases hc
  rename_i decl hd
  simp only [Except.ok.injEq] at hc
  subst hc
  exact ⟨rfl, rfl, requiredAttr_none hvt, by cases cls.default <;> rfl, requiredAttr_none hent,
    requiredAttr_none hdp, rfl, by cases cls.setInput <;> rfl, rfl, rfl, rfl, hd⟩

theorem construct_fields {h : Heap} {cls : ClassDef} {bid : Option Oid} {v : VarObj}
    (hc : construct h cls bid = .ok v) : v.cls = cls ∧ v.baseline = bid ∧ cls.invalid = false := by
  unfold construct at hc
  cases bid with
  | none =>
    dsimp only at hc
    exact ⟨(constructWith_none hc).cls, (constructWith_none hc).baseline, (constructWith_ok_iff.1 hc).1⟩
  | some i =>
    dsimp only at hc
    cases hb : h.getVar i with
    | none => rw [hb] at hc; cases hc
    | some b =>
      rw [hb] at hc
      exact ⟨(constructWith_some hc).cls, (constructWith_some hc).baseline, (constructWith_ok_iff.1 hc).1⟩

theorem constructWith_view_congr {cls : ClassDef} {i i' : Oid} {bo bo' c : VarObj}
    (hv : bo'.view = bo.view) (hc : constructWith cls (some i) (some bo) = .ok c) :
    constructWith cls (some i') (some bo') = .ok { c with baseline := some i' } := by
  have e1 : bo'.valueType = bo.valueType := congrArg VarView.valueType hv
  have e2 : bo'.default = bo.default := congrArg VarView.default hv
  have e3 : bo'.entity = bo.entity := congrArg VarView.entity hv
  have e4 : bo'.defPeriod = bo.defPeriod := congrArg VarView.defPeriod hv
  have e5 : bo'.endDate = bo.endDate := congrArg VarView.endDate hv
  have e6 : bo'.setInput = bo.setInput := congrArg VarView.setInput hv
  have e7 : bo'.formulas = bo.formulas := congrArg VarView.formulas hv
  have e8 : bo'.label = bo.label := congrArg VarView.label hv
  have e9 : bo'.attrs = bo.attrs := congrArg VarView.attrs hv
  obtain ⟨hi, hc⟩ := constructWith_ok_iff.1 hc
  refine constructWith_ok_iff.2 ⟨hi, ?_⟩
  unfold constructCore at hc ⊢
  simp only [Option.map_some, requiredAttr_some, VarObj.attr, e1, e2, e3, e4, e5, e6, e7, e8, e9] at hc ⊢
  split at hc
  · cases hc
  · rename_i decl hd
    simp only [Except.ok.injEq] at hc ⊢
    subst hc
    rfl

end OFCore.HeapSys
