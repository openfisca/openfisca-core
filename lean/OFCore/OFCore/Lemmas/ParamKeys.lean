import OFCore.Param
import OFCore.Lemmas.Calendar
/-!
Keys spelled `YYYY`, `YYYY-MM`, `YYYY-MM-DD` (C06): the ticks of the model order like the key texts (`fine_lt_of_lex`).
-/
namespace OFCore.Param

variable {V : Type}

theorem fine_eq (o : Int) (sp : Spell) : fine o sp = 3 * o + fine 0 sp ∧ -2 ≤ fine 0 sp ∧ fine 0 sp ≤ 0 := by
  cases sp <;> simp only [fine] <;> omega

theorem fine_le_iff (o q : Int) (sp : Spell) : fine o sp ≤ 3 * q ↔ o ≤ q := by
  have := fine_eq o sp; omega

theorem fine_lt_iff (o o' : Int) (sp sp' : Spell) :
    fine o sp < fine o' sp' ↔ o < o' ∨ (o = o' ∧ fine 0 sp < fine 0 sp') := by
  have := fine_eq o sp; have := fine_eq o' sp'; omega

theorem fine_inj (o o' : Int) (sp sp' : Spell) (h : fine o sp = fine o' sp') : o = o' ∧ sp = sp' := by
  have := fine_eq o sp; have := fine_eq o' sp'
  have h0 : fine 0 sp = fine 0 sp' := by omega
  -- the spelling is read off the offset
  have key : ∀ sp : Spell, sp = if fine 0 sp = 0 then .day else if fine 0 sp = -1 then .month else .year := by
    intro sp; cases sp <;> rfl
  exact ⟨by omega, by rw [key sp, key sp', h0]⟩

/-- a spelled key as the triple the TEXT order compares: zero-padded `YYYY[-MM[-DD]]`, a missing component
    counting as 0 (a text that is a proper prefix of another one is smaller) -/
structure SKey where
  y : Int
  m : Int
  d : Int

def SKey.WF (k : SKey) : Prop :=
  1 ≤ k.y ∧ ((k.m = 0 ∧ k.d = 0) ∨ (1 ≤ k.m ∧ k.m ≤ 12 ∧ (k.d = 0 ∨ (1 ≤ k.d ∧ k.d ≤ dim k.y k.m))))

def SKey.spell (k : SKey) : Spell := if k.m = 0 then .year else if k.d = 0 then .month else .day

/-- the first day the key denotes -/
def SKey.first (k : SKey) : Date := ⟨k.y, if k.m = 0 then 1 else k.m, if k.d = 0 then 1 else k.d⟩

def SKey.tick (k : SKey) : Int := fine (ord k.first) k.spell

def SKey.lt (a b : SKey) : Prop := a.y < b.y ∨ (a.y = b.y ∧ (a.m < b.m ∨ (a.m = b.m ∧ a.d < b.d)))

instance (k : SKey) : Decidable k.WF := by unfold SKey.WF; infer_instance
instance (a b : SKey) : Decidable (a.lt b) := by unfold SKey.lt; infer_instance

theorem SKey.WF.nonneg {k : SKey} (h : k.WF) : 0 ≤ k.m ∧ 0 ≤ k.d ∧ (k.m = 0 → k.d = 0) := by
  rcases h.2 with ⟨hm, hd⟩ | ⟨hm, _, hd | ⟨hd, _⟩⟩ <;> omega

theorem SKey.first_valid (k : SKey) (h : k.WF) : k.first.Valid := by
  obtain ⟨hy, hmd⟩ := h
  have h28 : 28 ≤ dim k.y k.m := by unfold dim; split <;> (try split) <;> omega
  rcases hmd with ⟨hm, hd⟩ | ⟨hm1, hm2, hd | ⟨hd1, hd2⟩⟩
  · simp only [SKey.first, Date.Valid, hm, hd, if_true, show dim k.y 1 = 31 from rfl]; omega
  · simp only [SKey.first, Date.Valid, hd, if_true, if_neg (show ¬ k.m = 0 by omega)]; omega
  · simp only [SKey.first, Date.Valid, if_neg (show ¬ k.m = 0 by omega), if_neg (show ¬ k.d = 0 by omega)]; omega

/-- a missing component reads as 1 in the first day: the order of a component is kept, except that a missing
    one and 1 meet -/
theorem pad_lt {x x' : Int} (h0 : 0 ≤ x) (h : x < x') :
    (if x = 0 then 1 else x) < (if x' = 0 then 1 else x') ∨
    (x = 0 ∧ x' = 1 ∧ (if x = 0 then 1 else x) = (if x' = 0 then 1 else x')) := by
  rw [if_neg (show x' ≠ 0 by omega)]
  by_cases hx : x = 0
  · rw [if_pos hx]; omega
  · rw [if_neg hx]; exact Or.inl h

/-- The ticks of the model order like the key texts of the code (`values_list` is sorted by text, and
    `update` / `_get_at_instant` compare texts): `"2014-12-31" < "2015" < "2015-01" < "2015-01-01"`. -/
theorem fine_lt_of_lex (a b : SKey) (ha : a.WF) (hb : b.WF) (h : a.lt b) : a.tick < b.tick := by
  have va := a.first_valid ha
  have vb := b.first_valid hb
  obtain ⟨am0, ad0, amd⟩ := ha.nonneg
  obtain ⟨_, _, bmd⟩ := hb.nonneg
  -- either the first days are in lexicographic order (`lex`), or they are equal and the spelling of `a` is
  -- shorter (`same`)
  have lex := fun hl => (fine_lt_iff _ _ a.spell b.spell).mpr (Or.inl (ord_lt_of_lex a.first b.first va vb hl))
  have same : a.y = b.y → (if a.m = 0 then 1 else a.m) = (if b.m = 0 then 1 else b.m) →
      (if a.d = 0 then 1 else a.d) = (if b.d = 0 then 1 else b.d) → fine 0 a.spell < fine 0 b.spell →
      a.tick < b.tick := fun hy hm hd hsp =>
    (fine_lt_iff _ _ _ _).mpr (Or.inr ⟨congrArg ord (by simp only [SKey.first, hy, hm, hd]), hsp⟩)
  clear ha hb va vb
  rcases h with hy | ⟨hy, hm | ⟨hm, hd⟩⟩
  · exact lex (Or.inl hy)
  · rcases pad_lt am0 hm with hM | ⟨am, bm, hM⟩
    · exact lex (Or.inr ⟨hy, Or.inl hM⟩)
    · -- `a` is the year, `b` a month or a day of its January
      have ad : a.d = 0 := amd am
      by_cases bd : b.d = 0
      · exact same hy hM (by rw [ad, bd]) (by simp [SKey.spell, am, bm, bd, fine])
      · rcases pad_lt (Int.le_of_eq ad.symm) (show a.d < b.d by omega) with hD | ⟨_, _, hD⟩
        · exact lex (Or.inr ⟨hy, Or.inr ⟨hM, hD⟩⟩)
        · exact same hy hM hD (by simp [SKey.spell, am, bm, bd, fine])
  · have am : a.m ≠ 0 := fun c => by have := amd c; have := bmd (hm ▸ c); omega
    rcases pad_lt ad0 hd with hD | ⟨ad, bd, hD⟩
    · exact lex (Or.inr ⟨hy, Or.inr ⟨by simp only [SKey.first, hm], hD⟩⟩)
    · exact same hy (by rw [hm]) hD (by simp [SKey.spell, am, ← hm, ad, bd, fine])

end OFCore.Param
