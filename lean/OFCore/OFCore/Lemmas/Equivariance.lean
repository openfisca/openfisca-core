import OFCore.Equivariance
import OFCore.Lemmas.Simulation
import OFCore.Lemmas.RuleSysOps
import OFCore.Lemmas.Selection
import OFCore.Lemmas.ElabRead
import OFCore.Lemmas.RuleSys
/-!
`restrict d sel gsel`, the part of a declaration simulated alone, is simulated by the whole: the sort
is the entity, `TD` reads a vector at the kept indices, `ID` fixes its length (`sim_restrict`,
`den_restrict`).  Each shape of operation commutes with a closed selection (`map_sim`, `f2_sim`,
`f1_sim_*`).
-/
namespace OFCore.Equivariance
open OFCore OFCore.Engine OFCore.RuleSys

variable {d : Decl} {sel gsel : List Nat} {armed : List Nat}

theorem Closed.sel_lt (h : Closed d sel gsel) : ∀ i ∈ sel, i < d.nP := h.1
theorem Closed.gsel_lt (h : Closed d sel gsel) : ∀ g ∈ gsel, g < d.nG := h.2.1
theorem Closed.sel_nodup (h : Closed d sel gsel) : sel.Nodup := h.2.2.1
theorem Closed.gsel_nodup (h : Closed d sel gsel) : gsel.Nodup := h.2.2.2.1
theorem Closed.mem_iff (h : Closed d sel gsel) {i : Nat} (hi : i < d.nP) :
    i ∈ sel ↔ d.mem.getD i 0 ∈ gsel := h.2.2.2.2 i hi

theorem Closed.group_mem (h : Closed d sel gsel) {i : Nat} (hi : i ∈ sel) : d.mem.getD i 0 ∈ gsel :=
  (h.mem_iff (h.sel_lt i hi)).1 hi

theorem WF.mem_length (h : WF d) : d.mem.length = d.nP := h.1
theorem WF.mem_lt (h : WF d) : ∀ g ∈ d.mem, g < d.nG := h.2.1
theorem WF.formulas_wt (h : WF d) : ∀ vv ∈ d.vars, ∀ f ∈ vv.formulas, WT vv.entity f.2 = true := h.2.2.1
theorem WF.inputs_size (h : WF d) :
    ∀ i ∈ d.inputs, ∀ vv ∈ d.vars[i.1]?, i.2.2.length = d.size vv.entity := h.2.2.2

theorem WF.group_lt (hwf : WF d) {i : Nat} (hi : i < d.nP) : d.mem.getD i 0 < d.nG :=
  hwf.mem_lt _ (List.getD_mem_of_lt d.mem 0 (hwf.mem_length ▸ hi))

theorem restrict_mem_length (d : Decl) (sel gsel : List Nat) :
    (restrict d sel gsel).mem.length = sel.length := List.length_map _

theorem restrict_mem_getD {k : Nat} (hk : k < sel.length) :
    (restrict d sel gsel).mem.getD k 0 = posIn gsel (d.mem.getD (sel.getD k 0) 0) :=
  List.getD_map_of_lt _ sel 0 0 hk

theorem restrict_roles_getD {k : Nat} (hk : k < sel.length) :
    (restrict d sel gsel).roles.getD k 0 = d.roles.getD (sel.getD k 0) 0 :=
  List.getD_map_of_lt _ sel 0 0 hk

theorem size_restrict (d : Decl) (sel gsel : List Nat) (ent : Nat) :
    (restrict d sel gsel).size ent = (idxFor sel gsel ent).length := by
  unfold Decl.size idxFor restrict; split <;> rfl

theorem idxFor_lt (hcl : Closed d sel gsel) (ent : Nat) :
    ∀ i ∈ idxFor sel gsel ent, i < d.size ent := by
  unfold idxFor Decl.size
  split
  · exact hcl.sel_lt
  · exact hcl.gsel_lt

theorem holderVals_perm (hm : d.mem.length = d.nP) (hcl : Closed d sel gsel)
    (r : Nat) (x : Val) (j : Nat) (hj : j < gsel.length) :
    (holderVals (restrict d sel gsel) r (reindex sel x) j).Perm (holderVals d r x (gsel.getD j 0)) := by
  unfold holderVals
  rw [restrict_mem_length, hm, positions_to_elements sel
      (fun i => decide (posIn gsel (d.mem.getD i 0) = j ∧ roleMatch r (d.roles.getD i 0) = true))
      (fun i => x.getD i 0)]
  · refine (filter_perm_of_iff hcl.sel_nodup List.nodup_range fun i => ?_).map _
    simp only [decide_eq_true_eq, List.mem_range]
    exact kept_group_iff hcl.sel_lt hcl.gsel_nodup (fun _ => hcl.mem_iff) hj i _
  · intro k hk
    rw [restrict_mem_getD hk, restrict_roles_getD hk]
  · intro k hk
    exact List.getD_map_of_lt _ sel 0 0 hk

theorem roleSum_restrict (hm : d.mem.length = d.nP) (hcl : Closed d sel gsel)
    (r : Nat) (x : Val) (j : Nat) (hj : j < gsel.length) :
    roleSum (restrict d sel gsel) r (reindex sel x) j = roleSum d r x (gsel.getD j 0) := by
  rw [roleSum_eq, roleSum_eq, Grp.perm_sum_int (holderVals_perm hm hcl r x j hj)]

/-- sort of a variable: its entity (`none` for an unknown variable) -/
def srtD (d : Decl) (v : Nat) : Option Nat := (d.vars[v]?).map (·.entity)

/-- the transformation: a vector of entity `ent` is read at the kept indices of that entity -/
def TD (sel gsel : List Nat) : Option Nat → Val → Val
  | none, x => x
  | some ent, x => reindex (idxFor sel gsel ent) x

/-- the invariant: a vector of entity `ent` has the size of that entity -/
def ID (d : Decl) : Option Nat → Val → Prop
  | none, _ => True
  | some ent, x => x.length = d.size ent

theorem selVar_eq (d : Decl) (sel gsel : List Nat) (v : Nat) :
    selVar d sel gsel v = TD sel gsel (srtD d v) := by
  funext x; unfold selVar srtD; cases d.vars[v]? <;> rfl

theorem replicate_size_restrict (hcl : Closed d sel gsel) (ent : Nat)
    (k : Int) : List.replicate ((restrict d sel gsel).size ent) k
      = TD sel gsel (some ent) (List.replicate (d.size ent) k) := by
  rw [size_restrict]
  exact (reindex_replicate _ _ _ (idxFor_lt hcl ent)).symm

theorem map_sim (hcl : Closed d sel gsel) (g : Int → Int) (ent : Nat) (x : Val) (hx : ID d (some ent) x) :
    ID d (some ent) (x.map g) ∧ (TD sel gsel (some ent) x).map g = TD sel gsel (some ent) (x.map g) :=
  ⟨(List.length_map g).trans hx, map_reindex g (idxFor_lt hcl ent) hx⟩

theorem f2_sim (hcl : Closed d sel gsel) (o : Nat) (ent : Nat) (x y : Val)
    (hx : ID d (some ent) x) (hy : ID d (some ent) y) :
    ID d (some ent) (f2 o x y) ∧
    f2 o (TD sel gsel (some ent) x) (TD sel gsel (some ent) y) = TD sel gsel (some ent) (f2 o x y) := by
  simp only [ID, TD] at hx hy ⊢
  rcases f2_shape o with ⟨g, hg⟩ | hg
  · simp only [hg]
    exact ⟨by simp [hx, hy], zipWith_reindex g (idxFor_lt hcl ent) hx hy⟩
  · rw [hg x y, hg]; exact ⟨hx, rfl⟩

theorem f1_sim_pointwise (hcl : Closed d sel gsel) (o : Nat) (hS : ¬(o = 1 ∨ isRoleOp o = true))
    (hP : ¬(o = 2 ∨ isProjOp o = true)) (ent : Nat) (x : Val) (hx : ID d (some ent) x) :
    ID d (some ent) (f1 d o x) ∧
    f1 (restrict d sel gsel) o (TD sel gsel (some ent) x) = TD sel gsel (some ent) (f1 d o x) := by
  obtain ⟨g, hg⟩ := f1_shape o hS hP
  rw [hg d, hg (restrict d sel gsel)]
  exact map_sim hcl g ent x hx

theorem castTo_sim (hcl : Closed d sel gsel) (t : VType) (ent : Nat) (x : Val) (hx : ID d (some ent) x) :
    ID d (some ent) (castTo t x) ∧
    castTo t (TD sel gsel (some ent) x) = TD sel gsel (some ent) (castTo t x) := by
  obtain ⟨g, hg⟩ := castTo_shape t
  rw [hg, hg]
  exact map_sim hcl g ent x hx

/-- each role operation is computed group by group from the holders' values, which are the same in
    the part up to order -/
theorem f1_sim_role (hm : d.mem.length = d.nP) (hcl : Closed d sel gsel)
    (o : Nat) (hr : isRoleOp o = true) (ent : Nat) (hent : ent ≠ 0) (x : Val) :
    ID d (some ent) (f1 d o x) ∧
    f1 (restrict d sel gsel) o (TD sel gsel (some 0) x) = TD sel gsel (some ent) (f1 d o x) := by
  simp only [ID, TD, idxFor, Decl.size, if_neg hent, if_true]
  have groupwise : ∀ F F' : Nat → Int, (∀ j, j < gsel.length → F' j = F (gsel.getD j 0)) →
      ((List.range d.nG).map F).length = d.nG ∧
      (List.range (restrict d sel gsel).nG).map F' = reindex gsel ((List.range d.nG).map F) :=
    fun F F' h => ⟨by simp, range_map_eq_selArr gsel d.nG F F' 0 h hcl.gsel_lt⟩
  have hsum := roleSum_restrict hm hcl
  have hvals := holderVals_perm hm hcl
  obtain ⟨r, hr9, rfl | rfl | rfl | rfl | rfl | rfl | rfl⟩ := roleOp_cases hr
  · rw [f1_sum d r hr9, f1_sum _ r hr9]
    exact groupwise _ _ (hsum r x)
  · rw [f1_from d r hr9, f1_from _ r hr9]
    exact groupwise _ _ (hsum r x)
  · rw [f1_count d r hr9, f1_count _ r hr9,
      show List.replicate (restrict d sel gsel).mem.length (1 : Int)
          = reindex sel (List.replicate d.mem.length 1) by
        rw [reindex_replicate sel d.mem.length 1 (hm ▸ hcl.sel_lt), restrict_mem_length]]
    exact groupwise _ _ (hsum r _)
  · rw [f1_any d r hr9, f1_any _ r hr9]
    exact groupwise _ _ fun j hj => by rw [hsum r x j hj]
  · rw [f1_max d r hr9, f1_max _ r hr9]
    exact groupwise _ _ fun j hj => listMax_perm (hvals r x j hj)
  · rw [f1_min d r hr9, f1_min _ r hr9]
    exact groupwise _ _ fun j hj => listMin_perm (hvals r x j hj)
  · rw [f1_all d r hr9, f1_all _ r hr9]
    exact groupwise _ _ fun j hj => listAll_perm (hvals r x j hj)

theorem f1_sim_rproj (hm : d.mem.length = d.nP) (hcl : Closed d sel gsel)
    (o : Nat) (hp : isProjOp o = true) (x : Val) :
    ID d (some 0) (f1 d o x) ∧
    f1 (restrict d sel gsel) o (TD sel gsel (some 1) x) = TD sel gsel (some 0) (f1 d o x) := by
  simp only [ID, TD, idxFor, Decl.size, if_neg Nat.one_ne_zero, if_true]
  obtain ⟨r, hr9, rfl⟩ := projOp_cases hp
  rw [f1_rproj d r hr9, f1_rproj _ r hr9, restrict_mem_length]
  refine ⟨by simp [hm], range_map_eq_selArr sel d.mem.length _ _ 0 (fun k hk => ?_) (hm ▸ hcl.sel_lt)⟩
  rw [restrict_mem_getD hk, restrict_roles_getD hk,
    reindex_getD_posIn gsel x _ (hcl.group_mem (List.getD_mem_of_lt sel 0 hk))]

theorem f1_sim_sum (hm : d.mem.length = d.nP) (hcl : Closed d sel gsel)
    (ent : Nat) (hent : ent ≠ 0) (x : Val) (hx : ID d (some 0) x) :
    ID d (some ent) (f1 d 1 x) ∧
    f1 (restrict d sel gsel) 1 (TD sel gsel (some 0) x) = TD sel gsel (some ent) (f1 d 1 x) := by
  rw [f1_one_eq d x (Eq.trans hx hm.symm), f1_one_eq (restrict d sel gsel) (TD sel gsel (some 0) x)
    ((reindex_length sel x).trans (restrict_mem_length d sel gsel).symm)]
  exact f1_sim_role hm hcl 19 rfl ent hent x

theorem f1_sim_proj (hm : d.mem.length = d.nP) (hcl : Closed d sel gsel) (x : Val) :
    ID d (some 0) (f1 d 2 x) ∧
    f1 (restrict d sel gsel) 2 (TD sel gsel (some 1) x) = TD sel gsel (some 0) (f1 d 2 x) := by
  rw [f1_two_eq, f1_two_eq]
  exact f1_sim_rproj hm hcl 89 rfl x

abbrev RelD (d : Decl) (sel gsel : List Nat) (armed : List Nat) :=
  ERel (elabSys d armed) (elabSys (restrict d sel gsel) armed) (srtD d) (TD sel gsel) (ID d)

theorem elabRead_restrict (d : Decl) (sel gsel : List Nat) (w : Nat) (q : Except String Period) (add : Bool) :
    elabRead (restrict d sel gsel) w q add = elabRead d w q add := rfl

theorem elabRead_rel (hcl : Closed d sel gsel) (w : Nat) (wv : Var) (hw : d.vars[w]? = some wv)
    (q : Except String Period) (add : Bool) :
    RelD d sel gsel armed (some wv.entity) (elabRead d w q add) (elabRead d w q add) :=
  elabRead_ind (C := fun e => RelD d sel gsel armed (some wv.entity) e e) d w q add (.bad _)
    (fun p => .ref _ w p (by rw [srtD, hw]; rfl))
    (fun _ _ ha hb => .op2 _ 0 _ _ _ _ ha hb (f2_sim hcl 0 _))

theorem elabExpr_rel (hm : d.mem.length = d.nP) (hcl : Closed d sel gsel) (p : Period) :
    ∀ (e : DExpr) (ent : Nat), WT ent e = true →
      RelD d sel gsel armed (some ent) (elabExpr d ent p e) (elabExpr (restrict d sel gsel) ent p e) := by
  intro e
  induction e with
  | const k =>
    intro ent _
    simp only [elabExpr]
    exact .const _ _ _ List.length_replicate (replicate_size_restrict hcl ent k)
  | var w pt add =>
    intro ent _
    simp only [elabExpr, elabRead_restrict]
    have hv : (restrict d sel gsel).vars = d.vars := rfl
    rw [hv]
    cases hw : d.vars[w]? with
    | none => exact .bad _
    | some wv =>
      simp only
      by_cases he : wv.entity = ent
      · subst he
        rw [if_pos rfl]
        exact elabRead_rel hcl w wv hw (applyPT p pt) add
      · rw [if_neg he]
        exact .bad _
  | op1 o a ih =>
    intro ent hwt
    simp only [elabExpr]
    simp only [WT] at hwt
    by_cases hS : o = 1 ∨ isRoleOp o = true
    · rw [if_pos hS] at hwt ⊢
      simp only [Bool.and_eq_true, bne_iff_ne, ne_eq] at hwt
      refine .op1 _ (some 0) o _ _ (ih 0 hwt.2) ?_
      rcases hS with rfl | hr
      · exact f1_sim_sum hm hcl ent hwt.1
      · exact fun x _ => f1_sim_role hm hcl o hr ent hwt.1 x
    · rw [if_neg hS] at hwt ⊢
      by_cases hP : o = 2 ∨ isProjOp o = true
      · rw [if_pos hP] at hwt ⊢
        simp only [Bool.and_eq_true, beq_iff_eq] at hwt
        obtain ⟨rfl, hwa⟩ := hwt
        refine .op1 _ (some 1) o _ _ (ih 1 hwa) ?_
        rcases hP with rfl | hp
        · exact fun x _ => f1_sim_proj hm hcl x
        · exact fun x _ => f1_sim_rproj hm hcl o hp x
      · rw [if_neg hP] at hwt ⊢
        exact .op1 _ (some ent) o _ _ (ih ent hwt) (f1_sim_pointwise hcl o hS hP _)
  | op2 o a b iha ihb =>
    intro ent hwt
    simp only [WT, Bool.and_eq_true] at hwt
    simp only [elabExpr]
    exact .op2 _ o _ _ _ _ (iha ent hwt.1) (ihb ent hwt.2) (fun x y hx hy => f2_sim hcl o _ x y hx hy)
  | fail id a ih =>
    intro ent hwt
    simp only [WT] at hwt
    simp only [elabExpr]
    exact .fail _ id _ _ (ih ent hwt)

theorem find_map_aux (g : Nat → Val → Val) (K : Period → Period) (v : Nat) (p : Period)
    (l : List (Nat × Period × Val)) :
    ((l.map (fun i => (i.1, i.2.1, g i.1 i.2.2))).find? (fun i => decide (i.1 = v ∧ K i.2.1 = K p))).map (·.2.2)
      = ((l.find? (fun i => decide (i.1 = v ∧ K i.2.1 = K p))).map (·.2.2)).map (g v) := by
  rw [List.find?_map, Option.map_map, Option.map_map]
  -- the search does not look at the value, and what it finds is an entry of `v`
  show Option.map _ (l.find? (fun i => decide (i.1 = v ∧ K i.2.1 = K p))) = _
  cases h : l.find? (fun i => decide (i.1 = v ∧ K i.2.1 = K p)) with
  | none => rfl
  | some i =>
    have hi : i.1 = v ∧ K i.2.1 = K p := of_decide_eq_true (List.find?_some h :)
    simp only [Option.map_some, Function.comp, hi.1]

theorem storageKey_restrict (d : Decl) (sel gsel : List Nat) (v : Nat) (p : Period) :
    storageKey (restrict d sel gsel) v p = storageKey d v p := rfl

theorem inputLookup_restrict (d : Decl) (sel gsel : List Nat) (v : Nat) (p : Period) :
    inputLookup (restrict d sel gsel) v p = (inputLookup d v p).map (TD sel gsel (srtD d v)) := by
  rw [← selVar_eq]
  exact find_map_aux (selVar d sel gsel) (storageKey d v) v p d.inputs

theorem inputLookup_len (hwf : WF d) (v : Nat) (vv : Var) (hv : d.vars[v]? = some vv) (p : Period) (x : Val)
    (h : inputLookup d v p = some x) : x.length = d.size vv.entity := by
  unfold inputLookup at h
  rw [Option.map_eq_some_iff] at h
  obtain ⟨i, hi, rfl⟩ := h
  have h1 := List.find?_some hi
  simp only [decide_eq_true_eq] at h1
  have hmem := List.mem_of_find?_eq_some hi
  exact hwf.inputs_size i hmem vv (by rw [h1.1]; exact hv)

theorem sim_restrict (hwf : WF d) (hcl : Closed d sel gsel) :
    Sim (elabSys d armed) (elabSys (restrict d sel gsel) armed) (srtD d) (TD sel gsel) (ID d) := by
  refine ⟨fun v => ?_, fun _ => rfl⟩
  cases hvv : d.vars[v]? with
  | none =>
    obtain ⟨hi, hf, hd, hp⟩ := elabSys_unknown (armed := armed) hvv
    obtain ⟨hi', hf', hd', hp'⟩ := elabSys_unknown (d := restrict d sel gsel) (armed := armed) hvv
    have hs : srtD d v = none := by rw [srtD, hvv]; rfl
    constructor
    · intro p; rw [hi, hi']; exact ⟨rfl, fun _ h => nomatch h⟩
    · intro p; rw [hf, hf']; exact .none
    · rw [hs, hd, hd', hp, hp']; exact ⟨trivial, rfl⟩
    · intro x _; rw [hs, hp, hp']; exact ⟨trivial, rfl⟩
  | some vv =>
    obtain ⟨hi, hf, hd, hp⟩ := elabSys_declared (armed := armed) hvv
    obtain ⟨hi', hf', hd', hp'⟩ := elabSys_declared (d := restrict d sel gsel) (armed := armed) hvv
    have hs : srtD d v = some vv.entity := by rw [srtD, hvv]; rfl
    have hrep := replicate_size_restrict hcl vv.entity
    constructor
    · intro p
      have hlI := inputLookup_len hwf v vv hvv p
      rw [hi, hi']
      simp only [inputLookup_restrict, hs, hrep]
      cases vv.neutralized
      · cases vv.endOrd with
        | none => exact ⟨rfl, hlI⟩
        | some en =>
          by_cases hc : p.unit ≠ DUnit.eternity ∧ ord p.start > en
          · simp only [Bool.false_eq_true, if_false, if_pos hc]
            exact ⟨rfl, fun x h => nomatch h⟩
          · simp only [Bool.false_eq_true, if_false, if_neg hc, true_and]
            exact hlI
      · exact ⟨rfl, fun x h => by cases h; exact List.length_replicate⟩
    · intro p
      simp only [hf, hf', hs]
      cases hde : formulaInForce vv (startOrdOf p) with
      | none => exact .none
      | some de =>
        obtain ⟨s, hs⟩ := formulaInForce_mem vv (startOrdOf p) de hde
        exact .some (elabExpr_rel hwf.mem_length hcl p de vv.entity
          (hwf.formulas_wt vv (List.mem_of_getElem? hvv) (s, de) hs))
    · rw [hs, hd, hd', hp, hp', hrep]
      exact castTo_sim hcl _ _ _ List.length_replicate
    · rw [hs, hp, hp']
      exact castTo_sim hcl _ _

theorem den_restrict (hwf : WF d) (hcl : Closed d sel gsel) (n v : Nat) (p : Period) :
    den (elabSys (restrict d sel gsel) armed) n v p
      = (den (elabSys d armed) n v p).map (mapRes (selVar d sel gsel v)) := by
  rw [(den_sim (sim_restrict (armed := armed) hwf hcl) n v p).eq, selVar_eq]

/-- the invariant of the simulation, read on the empty part -/
theorem den_size (hwf : WF d) {n v : Nat} {p : Period} {x : Val}
    (h : den (elabSys d armed) n v p = some (.ok x)) : ID d (srtD d v) x :=
  (den_sim (sim_restrict (armed := armed) (sel := []) (gsel := []) hwf
    ⟨nofun, nofun, .nil, .nil, fun _ _ => ⟨nofun, nofun⟩⟩) n v p).inv x h

theorem slotCoherent_restrict (hwf : WF d) (hcl : Closed d sel gsel) (hk : SlotCoherent (elabSys d armed)) :
    SlotCoherent (elabSys (restrict d sel gsel) armed) := by
  intro v p p' h n
  have h' : (elabSys d armed).ckey v p = (elabSys d armed).ckey v p' := h
  rw [den_restrict hwf hcl, den_restrict hwf hcl, hk v p p' h' n]

theorem closed_of_isPerm (hwf : WF d) (hp : IsPerm d sel gsel) : Closed d sel gsel := by
  obtain ⟨h1, h2⟩ := hp
  refine ⟨?_, ?_, ?_, ?_, ?_⟩
  · intro i hi; exact List.mem_range.1 ((h1.mem_iff).1 hi)
  · intro g hg; exact List.mem_range.1 ((h2.mem_iff).1 hg)
  · exact (h1.nodup_iff).2 List.nodup_range
  · exact (h2.nodup_iff).2 List.nodup_range
  · intro i hi
    exact ⟨fun _ => (h2.mem_iff).2 (List.mem_range.2 (hwf.group_lt hi)),
      fun _ => (h1.mem_iff).2 (List.mem_range.2 hi)⟩

theorem selVar_perm (hp : IsPerm d sel gsel) {v : Nat} {x : Val} (hx : ID d (srtD d v) x) :
    (selVar d sel gsel v x).Perm x := by
  rw [selVar_eq]
  cases hs : srtD d v with
  | none => exact .refl _
  | some ent =>
    rw [hs] at hx
    refine reindex_perm _ x ?_
    rw [show x.length = d.size ent from hx]
    unfold idxFor Decl.size
    split
    · exact hp.1
    · exact hp.2

theorem mem_complement (n : Nat) (l : List Nat) (i : Nat) : i ∈ complement n l ↔ i < n ∧ i ∉ l := by
  simp [complement]

theorem complement_increasing (n : Nat) (l : List Nat) : Increasing (complement n l) :=
  List.Pairwise.sublist List.filter_sublist List.pairwise_lt_range

theorem complement_closed (hwf : WF d) (hcl : Closed d sel gsel) :
    Closed d (complement d.nP sel) (complement d.nG gsel) := by
  refine ⟨?_, ?_, ?_, ?_, ?_⟩
  · intro i hi; exact ((mem_complement _ _ _).1 hi).1
  · intro g hg; exact ((mem_complement _ _ _).1 hg).1
  · exact List.nodup_range.sublist List.filter_sublist
  · exact List.nodup_range.sublist List.filter_sublist
  · intro i hi
    rw [mem_complement, mem_complement]
    have := hcl.mem_iff hi
    exact ⟨fun ⟨_, h⟩ => ⟨hwf.group_lt hi, fun hc => h (this.2 hc)⟩,
      fun ⟨_, h⟩ => ⟨hi, fun hc => h (this.1 hc)⟩⟩

theorem wf_restrict (hwf : WF d) (hcl : Closed d sel gsel) : WF (restrict d sel gsel) := by
  refine ⟨restrict_mem_length d sel gsel, ?_, hwf.formulas_wt, ?_⟩
  · intro g hg
    simp only [restrict, List.mem_map] at hg ⊢
    obtain ⟨i, hi, rfl⟩ := hg
    exact posIn_lt gsel _ (hcl.group_mem hi)
  · intro i hi vv hvv
    simp only [restrict, List.mem_map] at hi
    obtain ⟨i0, hi0, rfl⟩ := hi
    have hvv0 : d.vars[i0.1]? = some vv := hvv
    simp only [selVar, hvv0, reindex_length, size_restrict]

end OFCore.Equivariance
