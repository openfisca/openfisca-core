import OFCore.Lemmas.Builder
/-!
# Documents that differ only in the spelling of period keys give the same result (from `ObjRel.congr`)
-/

namespace OFCore.Bld

variable {γ : Type}

theorem ObjRel.congr {Rel : DKey × Doc → DKey × Doc → Prop} (f : Doc → γ) {a b : Doc}
    (h : ObjRel Rel a b) (hobj : ∀ kvs kvs', All₂ Rel kvs kvs' → f (.obj kvs) = f (.obj kvs')) : f a = f b := by
  rcases h with rfl | ⟨kvs, kvs', rfl, rfl, hall⟩
  · rfl
  · exact hobj kvs kvs' hall

theorem ObjRel.congr_entry {Rel : DKey × Doc → DKey × Doc → Prop} (f : DKey × Doc → γ)
    {a b : DKey × Doc} (h : a.1 = b.1 ∧ ObjRel Rel a.2 b.2)
    (hobj : ∀ kvs kvs', All₂ Rel kvs kvs' → f (b.1, .obj kvs) = f (b.1, .obj kvs')) : f a = f b := by
  obtain ⟨ka, va⟩ := a
  obtain ⟨kb, vb⟩ := b
  obtain ⟨hk, hv⟩ := h
  cases hk
  exact ObjRel.congr (fun d => f (ka, d)) hv hobj

theorem lookupS_all₂ {Rel : DKey → Doc → Doc → Prop} {l l' : List (DKey × Doc)}
    (h : All₂ (fun a b => a.1 = b.1 ∧ Rel a.1 a.2 b.2) l l') (k : String) :
    (lookupS k l = none ∧ lookupS k l' = none) ∨
    ∃ d d', lookupS k l = some d ∧ lookupS k l' = some d' ∧ Rel (.s k) d d' := by
  induction h with
  | nil => exact Or.inl ⟨rfl, rfl⟩
  | @cons a b l l' hab _ ih =>
    obtain ⟨ka, va⟩ := a
    obtain ⟨kb, vb⟩ := b
    obtain ⟨hk, hv⟩ := hab
    cases hk
    simp only [lookupS]
    by_cases e : ka = DKey.s k
    · simp only [e, if_true]; exact Or.inr ⟨va, vb, rfl, rfl, e ▸ hv⟩
    · simp only [e, if_false]; exact ih

theorem valueWrite_congr (var : Var) (size idx : Nat) (a b : DKey × Doc) (h : PairEq a b) :
    valueWrite var size idx a = valueWrite var size idx b := by
  unfold valueWrite
  rw [canonKey_congr h.1, h.2]

theorem variableWrites_congr (sys : Sys) (entKey : String) (dp : Option String) (size idx : Nat)
    (a b : DKey × Doc) (h : EntryEq a b) :
    variableWrites sys entKey dp size idx a = variableWrites sys entKey dp size idx b :=
  ObjRel.congr_entry _ h fun kvs kvs' hall => by
    simp only [variableWrites, variablePairs, Doc.asObj?,
      mapE_congr _ _ PairEq (valueWrite_congr _ size idx) kvs kvs' hall]

theorem instanceWrites_congr (sys : Sys) (entKey : String) (dp : Option String) (ids : List String)
    (id : String) (vars vars' : List (DKey × Doc)) (h : All₂ EntryEq vars vars') :
    instanceWrites sys entKey dp ids id vars = instanceWrites sys entKey dp ids id vars' := by
  unfold instanceWrites
  rw [mapE_congr _ _ EntryEq (variableWrites_congr sys entKey dp ids.length (ids.idxOf id)) vars vars' h]

theorem personInstance_congr (sys : Sys) (dp : Option String) (ids : List String)
    (a b : DKey × Doc) (h : InstEntryEq a b) : personInstance sys dp ids a = personInstance sys dp ids b :=
  ObjRel.congr_entry _ h fun kvs kvs' hall => instanceWrites_congr sys _ dp ids _ kvs kvs' hall

theorem addPersonEntity_congr (sys : Sys) (dp : Option String) (a b : Doc) (h : EntEq a b) :
    addPersonEntity sys dp a = addPersonEntity sys dp b :=
  ObjRel.congr _ h fun kvs kvs' hall => by
    simp only [addPersonEntity, Doc.asObj?, hall.map_eq (fun kv => kv.1.text) (fun kv => kv.1.text)
      (fun _ _ h => by rw [h.1]), mapE_congr _ _ InstEntryEq (personInstance_congr sys dp _) kvs kvs' hall]

/-- role entries are read through `asArr?` only -/
def RdEq (rd rd' : Role × Doc) : Prop := rd.1 = rd'.1 ∧ rd.2.asArr? = rd'.2.asArr?

theorem roleDocs_rel (g : GroupKind) {l l' : List (DKey × Doc)} (h : All₂ EntryEq l l') :
    All₂ RdEq (roleDocs g l) (roleDocs g l') := by
  unfold roleDocs
  induction g.roles with
  | nil => exact .nil
  | cons r rs ih =>
    refine .cons ⟨rfl, ?_⟩ ih
    simp only
    rcases lookupS_all₂ (Rel := fun _ => VarDocEq) h r.docKey with ⟨e1, e2⟩ | ⟨d, d', e1, e2, hv⟩
    · rw [e1, e2]
    · rw [e1, e2]
      -- an object is no list of persons, however its keys are spelt
      exact ObjRel.congr (fun d => (strictSyntax d).asArr?) hv (fun _ _ _ => rfl)

theorem groupStep_congr (sys : Sys) (dp : Option String) (g : GroupKind) (personsIds gids : List String)
    (acc : GAcc) (a b : DKey × Doc) (h : InstEntryEq a b) :
    groupStep sys dp g personsIds gids acc a = groupStep sys dp g personsIds gids acc b :=
  ObjRel.congr_entry _ h fun kvs kvs' hall => by
    have hrd := roleDocs_rel g hall
    have hvars : All₂ EntryEq (variablesJson g kvs) (variablesJson g kvs') :=
      hall.filter _ _ (fun _ _ h => by rw [h.1])
    simp only [groupStep, Doc.asObj?]
    rw [foldE_congr (allocRole personsIds) (allocRole personsIds) RdEq
        (fun s x y hxy => by unfold allocRole; rw [hxy.2]) _ _ acc.toAlloc hrd,
      hrd.all_eq maxOk maxOk (fun x y hxy => by unfold maxOk; rw [hxy.1, hxy.2]),
      hrd.flatMap_eq (roleMWrites personsIds (gids.idxOf b.1.text)) (roleMWrites personsIds (gids.idxOf b.1.text))
        (fun x y hxy => by unfold roleMWrites Doc.strs; rw [hxy.1, hxy.2]),
      instanceWrites_congr sys g.key dp gids b.1.text _ _ hvars]

theorem addGroupEntity_congr (sys : Sys) (dp : Option String) (g : GroupKind) (personsIds : List String)
    (a b : Doc) (buf : Buffer) (h : EntEq a b) :
    addGroupEntity sys dp g personsIds a buf = addGroupEntity sys dp g personsIds b buf :=
  ObjRel.congr (fun d => addGroupEntity sys dp g personsIds d buf) h fun kvs kvs' hall => by
    simp only [addGroupEntity, Doc.asObj?, hall.map_eq (fun kv => kv.1.text) (fun kv => kv.1.text)
      (fun _ _ h => by rw [h.1]),
      foldE_congr _ _ InstEntryEq (fun s x y hxy => groupStep_congr sys dp g personsIds _ s x y hxy) kvs kvs' _ hall]

theorem getEntityDoc_rel {l l' : List (DKey × Doc)} (h : All₂ TopEq l l') (p : String) :
    (getEntityDoc p l = none ∧ getEntityDoc p l' = none) ∨
    ∃ d d', getEntityDoc p l = some d ∧ getEntityDoc p l' = some d' ∧ EntEq d d' := by
  unfold getEntityDoc
  rcases lookupS_all₂ (Rel := fun _ => EntEq) h p with ⟨e1, e2⟩ | ⟨d, d', e1, e2, hv⟩
  · rw [e1, e2]; exact Or.inl ⟨rfl, rfl⟩
  · simp only [e1, e2, ObjRel.congr Doc.isNull hv fun _ _ _ => rfl]
    cases d'.isNull with
    | true => exact Or.inl ⟨rfl, rfl⟩
    | false => exact Or.inr ⟨d, d', rfl, rfl, hv⟩

theorem groupsStep_congr (sys : Sys) (dp : Option String) (params params' : List (DKey × Doc))
    (h : All₂ TopEq params params') (hasAxes : Bool) (personsIds : List String) (st : BState) (g : GroupKind) :
    groupsStep sys dp params hasAxes personsIds st g = groupsStep sys dp params' hasAxes personsIds st g := by
  unfold groupsStep
  rcases getEntityDoc_rel h g.plural with ⟨e1, e2⟩ | ⟨d, d', e1, e2, hv⟩
  · rw [e1, e2]
  · simp only [e1, e2, addGroupEntity_congr sys dp g personsIds d d' st.buf hv]

theorem buildEntities_congr (sys : Sys) (dp : Option String) (params params' : List (DKey × Doc))
    (h : All₂ TopEq params params') (hasAxes : Bool) :
    buildEntities sys dp params hasAxes = buildEntities sys dp params' hasAxes := by
  have hg : ∀ pids, groupsStep sys dp params hasAxes pids = groupsStep sys dp params' hasAxes pids :=
    fun pids => funext fun st => funext fun g => groupsStep_congr sys dp params params' h hasAxes pids st g
  unfold buildEntities
  rw [h.any_eq (fun kv => unexpectedKey sys kv.1) (fun kv => unexpectedKey sys kv.1) (fun _ _ h => by rw [h.1])]
  rcases lookupS_all₂ (Rel := fun _ => EntEq) h sys.personPlural with ⟨e1, e2⟩ | ⟨d, d', e1, e2, hv⟩
  · rw [e1, e2]
  · simp only [e1, e2, ObjRel.congr Doc.truthy hv fun _ _ hall => by cases hall <;> rfl,
      addPersonEntity_congr sys dp d d' hv, hg]

theorem buildFromEntities_congr (sys : Sys) (dp : Option String) (si : SetInput)
    (kvs kvs' : List (DKey × Doc)) (h : All₂ TopEq kvs kvs') :
    buildFromEntities sys dp si kvs = buildFromEntities sys dp si kvs' := by
  have hp := h.filter (fun kv => !isAxesKey kv.1) (fun kv => !isAxesKey kv.1) (fun _ _ h => by rw [h.1])
  unfold buildFromEntities
  simp only
  rcases getEntityDoc_rel h "axes" with ⟨e1, e2⟩ | ⟨d, d', e1, e2, hv⟩
  · rw [e1, e2, buildEntities_congr sys dp _ _ hp]
  · simp only [e1, e2, Option.isSome_some, buildEntities_congr sys dp _ _ hp,
      ObjRel.congr parseAxes hv fun _ _ _ => rfl]

/-- the variables-only form: `Simulation.set_input(name, key, value)` reads the key through `parseKey` only -/
theorem setInputDoc_congr (sys : Sys) (si : SetInput) (count : Nat) (store : Store) (name k k' : DKey)
    (value : Doc) (h : parseKey k = parseKey k') :
    setInputDoc sys si count store name k value = setInputDoc sys si count store name k' value := by
  unfold setInputDoc; rw [h]

/-- a top-level entry of a SHORT-form document: under a singular entity key stands ONE instance,
under any other key what a fully specified document holds there -/
def ShortEq (sys : Sys) (a b : DKey × Doc) : Prop :=
  a.1 = b.1 ∧ (if keyIn (sys.singulars.map (·.1)) a.1 = true then InstEq a.2 b.2 else EntEq a.2 b.2)

/-- the entries `plural: {singular: instance}` that `explicit_singular_entities` makes -/
theorem explicit_head_rel (sys : Sys) {l l' : List (DKey × Doc)} (h : All₂ (ShortEq sys) l l')
    (sps : List (String × String)) (hs : ∀ sp ∈ sps, keyIn (sys.singulars.map (·.1)) (DKey.s sp.1) = true) :
    All₂ TopEq
      (sps.filterMap (fun (sp : String × String) => (lookupS sp.1 l).map (fun d => (DKey.s sp.2, Doc.obj [(DKey.s sp.1, d)]))))
      (sps.filterMap (fun (sp : String × String) => (lookupS sp.1 l').map (fun d => (DKey.s sp.2, Doc.obj [(DKey.s sp.1, d)])))) := by
  induction sps with
  | nil => exact .nil
  | cons sp sps ih =>
    have ih := ih (fun x hx => hs x (List.mem_cons_of_mem _ hx))
    have hsp := hs sp List.mem_cons_self
    rcases lookupS_all₂ (Rel := fun k d d' => if keyIn (sys.singulars.map (·.1)) k = true then InstEq d d' else EntEq d d')
        h sp.1 with ⟨e1, e2⟩ | ⟨d, d', e1, e2, hv⟩
    · simp only [List.filterMap_cons, e1, e2, Option.map_none]; exact ih
    · simp only [List.filterMap_cons, e1, e2, Option.map_some]
      rw [if_pos hsp] at hv
      refine .cons ⟨rfl, Or.inr ⟨_, _, rfl, rfl, .cons ⟨rfl, hv⟩ .nil⟩⟩ ih

/-- the entries `explicit_singular_entities` keeps as they are -/
theorem explicit_tail_rel (sys : Sys) {l l' : List (DKey × Doc)} (h : All₂ (ShortEq sys) l l') :
    All₂ TopEq (l.filter (fun kv => !keyIn (sys.singulars.map (·.1)) kv.1))
      (l'.filter (fun kv => !keyIn (sys.singulars.map (·.1)) kv.1)) := by
  induction h with
  | nil => exact .nil
  | @cons a b l l' hab _ ih =>
    obtain ⟨hk, hv⟩ := hab
    simp only [List.filter_cons, ← hk]
    cases hc : keyIn (sys.singulars.map (·.1)) a.1 with
    | true => simpa using ih
    | false =>
      rw [hc] at hv
      simp only [Bool.false_eq_true, if_false] at hv
      simp only [Bool.not_false, if_true]
      exact .cons ⟨hk, hv⟩ ih

theorem explicitSingular_rel (sys : Sys) {l l' : List (DKey × Doc)} (h : All₂ (ShortEq sys) l l') :
    All₂ TopEq (explicitSingular sys l) (explicitSingular sys l') := by
  unfold explicitSingular
  refine All₂.append (explicit_head_rel sys h sys.singulars fun sp hsp => ?_) (explicit_tail_rel sys h)
  simp only [keyIn, List.contains_eq_mem, List.mem_map, decide_eq_true_eq]
  exact ⟨sp, hsp, rfl⟩

/-- the variables-only form: `_person_count` reads the first value of the first variable -/
theorem personCount_congr {l l' : List (DKey × Doc)} (h : All₂ EntryEq l l') : personCount l = personCount l' := by
  cases h with
  | nil => rfl
  | @cons a b l l' hab _ =>
    obtain ⟨ka, va⟩ := a
    obtain ⟨kb, vb⟩ := b
    obtain ⟨_, hv⟩ := hab
    simp only at hv
    rcases hv with e | ⟨kvs, kvs', ea, eb, hall⟩
    · subst e; rfl
    · subst ea; subst eb
      cases hall with
      | nil => rfl
      | @cons p q _ _ hpq _ =>
        obtain ⟨_, x⟩ := p
        obtain ⟨_, y⟩ := q
        have : x = y := hpq.2
        subst this
        rfl

theorem datedStep_congr (sys : Sys) (si : SetInput) (count : Nat) (store : Store) (a b : DKey × Doc)
    (h : EntryEq a b) : datedStep sys si count store a = datedStep sys si count store b :=
  ObjRel.congr_entry _ h fun kvs kvs' hall => by
    simp only [datedStep, Doc.asObj?]
    refine foldE_congr _ _ PairEq ?_ kvs kvs' store hall
    intro s x y hxy
    rw [setInputDoc_congr sys si count s b.1 x.1 y.1 x.2 hxy.1, hxy.2]

theorem undatedStep_congr (sys : Sys) (dp : Option String) (si : SetInput) (count : Nat) (store : Store)
    (a b : DKey × Doc) (h : EntryEq a b) :
    undatedStep sys dp si count store a = undatedStep sys dp si count store b :=
  ObjRel.congr_entry _ h fun _ _ _ => rfl

theorem buildFromVariables_congr (sys : Sys) (dp : Option String) (si : SetInput)
    (kvs kvs' : List (DKey × Doc)) (h : All₂ EntryEq kvs kvs') :
    buildFromVariables sys dp si kvs = buildFromVariables sys dp si kvs' := by
  have h1 : ∀ count s, foldE (datedStep sys si count) s kvs = foldE (datedStep sys si count) s kvs' :=
    fun count s => foldE_congr _ _ EntryEq (datedStep_congr sys si count) kvs kvs' s h
  have h2 : ∀ count s, foldE (undatedStep sys dp si count) s kvs = foldE (undatedStep sys dp si count) s kvs' :=
    fun count s => foldE_congr _ _ EntryEq (undatedStep_congr sys dp si count) kvs kvs' s h
  simp only [buildFromVariables, personCount_congr h, h1, h2]

/-- how `build_from_dict` reads the entry under a top-level key, by the shape it recognises in the
keys of the whole document `kvs` (the conditions are those of `buildFromDict`, in its order) -/
def DictEq (sys : Sys) (kvs : List (DKey × Doc)) (a b : DKey × Doc) : Prop :=
  a.1 = b.1 ∧
  (if kvs.any (fun kv => keyIn (sys.singulars.map (·.1)) kv.1) = true then
    (if keyIn (sys.singulars.map (·.1)) a.1 = true then InstEq a.2 b.2 else EntEq a.2 b.2)
  else if (!kvs.isEmpty) = true ∧ kvs.all (fun kv => isEntityKey sys kv.1) = true then EntEq a.2 b.2
  else if kvs.isEmpty = true ∨ kvs.any (fun kv => keyIn (sys.vars.map (·.name)) kv.1) = true then VarDocEq a.2 b.2
  else EntEq a.2 b.2)

end OFCore.Bld
