import OFCore.ParamView
import OFCore.Lemmas.ParamNode
/-!
The parameter-reading model (C07). Navigation is pure; the process only decides which snapshot is navigated: reads only
move the memo and keep it sound (`Framed`), and in a sound state every route reads the current tree (`doRead_obs`).
-/

namespace OFCore.PView
open OFCore.Param

variable {V W α β : Type}

theorem assoc_eq_lookup (k : String) (l : List (String × α)) : assoc k l = l.lookup k := by
  induction l with
  | nil => rfl
  | cons p r ih =>
    rw [assoc, List.lookup_cons, ih]
    by_cases h : p.1 = k
    · rw [if_pos h, beq_iff_eq.mpr h.symm]
    · rw [if_neg h, beq_eq_false_iff_ne.mpr (Ne.symm h)]

theorem mem_of_assoc {k : String} {c : α} {l : List (String × α)} (h : assoc k l = some c) : (k, c) ∈ l := by
  obtain ⟨l₁, l₂, rfl, -⟩ := List.lookup_eq_some_iff.1 (assoc_eq_lookup k l ▸ h)
  exact List.mem_append_right _ List.mem_cons_self

theorem assoc_append_single (k k' : String) (c : PNode V) (cs : List (String × PNode V)) :
    assoc k (cs ++ [(k', c)]) = match assoc k cs with
      | some x => some x
      | none => if k' = k then some c else none := by
  rw [assoc_eq_lookup, List.lookup_append, ← assoc_eq_lookup, ← assoc_eq_lookup]
  cases assoc k cs <;> rfl

theorem nodup_of_wfAll {cs : List (String × PNode V)} (h : wfAll cs = true) : (cs.map (·.1)).Nodup := by
  induction cs with
  | nil => exact List.nodup_nil
  | cons p r ih =>
    simp only [wfAll, Bool.and_eq_true, Option.isNone_iff_eq_none, assoc_eq_lookup, List.lookup_eq_none_iff] at h
    refine List.nodup_cons.mpr ⟨fun hm => ?_, ih h.2⟩
    obtain ⟨q, hq, hqk⟩ := List.mem_map.mp hm
    exact bne_iff_ne.mp (h.1.1 q hq) hqk.symm

theorem assoc_childrenAt (cs : List (String × PNode V)) (d : Int) (k : String) (hwf : wfAll cs = true) :
    assoc k (childrenAt cs d) = (assoc k cs).bind (fun c => c.atInstant d) := by
  rw [assoc_eq_lookup, assoc_eq_lookup, lookup_childrenAt cs d k (nodup_of_wfAll hwf)]

theorem wf_of_assoc {cs : List (String × PNode V)} {k : String} {c : PNode V} (hwf : wfAll cs = true)
    (h : assoc k cs = some c) : treeWF c = true := by
  induction cs with
  | nil => simp [assoc] at h
  | cons p r ih =>
    obtain ⟨k', c'⟩ := p
    simp only [wfAll, Bool.and_eq_true] at hwf
    simp only [assoc] at h
    by_cases hk : k' = k
    · rw [if_pos hk] at h; cases h; exact hwf.1.2
    · rw [if_neg hk] at h; exact ih hwf.2 h

theorem sdescend_val_cons (v : V) (k : String) (p : List String) :
    ∃ e, sdescend (Snap.val v) (k :: p) = .error e := ⟨_, rfl⟩

theorem sdescend_scale_cons (sc : ScaleAt) (k : String) (p : List String) :
    ∃ e, sdescend (Snap.scale sc : Snap V) (k :: p) = .error e := ⟨_, rfl⟩

/-- taking the snapshot commutes with going down a path (distinct child names) -/
theorem readTreeAt_eq_sdescend (t : PNode V) (hwf : treeWF t = true) (d : Int) (path : List String) :
    (readTreeAt t path d).toOption.join = (t.atInstant d).bind (fun s => (sdescend s path).toOption) := by
  induction path generalizing t with
  | nil =>
    cases h : t.atInstant d <;>
      simp only [readTreeAt, pdescend, sdescend, Except.toOption, h, Option.join_some, Option.bind_fun_some]
  | cons k p ih =>
    cases t with
    | param l =>
      cases h : pget l d <;>
        simp only [readTreeAt, pdescend, pchild, PNode.atInstant, sdescend, schild, Except.toOption, h,
          Option.join_none, Option.map_none, Option.map_some, Option.bind_none, Option.bind_some]
    | scale m bs =>
      simp only [readTreeAt, pdescend, pchild, PNode.atInstant, sdescend, schild, Except.toOption,
        Option.join_none, Option.bind_some]
    | node cs =>
      have hlook := assoc_childrenAt cs d k hwf
      cases hc : assoc k cs with
      | none =>
        simp only [readTreeAt, pdescend, pchild, PNode.atInstant, sdescend, schild, Except.toOption, hlook, hc,
          Option.join_none, Option.bind_some, Option.bind_none]
      | some c =>
        -- a child undefined at `d` is not in the snapshot, and has nothing defined below it: the same equation, for `c`
        have := ih c (wf_of_assoc hwf hc)
        rw [hc, Option.bind_some] at hlook
        simp only [readTreeAt, pdescend, pchild, hc, PNode.atInstant, Option.bind_some, sdescend, schild, hlook] at this ⊢
        rw [this]
        cases c.atInstant d <;> rfl

theorem tracedDescend_spec (d : Int) (name : String) (s : Snap V) (path : List String) (log : List (LogEntry V)) :
    ∃ extra, tracedDescend d name s path log = (sdescend s path, log ++ extra) ∧ extra.length ≤ 1 ∧
      ∀ e ∈ extra, e.date = d ∧ ∃ pre post, path = pre ++ post ∧ sdescend s pre = .ok (.val e.value) := by
  have nothing : ∀ (r : Except String (Snap V)) (s : Snap V) (path : List String),
      ∃ extra, (r, log) = (r, log ++ extra) ∧ extra.length ≤ 1 ∧
        ∀ e ∈ extra, e.date = d ∧ ∃ pre post, path = pre ++ post ∧ sdescend s pre = .ok (.val e.value) :=
    fun _ _ _ => ⟨[], by rw [List.append_nil], Nat.zero_le _, nofun⟩
  induction path generalizing name s with
  | nil => exact nothing _ s []
  | cons k p ih =>
    rw [tracedDescend, sdescend]
    cases hc : schild s k with
    | error e => exact nothing _ s _
    | ok c =>
      cases c with
      | node cs =>
        obtain ⟨extra, h2, h3, h4⟩ := ih (composeName name k) (.node cs)
        refine ⟨extra, h2, h3, fun e he => ?_⟩
        obtain ⟨hd, pre, post, hp, hpre⟩ := h4 e he
        exact ⟨hd, k :: pre, post, by rw [hp]; rfl, by rw [sdescend, hc]; exact hpre⟩
      | val v =>
        refine ⟨[⟨name ++ "." ++ k, d, v⟩], rfl, Nat.le_refl _, fun e he => ?_⟩
        cases List.mem_singleton.mp he
        exact ⟨rfl, [k], p, rfl, by rw [sdescend, hc]; rfl⟩
      | scale sc => exact nothing _ s _

theorem navTraced_spec (d : Int) (root : Option (Snap V)) (path : List String) (log : List (LogEntry V)) :
    (navTraced d root path log).1 = navView root path ∧
    ∃ extra, (navTraced d root path log).2 = log ++ extra ∧ extra.length ≤ 1 := by
  cases root with
  | none => cases path <;> exact ⟨rfl, [], (List.append_nil _).symm, Nat.zero_le _⟩
  | some s =>
    obtain ⟨extra, he, h3, _⟩ := tracedDescend_spec d "" s path log
    simp only [navTraced, navView, he]
    cases sdescend s path <;> exact ⟨rfl, extra, rfl, h3⟩

def RefsOK (w : World V) : Prop := ∀ r ∈ w.systems, ∀ i, r.tree = some i → i < w.heap.length

/-- the state is sound: every memo entry is the snapshot of its system's CURRENT tree -/
def MemoOK (w : World V) : Prop :=
  RefsOK w ∧ ∀ k v, (k, v) ∈ w.memo → k.sys < w.systems.length ∧ v = snapshot (w.treeOf k.sys) k.date

theorem memoFind_mem {k : Key} {m : List (Key × α)} {x : α} (h : memoFind k m = some x) : (k, x) ∈ m := by
  induction m with
  | nil => cases h
  | cons p r ih =>
    rw [memoFind] at h
    split at h
    · rename_i hk; cases h; subst hk; exact List.mem_cons_self ..
    · exact List.mem_cons_of_mem _ (ih h)

theorem mem_memoErase {k : Key} {m : List (Key × α)} {p : Key × α} (h : p ∈ memoErase k m) : p ∈ m := by
  induction m with
  | nil => cases h
  | cons q r ih =>
    rw [memoErase] at h
    split at h
    · exact List.mem_cons_of_mem _ (ih h)
    · exact (List.mem_cons.mp h).elim (fun h => h ▸ List.mem_cons_self ..) (fun h => List.mem_cons_of_mem _ (ih h))

theorem mem_memoTouch {k : Key} {x : α} {m : List (Key × α)} {p : Key × α} (h : p ∈ memoTouch k x m) :
    p = (k, x) ∨ p ∈ m :=
  (List.mem_cons.mp (List.mem_of_mem_take h)).imp_right mem_memoErase

theorem lt_of_get {l : List α} {s : Nat} {r : α} (h : l[s]? = some r) : s < l.length :=
  (List.getElem?_eq_some_iff.mp h).1

theorem treeOf_eq_of {w w' : World V} {s : Nat} (hs : w'.systems[s]? = w.systems[s]?)
    (hh : ∀ r i, w.systems[s]? = some r → r.tree = some i → w'.heap[i]? = w.heap[i]?) :
    w'.treeOf s = w.treeOf s := by
  unfold World.treeOf
  rw [hs]
  cases hr : w.systems[s]? with
  | none => rfl
  | some r =>
    simp only
    cases hi : r.tree with
    | none => rfl
    | some i => exact hh r i hr hi

theorem memoOK_of_nil {w : World V} (hr : RefsOK w) (hm : w.memo = []) : MemoOK w :=
  ⟨hr, fun k v h => by rw [hm] at h; cases h⟩

structure Framed (w w' : World V) : Prop where
  systems : w'.systems = w.systems
  heap : w'.heap = w.heap
  memo : MemoOK w → MemoOK w'

theorem Framed.refl (w : World V) : Framed w w := ⟨rfl, rfl, id⟩

theorem Framed.trans {w w1 w2 : World V} (h1 : Framed w w1) (h2 : Framed w1 w2) : Framed w w2 :=
  ⟨h2.systems.trans h1.systems, h2.heap.trans h1.heap, fun h => h2.memo (h1.memo h)⟩

theorem Framed.treeOf {w w' : World V} (h : Framed w w') (s : Nat) : w'.treeOf s = w.treeOf s :=
  treeOf_eq_of (by rw [h.systems]) (fun _ _ _ _ => by rw [h.heap])

theorem Framed.refs {w w' : World V} (h : Framed w w') (hr : RefsOK w) : RefsOK w' := by
  unfold RefsOK; rw [h.systems, h.heap]; exact hr

theorem viewAt_some {w w' : World V} {s form : Nat} {d : Int} {v : Option (Snap V)}
    (h : viewAt w s form d = some (w', v)) :
    s < w.systems.length ∧ w' = { w with memo := memoTouch ⟨s, form, d⟩ v w.memo } ∧
    (v = snapshot (w.treeOf s) d ∨ (⟨s, form, d⟩, v) ∈ w.memo) := by
  unfold viewAt at h
  cases hr : w.systems[s]? with
  | none => rw [hr] at h; cases h
  | some r =>
    rw [hr] at h
    refine ⟨lt_of_get hr, ?_⟩
    cases hf : memoFind ⟨s, form, d⟩ w.memo with
    | some v0 => rw [hf] at h; cases h; exact ⟨rfl, Or.inr (memoFind_mem hf)⟩
    | none => rw [hf] at h; cases h; exact ⟨rfl, Or.inl rfl⟩

theorem viewAt_spec {w w' : World V} {s form : Nat} {d : Int} {v : Option (Snap V)}
    (hw : MemoOK w) (h : viewAt w s form d = some (w', v)) :
    v = snapshot (w.treeOf s) d ∧ MemoOK w' := by
  obtain ⟨hs, rfl, hv⟩ := viewAt_some h
  have hv : v = snapshot (w.treeOf s) d := hv.elim id (fun hm => (hw.2 _ _ hm).2)
  refine ⟨hv, hw.1, fun k x hkx => ?_⟩
  rcases mem_memoTouch hkx with hkx | hkx
  · cases hkx; exact ⟨hs, hv⟩
  · exact hw.2 k x hkx

theorem viewAt_framed {w w' : World V} {s form : Nat} {d : Int} {v : Option (Snap V)}
    (h : viewAt w s form d = some (w', v)) : Framed w w' :=
  ⟨by rw [(viewAt_some h).2.1], by rw [(viewAt_some h).2.1], fun hw => (viewAt_spec hw h).2⟩

theorem viewAt_eq {w : World V} (hw : MemoOK w) {s : Nat} (hs : s < w.systems.length) (form : Nat) (d : Int) :
    ∃ w', viewAt w s form d = some (w', snapshot (w.treeOf s) d) := by
  have : ∃ w' v, viewAt w s form d = some (w', v) := by
    unfold viewAt
    rw [List.getElem?_eq_getElem hs]
    cases memoFind ⟨s, form, d⟩ w.memo <;> exact ⟨_, _, rfl⟩
  obtain ⟨w', v, hv⟩ := this
  exact ⟨w', by rw [hv, (viewAt_spec hw hv).1]⟩

theorem readViewOf_framed (w : World V) (s form : Nat) (d : Int) (path : List String) :
    Framed w (readViewOf w s form d path).1 := by
  unfold readViewOf
  cases hv : viewAt w s form d with
  | none => exact Framed.refl w
  | some p => exact viewAt_framed hv

theorem doRead_framed (w : World V) (rd : Read) : Framed w (doRead w rd).1 := by
  cases rd with
  | view s form d path => exact readViewOf_framed w s form d path
  | baseView s form d path => exact readViewOf_framed w _ form d path
  | tree s path d =>
    simp only [doRead]
    cases w.systems[s]? with
    | none => exact Framed.refl w
    | some r => cases w.treeOf s <;> exact Framed.refl w
  | formula s traced form d path =>
    simp only [doRead]
    cases hv : viewAt w s form d with
    | none => exact Framed.refl w
    | some p => cases traced <;> exact viewAt_framed hv

/-- while a user function runs inside a modification, the memo stays sound with respect to the trees in place:
    the FORMER tree of the system being modified -/
theorem runProg_framed (w : World V) (p : ModProg V) : Framed w (runProg w p).1 := by
  induction p generalizing w with
  | ret r => exact Framed.refl w
  | read rd k ih => exact (doRead_framed w rd).trans (ih _ _)

theorem doRead_obs {w : World V} (hw : MemoOK w) {s : Nat} (hs : s < w.systems.length) (form : Nat) (d : Int)
    (path : List String) :
    (doRead w (.view s form d path)).2 = .value (navView (snapshot (w.treeOf s) d) path) [] ∧
    (∀ traced, (doRead w (.formula s traced form d path)).2 = .value (navView (snapshot (w.treeOf s) d) path)
      (if traced then (navTraced d (snapshot (w.treeOf s) d) path []).2 else [])) ∧
    (doRead w (.tree s path d)).2 = match w.treeOf s with
      | none => .value (.error "TypeError: None") []
      | some t => .value (readTreeAt t path d) [] := by
  obtain ⟨w', hv⟩ := viewAt_eq hw hs form d
  refine ⟨by simp only [doRead, readViewOf, hv], fun traced => ?_, ?_⟩
  · simp only [doRead, hv]
    cases traced
    · rfl
    · exact congrArg (Obs.value · _) (navTraced_spec ..).1
  · simp only [doRead, List.getElem?_eq_getElem hs]
    cases w.treeOf s <;> rfl

theorem length_install (w : World V) (s : Nat) (t : PNode V) : (install w s t).systems.length = w.systems.length := by
  simp [install]

theorem refsOK_install (w : World V) (hr : RefsOK w) (s : Nat) (t : PNode V) : RefsOK (install w s t) := by
  intro r hr' i hi
  simp only [install, List.length_append, List.length_cons, List.length_nil] at *
  obtain ⟨j, hj, hrj⟩ := List.getElem_of_mem hr'
  rw [List.getElem_modify] at hrj
  by_cases hjs : s = j
  · rw [if_pos hjs] at hrj
    rw [← hrj] at hi
    simp only [Option.some.injEq] at hi
    omega
  · rw [if_neg hjs] at hrj
    have : i < w.heap.length := hr _ (List.getElem_mem _) i (by rw [hrj]; exact hi)
    omega

theorem memoOK_install (w : World V) (hr : RefsOK w) (s : Nat) (t : PNode V) : MemoOK (install w s t) :=
  memoOK_of_nil (refsOK_install w hr s t) rfl

theorem treeOf_install_eq (w : World V) (s : Nat) (t : PNode V) (h : s < w.systems.length) :
    (install w s t).treeOf s = some t := by
  unfold World.treeOf install
  simp only
  rw [List.getElem?_modify_eq, List.getElem?_eq_getElem h]
  simp

theorem treeOf_install_ne (w : World V) (hr : RefsOK w) (s s' : Nat) (t : PNode V) (h : s' ≠ s) :
    (install w s t).treeOf s' = w.treeOf s' :=
  treeOf_eq_of (List.getElem?_modify_ne _ _ (fun c => h c.symm))
    (fun r i hs hi => List.getElem?_append_left (hr r (List.mem_of_getElem? hs) i hi))

theorem treeOf_append_both (w : World V) (hr : RefsOK w) (h : List (PNode V)) (x : SysRec) {m} {s : Nat}
    (hs : s < w.systems.length) :
    ({ heap := w.heap ++ h, systems := w.systems ++ [x], memo := m } : World V).treeOf s = w.treeOf s :=
  treeOf_eq_of (List.getElem?_append_left hs)
    (fun r i hs hi => List.getElem?_append_left (hr r (List.mem_of_getElem? hs) i hi))

theorem treeOf_append_new (w : World V) (t : PNode V) (b : Option Nat) :
    ({ w with heap := w.heap ++ [t], systems := w.systems ++ [⟨some w.heap.length, b⟩] } : World V).treeOf w.systems.length
      = some t := by
  unfold World.treeOf
  simp

theorem ownCopy_eq {w : World V} {i : Nat} {t : PNode V} (h : w.heap[i]? = some t) (s : Nat) :
    ownCopy w s i = ({ install w s t with memo := w.memo }, w.heap.length) := by
  unfold ownCopy install; rw [h]

theorem ownCopy_memo (w : World V) (s i : Nat) : (ownCopy w s i).1.memo = w.memo := by
  unfold ownCopy
  cases w.heap[i]? <;> rfl

/-- what one operation guarantees about the state it leaves; `sp` tells which systems it spares -/
structure StepOK (w w' : World V) (sp : Nat → Bool) : Prop where
  refs : RefsOK w → RefsOK w'
  memo : MemoOK w → MemoOK w'
  len : w.systems.length ≤ w'.systems.length
  spared : RefsOK w → ∀ s', s' < w.systems.length → sp s' = true → w'.treeOf s' = w.treeOf s'

theorem StepOK.of_framed {w w' : World V} (h : Framed w w') (sp : Nat → Bool) : StepOK w w' sp :=
  ⟨h.refs, h.memo, Nat.le_of_eq (by rw [h.systems]), fun _ s' _ _ => h.treeOf s'⟩

theorem StepOK.refl (w : World V) (sp : Nat → Bool) : StepOK w w sp := .of_framed (.refl w) sp

theorem StepOK.trans {w w1 w2 : World V} {sp : Nat → Bool} (h1 : StepOK w w1 sp) (h2 : StepOK w1 w2 sp) :
    StepOK w w2 sp :=
  ⟨fun h => h2.refs (h1.refs h), fun h => h2.memo (h1.memo h), Nat.le_trans h1.len h2.len, fun hr s' hs' hsp => by
    rw [h2.spared (h1.refs hr) s' (Nat.lt_of_lt_of_le hs' h1.len) hsp, h1.spared hr s' hs' hsp]⟩

theorem StepOK.of_nil {w w' : World V} {sp : Nat → Bool} (hr : RefsOK w → RefsOK w') (hm : w'.memo = [])
    (hl : w.systems.length ≤ w'.systems.length)
    (ht : RefsOK w → ∀ s', s' < w.systems.length → sp s' = true → w'.treeOf s' = w.treeOf s') : StepOK w w' sp :=
  ⟨hr, fun hw => memoOK_of_nil (hr hw.1) hm, hl, ht⟩

/-- the memo is kept: every system must keep its tree -/
theorem StepOK.of_same_memo {w w' : World V} {sp : Nat → Bool} (hr : RefsOK w → RefsOK w') (hm : w'.memo = w.memo)
    (hl : w.systems.length ≤ w'.systems.length)
    (ht : RefsOK w → ∀ s', s' < w.systems.length → w'.treeOf s' = w.treeOf s') : StepOK w w' sp :=
  ⟨hr, fun hw => ⟨hr hw.1, fun k v hkv => by
      rw [hm] at hkv
      obtain ⟨h1, h2⟩ := hw.2 k v hkv
      exact ⟨Nat.lt_of_lt_of_le h1 hl, by rw [ht hw.1 _ h1]; exact h2⟩⟩,
    hl, fun h s' hs' _ => ht h s' hs'⟩

theorem StepOK.of_install (w : World V) (s : Nat) (t : PNode V) {sp : Nat → Bool} (hsp : ∀ s', sp s' = true → s' ≠ s) :
    StepOK w (install w s t) sp :=
  .of_nil (fun hr => refsOK_install w hr s t) rfl (Nat.le_of_eq (length_install w s t).symm)
    (fun hr s' _ h => treeOf_install_ne w hr s s' t (hsp s' h))

theorem StepOK.after_prog (w : World V) (p : ModProg V) (s : Nat) {sp : Nat → Bool}
    (hsp : ∀ s', sp s' = true → s' ≠ s) :
    StepOK w (runProg w p).1 sp ∧ ∀ t, StepOK w (install (runProg w p).1 s t) sp :=
  ⟨.of_framed (runProg_framed w p) sp, fun t => (StepOK.of_framed (runProg_framed w p) sp).trans (.of_install _ s t hsp)⟩

theorem extendTarget_length (w : World V) (s i : Nat) (c : Bool) :
    (if c = true then ownCopy w s i else (w, i)).1.systems.length = w.systems.length := by
  cases c
  · rfl
  · unfold ownCopy
    cases w.heap[i]? with
    | none => rfl
    | some t => simp

/-- `j` is the object `load_extension` merges into — the system's own, or a fresh copy when it is a reform (`c`) — and
    `w1` the state once the copy is made; a system other than `s` is spared when `s` is a reform or refers to another object -/
theorem extendTarget_spec {w w1 : World V} (hw : RefsOK w) {s i j : Nat} {r : SysRec} (hr : w.systems[s]? = some r)
    (hi : r.tree = some i) {c : Bool} (hc : (if c = true then ownCopy w s i else (w, i)) = (w1, j)) :
    RefsOK w1 ∧
    ∀ s', s' ≠ s → (c = true ∨ ∀ rb, w.systems[s']? = some rb → r.tree ≠ rb.tree) →
      w1.treeOf s' = w.treeOf s' ∧ ∀ r', w1.systems[s']? = some r' → r'.tree ≠ some j := by
  have hil : i < w.heap.length := hw r (List.mem_of_getElem? hr) i hi
  cases c with
  | false =>
    cases hc
    refine ⟨hw, fun s' _ h => ⟨rfl, fun r' hr' c => ?_⟩⟩
    exact (h.resolve_left (by decide)) r' hr' (hi.trans c.symm)
  | true =>
    rw [if_pos rfl, ownCopy_eq (List.getElem?_eq_getElem hil)] at hc
    cases hc
    refine ⟨refsOK_install w hw s _, fun s' hne _ => ⟨treeOf_install_ne w hw s s' _ hne, ?_⟩⟩
    intro r' hr' c
    have hr'' : w.systems[s']? = some r' := by
      rw [← hr']; exact (List.getElem?_modify_ne _ _ (fun c => hne c.symm)).symm
    exact Nat.lt_irrefl _ (hw r' (List.mem_of_getElem? hr'') _ c)

theorem step_extend_ok (w : World V) (s : Nat) (ext : List (String × PNode V)) :
    StepOK w (step w (.extend s ext)).1 ((Op.extend s ext).spares w) ∧
    (s < w.systems.length → (step w (.extend s ext)).1.memo = []) := by
  simp only [step]
  cases hr : w.systems[s]? with
  | none => exact ⟨.refl w _, fun hs => absurd hr (by rw [List.getElem?_eq_getElem hs]; exact nofun)⟩
  | some r =>
    simp only
    cases hi : r.tree with
    | none => exact ⟨.of_nil id rfl (Nat.le_refl _) (fun _ _ _ _ => rfl), fun _ => rfl⟩
    | some i =>
      simp only
      -- whatever the merge does to the target object `j`, the memo is emptied and the spared systems do not
      -- refer to `j`
      suffices leaf : ∀ w1 j, (if isReform r = true then ownCopy w s i else (w, i)) = (w1, j) →
          ∀ h : List (PNode V), h.length = w1.heap.length → (∀ k, k ≠ j → h[k]? = w1.heap[k]?) →
            StepOK w { w1 with heap := h, memo := [] } ((Op.extend s ext).spares w) by
        cases hc : (if isReform r = true then ownCopy w s i else (w, i)) with
        | mk w1 j =>
          have same := leaf w1 j hc w1.heap rfl (fun _ _ => rfl)
          simp only
          cases w1.heap[j]? with
          | none => exact ⟨same, fun _ => rfl⟩
          | some t =>
            cases t with
            | param l => exact ⟨same, fun _ => rfl⟩
            | scale m bs => exact ⟨same, fun _ => rfl⟩
            | node cs =>
              exact ⟨leaf w1 j hc _ (List.length_set ..) (fun k hk => List.getElem?_set_ne (Ne.symm hk)), fun _ => rfl⟩
      intro w1 j hc h hlen hh
      refine .of_nil (fun hw => ?_) rfl ?_ (fun hw s' hs' hsp => ?_)
      · exact fun r' hr' k hk => hlen ▸ (extendTarget_spec hw hr hi hc).1 r' hr' k hk
      · exact Nat.le_of_eq (by rw [← extendTarget_length w s i (isReform r), hc])
      · simp only [Op.spares, Bool.and_eq_true, bne_iff_ne, ne_eq, hr, List.getElem?_eq_getElem hs',
          Bool.or_eq_true] at hsp
        obtain ⟨h1, h2⟩ := (extendTarget_spec hw hr hi hc).2 s' (fun c => hsp.1 c.symm)
          (hsp.2.imp_right fun hne rb hrb => by
            rw [List.getElem?_eq_getElem hs'] at hrb; cases hrb; exact hne)
        rw [← h1]
        exact treeOf_eq_of rfl (fun r' k hr' hk => hh k (fun c => h2 r' hr' (c ▸ hk)))

theorem step_ok (w : World V) (op : Op V) : StepOK w (step w op).1 (op.spares w) := by
  cases op with
  | readView s form d path => exact .of_framed (doRead_framed w _) _
  | readTree s path d => exact .of_framed (doRead_framed w _) _
  | readFormula s traced form d path => exact .of_framed (doRead_framed w _) _
  | read rd => exact .of_framed (doRead_framed w _) _
  | newReform b =>
    simp only [step]
    cases hr : w.systems[b]? with
    | none => exact .refl w _
    | some r =>
      refine .of_same_memo (fun hw r' hr' i hi => ?_) rfl (by simp) (fun _ s' hs' => ?_)
      · rcases List.mem_append.mp hr' with hr' | hr'
        · exact hw r' hr' i hi
        · cases List.mem_singleton.mp hr'
          exact hw r (List.mem_of_getElem? hr) i hi
      · exact treeOf_eq_of (List.getElem?_append_left hs') (fun _ _ _ _ => rfl)
  | modify s f =>
    have hsp : ∀ s', (Op.modify s f).spares w s' = true → s' ≠ s := fun s' h c => by
      simp [Op.spares, c] at h
    simp only [step]
    cases w.systems[s]? with
    | none => exact .refl w _
    | some r =>
      simp only
      cases r.baseline with
      | none => exact .refl w _
      | some b =>
        simp only
        cases w.treeOf s with
        | none => exact .refl w _
        | some t =>
          obtain ⟨h1, h2⟩ := StepOK.after_prog w (f t) s hsp
          simp only
          cases hrp : runProg w (f t) with
          | mk w1 res =>
            rw [hrp] at h1 h2
            cases res with
            | error e => exact h1
            | ok t' =>
              simp only
              split
              · exact h2 t'
              · exact h1
  | reload s cs hook =>
    have hsp : ∀ s', (Op.reload s cs hook).spares w s' = true → s' ≠ s := fun s' h c => by
      simp [Op.spares, c] at h
    simp only [step]
    cases w.systems[s]? with
    | none => exact .refl w _
    | some r =>
      obtain ⟨h1, h2⟩ := StepOK.after_prog w (hook (.node cs)) s hsp
      simp only
      cases hrp : runProg w (hook (.node cs)) with
      | mk w1 res =>
        rw [hrp] at h1 h2
        cases res with
        | error e => exact h1
        | ok t' => exact h2 t'
  | extend s ext => exact (step_extend_ok w s ext).1
  | cloneSys s =>
    simp only [step]
    cases hr : w.systems[s]? with
    | none => exact .refl w _
    | some r =>
      simp only
      cases ht : w.treeOf s with
      | none => exact .refl w _
      | some t =>
        refine .of_same_memo (fun hw r' hr' i hi => ?_) rfl (by simp) (fun hw s' hs' => treeOf_append_both w hw _ _ hs')
        simp only [List.length_append, List.length_cons, List.length_nil]
        rcases List.mem_append.mp hr' with hr' | hr'
        · exact Nat.lt_succ_of_lt (hw r' hr' i hi)
        · cases List.mem_singleton.mp hr'
          cases hi
          exact Nat.lt_succ_self _

theorem step_memoOK (w : World V) (hw : MemoOK w) (op : Op V) : MemoOK (step w op).1 := (step_ok w op).memo hw

theorem run_memoOK (w : World V) (hw : MemoOK w) (ops : List (Op V)) : MemoOK (run w ops) := by
  induction ops generalizing w with
  | nil => exact hw
  | cons op ops ih => exact ih _ (step_memoOK w hw op)

theorem init_memoOK : MemoOK (World.init : World V) := by
  refine memoOK_of_nil (fun r hr i hi => ?_) rfl
  cases List.mem_singleton.mp hr
  cases hi

theorem step_treeOf_other (w : World V) (hw : RefsOK w) (op : Op V) (s' : Nat) (hs' : s' < w.systems.length)
    (hsp : op.spares w s' = true) : (step w op).1.treeOf s' = w.treeOf s' :=
  (step_ok w op).spared hw s' hs' hsp

theorem run_treeOf_other (w : World V) (hw : MemoOK w) (ops : List (Op V)) (s' : Nat) (hs' : s' < w.systems.length)
    (ht : Spared s' w ops) :
    (run w ops).treeOf s' = w.treeOf s' ∧ s' < (run w ops).systems.length := by
  induction ops generalizing w with
  | nil => exact ⟨rfl, hs'⟩
  | cons op ops ih =>
    obtain ⟨h3, h4⟩ := ih (step w op).1 (step_memoOK w hw op)
      (Nat.lt_of_lt_of_le hs' (step_ok w op).len) ht.2
    exact ⟨h3.trans (step_treeOf_other w hw.1 op s' hs' ht.1), h4⟩

theorem spared_of_static (w : World V) (ops : List (Op V)) (s' : Nat)
    (ht : ∀ op ∈ ops, op.target ≠ some s' ∧ op.inPlace = false) : Spared s' w ops := by
  induction ops generalizing w with
  | nil => trivial
  | cons op ops ih =>
    refine ⟨?_, ih _ (fun o ho => ht o (List.mem_cons_of_mem _ ho))⟩
    obtain ⟨h1, h2⟩ := ht op (List.mem_cons_self ..)
    cases op with
    | readView s form d path => rfl
    | readTree s path d => rfl
    | readFormula s traced form d path => rfl
    | read rd => rfl
    | newReform b => rfl
    | modify s f => simp only [Op.spares, bne_iff_ne, ne_eq]; intro c; exact h1 (by rw [c]; rfl)
    | reload s cs hook => simp only [Op.spares, bne_iff_ne, ne_eq]; intro c; exact h1 (by rw [c]; rfl)
    | extend s ext => simp [Op.inPlace] at h2
    | cloneSys s => rfl

end OFCore.PView

namespace OFCore
open Param PView
variable {V : Type}

/-- all the routes to system `s`'s own tree read `t` (`Read.baseView`, which reads the root baseline's, is not one) -/
def AllRoutesRead (w : World V) (s : Nat) (t : PNode V) : Prop :=
  ∀ (form : Nat) (d : Int) (path : List String),
    (step w (.readView s form d path)).2 = .value (navView (t.atInstant d) path) [] ∧
    (step w (.readFormula s false form d path)).2 = .value (navView (t.atInstant d) path) [] ∧
    (∃ log, (step w (.readFormula s true form d path)).2 = .value (navView (t.atInstant d) path) log) ∧
    (step w (.readTree s path d)).2 = .value (readTreeAt t path d) []

theorem allRoutesRead_of {w : World V} (hw : MemoOK w) {s : Nat} (hs : s < w.systems.length) {t : PNode V}
    (ht : w.treeOf s = some t) : AllRoutesRead w s t := by
  intro form d path
  have h := doRead_obs hw hs form d path
  rw [ht] at h
  exact ⟨h.1, h.2.1 false, ⟨_, h.2.1 true⟩, h.2.2⟩

theorem allRoutesRead_install (w : World V) (hw : RefsOK w) (s : Nat) (hs : s < w.systems.length) (t : PNode V) :
    (install w s t).memo = [] ∧ MemoOK (install w s t) ∧ (install w s t).treeOf s = some t ∧
    AllRoutesRead (install w s t) s t :=
  ⟨rfl, memoOK_install w hw s t, treeOf_install_eq w s t hs,
    allRoutesRead_of (memoOK_install w hw s t) (by rw [length_install]; exact hs) (treeOf_install_eq w s t hs)⟩

end OFCore
