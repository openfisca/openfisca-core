import OFCore.Lemmas.Group
/-!
Every aggregation of `Group.lean` is `(range p.n).map` of a function of `valuesOf p role g a`, and
`valuesOf p role g a` is read at the indices of the members of the group (`valuesOf_eq_idx`).
-/
namespace OFCore.Grp

theorem valuesOf_map {α β} (p : Pop) (role : Option Role) (g : Nat) (a : List α) (f : α → β) :
    valuesOf p role g (a.map f) = (valuesOf p role g a).map f := by
  simp [valuesOf, List.zip_map_right, List.filter_map, Function.comp_def]

theorem valuesOf_ms_map {β} (p : Pop) (role : Option Role) (g : Nat) (F : Member → β) :
    valuesOf p role g (p.ms.map F)
      = (p.ms.filter (fun m => m.group == g && roleOk role m)).map F := by
  simp [valuesOf, ← List.map_prod_left_eq_zip, List.filter_map, Function.comp_def]

theorem valuesOf_eq_range {α} (p : Pop) (a : List α) (d : α) (hlen : a.length = p.ms.length)
    (role : Option Role) (g : Nat) :
    valuesOf p role g a
      = ((List.range p.ms.length).filter fun i =>
          (p.ms.getD i default).group == g && roleOk role (p.ms.getD i default)).map fun i => a.getD i d := by
  unfold valuesOf
  rw [zip_eq_range_map p.ms a default d hlen, List.filter_map, List.map_map]
  rfl

theorem valuesOf_eq_idx {α} (p : Pop) (a : List α) (d : α) (hlen : a.length = p.ms.length)
    (role : Option Role) (g : Nat) :
    valuesOf p role g a
      = ((membersIdx p.ids g).filter (fun i => roleOk role (p.ms.getD i default))).map
          (fun i => a.getD i d) := by
  rw [valuesOf_eq_range p a d hlen, membersIdx, List.filter_filter, p.ids_length]
  exact congrArg _ (List.filter_congr fun i _ => by rw [p.ids_getD, Bool.and_comm])

theorem valuesOf_none_eq_idx {α} (p : Pop) (a : List α) (d : α) (hlen : a.length = p.ms.length)
    (g : Nat) : valuesOf p none g a = (membersIdx p.ids g).map (fun i => a.getD i d) := by
  rw [valuesOf_eq_idx p a d hlen none g]
  congr 1
  exact List.filter_eq_self.mpr (by simp [roleOk])

theorem valuesOf_length_none {α} (p : Pop) (a : List α) (hlen : a.length = p.ms.length) (g : Nat) :
    (valuesOf p none g a).length = p.ids.count g := by
  -- the index form needs a default value: count the values mapped to `()`
  rw [← List.length_map (f := fun _ => ()), ← valuesOf_map,
    valuesOf_none_eq_idx p _ () (by simpa using hlen), List.length_map, membersIdx_length]

theorem valuesOf_some_eq_idx {α} (p : Pop) (a : List α) (d : α) (hlen : a.length = p.ms.length)
    (r : Role) (g : Nat) :
    valuesOf p (some r) g a
      = ((membersIdx p.ids g).filter (fun i => (p.hasRole r).getD i false)).map (fun i => a.getD i d) := by
  rw [valuesOf_eq_idx p a d hlen (some r) g]
  congr 1
  apply List.filter_congr
  intro i hi
  rw [p.hasRole_getD r i (p.ids_length ▸ (mem_membersIdx.mp hi).1)]
  rfl

theorem valuesOf_perm {α} (p p' : Pop) (a a' : List α) (h : (p.ms.zip a).Perm (p'.ms.zip a'))
    (role : Option Role) (g : Nat) : (valuesOf p role g a).Perm (valuesOf p' role g a') :=
  (h.filter _).map _

theorem order_invariant_of_eq {α β ε} {p p' : Pop} {a a' : List α} {role : Option Role}
    {res res' : Except ε (List β)} {F : List α → β} (hn : p'.n = p.n)
    (hpa : (p.ms.zip a).Perm (p'.ms.zip a')) (hF : ∀ {l l'}, l.Perm l' → F l = F l')
    (h : res = .ok ((List.range p.n).map fun g => F (valuesOf p role g a)))
    (h' : res' = .ok ((List.range p'.n).map fun g => F (valuesOf p' role g a'))) : res' = res := by
  rw [h, h', hn]
  exact congrArg _ (List.map_congr_left fun g _ => (hF (valuesOf_perm p p' a a' hpa role g)).symm)

theorem ms_perm_of_zip {α} (p p' : Pop) (a a' : List α) (ha : a.length = p.ms.length)
    (ha' : a'.length = p'.ms.length) (h : (p.ms.zip a).Perm (p'.ms.zip a')) : p.ms.Perm p'.ms := by
  have := h.map Prod.fst
  rwa [List.map_fst_zip (by omega), List.map_fst_zip (by omega)] at this

theorem groupSum_eq (p : Pop) (a : List Int) (role : Option Role) (hlen : a.length = p.ms.length)
    (hg : ∀ m ∈ p.ms, m.group < p.n) :
    groupSum p a role = .ok ((List.range p.n).map fun g => (valuesOf p role g a).sum) := by
  unfold groupSum
  rw [if_neg (by omega)]
  cases role with
  | none =>
    simp only
    rw [bincountW_eq _ _ _ (ids_lt_of_ms p hg)]
    exact congrArg _ (List.map_congr_left fun g _ => by
      simp [valuesOf, Pop.ids, List.zip_map_left, List.filter_map, roleOk, Function.comp_def])
  | some r =>
    -- the two masked arrays are maps over the indices of the holders of the role
    simp only
    rw [maskSel_eq_idx _ p.ids 0 (p.hasRole_length r) p.ids_length,
      maskSel_eq_idx _ a 0 (p.hasRole_length r) hlen,
      bincountW_eq _ _ _ fun g hgm => by
        obtain ⟨i, hi, rfl⟩ := List.mem_map.mp hgm
        exact ids_lt_of_ms p hg _ (List.getD_mem_of_lt _ _
          (p.ids_length ▸ List.mem_range.mp (List.mem_filter.mp hi).1))]
    exact congrArg _ (List.map_congr_left fun g _ => by
      rw [valuesOf_some_eq_idx p a 0 hlen r g, membersIdx, p.ids_length, List.zip_map',
        List.filter_map, List.map_map, List.filter_filter, List.filter_filter]
      simp only [Function.comp_def, Bool.and_comm])

theorem groupAny_eq (p : Pop) (b : List Bool) (role : Option Role) (hlen : b.length = p.ms.length)
    (hg : ∀ m ∈ p.ms, m.group < p.n) :
    groupAny p b role = .ok ((List.range p.n).map fun g => (valuesOf p role g b).any id) := by
  unfold groupAny groupAnyI
  rw [groupSum_eq p (b.map b2i) role (by simpa using hlen) hg]
  simp only [List.map_map]
  congr 1
  apply List.map_congr_left
  intro g _
  simp only [Function.comp, valuesOf_map, sum_map_b2i, count_true_pos]

theorem nbPersons_eq (p : Pop) (role : Option Role) (hg : ∀ m ∈ p.ms, m.group < p.n) :
    nbPersons p role = .ok ((List.range p.n).map fun g =>
      ((p.ms.filter fun m => m.group == g && roleOk role m).length : Int)) := by
  cases role with
  | none =>
    unfold nbPersons
    simp only
    rw [bincount_eq _ _ (ids_lt_of_ms p hg)]
    congr 1
    apply List.map_congr_left
    intro g _
    simp [Pop.ids, List.count_eq_length_filter, List.filter_map, roleOk, Function.comp_def]
  | some r =>
    unfold nbPersons
    simp only
    rw [groupSum_eq p _ none (by simp [Pop.hasRole]) hg]
    congr 1
    apply List.map_congr_left
    intro g _
    rw [valuesOf_map, Pop.hasRole, valuesOf_ms_map, sum_map_b2i, List.count_eq_length_filter,
      List.filter_map, List.length_map, List.filter_filter]
    congr 2
    apply List.filter_congr
    intro m _
    simp [roleOk, Bool.and_comm]

theorem nbPersons_eq_sum_ones (p : Pop) (role : Option Role) (hg : ∀ m ∈ p.ms, m.group < p.n) :
    nbPersons p role = groupSum p (p.ms.map fun _ => 1) role := by
  rw [groupSum_eq p _ role (by simp) hg, nbPersons_eq p role hg]
  congr 1
  apply List.map_congr_left
  intro g _
  rw [valuesOf_ms_map, sum_map_one]

theorem sum_roles_partition (p : Pop) (a : List Int) (rs : List Role) (g : Nat)
    (hlen : a.length = p.ms.length)
    (hpart : ∀ m ∈ p.ms, (rs.filter fun r => r.holds m).length = 1) :
    (rs.map fun r => (valuesOf p (some r) g a).sum).sum = (valuesOf p none g a).sum := by
  rw [valuesOf_none_eq_idx p a 0 hlen g,
    ← sum_filter_family rs (fun r i => roleOk (some r) (p.ms.getD i default)) (fun i => a.getD i 0)
      (membersIdx p.ids g) fun i hi =>
        hpart _ (List.getD_mem_of_lt _ _ (p.ids_length ▸ (mem_membersIdx.mp hi).1))]
  exact congrArg List.sum (List.map_congr_left fun r _ => by
    rw [valuesOf_eq_idx p a 0 hlen (some r) g])

/-! `value_nth_person` and `value_from_person` select persons by a mask read along the members map and
write the selected values, in map order, at the groups the second mask designates.  When at most
one person is selected per group, any map sorting the persons by group selects them in the same
order (`filter_sorted_unique`), and every group receives the value of its one selected person
(`maskedAssign_heads`). -/

theorem orderedMap_filter_map {α} (p : Pop) (hg : ∀ m ∈ p.ms, m.group < p.n) (q : Nat → Bool)
    (f : Nat → α) :
    ((orderedMap p.ids).filter q).map f
      = (List.range p.n).flatMap fun g => ((membersIdx p.ids g).filter q).map f := by
  rw [orderedMap_eq _ _ (ids_lt_of_ms p hg), List.filter_flatMap, List.map_flatMap]

theorem validPositions_of_ids (p : Pop) (pos : List Nat) (hl : pos.length = p.ms.length)
    (h : ∀ g ∈ p.ids, ((membersOf p g).map fun i => pos.getD i 0).Perm
      (List.range (membersOf p g).length)) : ValidPositions p pos := by
  refine ⟨hl, fun g => ?_⟩
  by_cases hg : g ∈ p.ids
  · exact h g hg
  · have : membersOf p g = [] := by
      rw [membersOf_eq]
      exact List.filter_eq_nil_iff.mpr fun i hi hig =>
        hg (beq_iff_eq.mp hig ▸ List.getD_mem_of_lt _ _ (List.mem_range.mp hi))
    rw [this]
    exact List.Perm.refl _

theorem computed_positions_valid (p : Pop) :
    ValidPositions p ((List.range p.ids.length).map (posOf p.ids)) := by
  refine ⟨by simp [p.ids_length], fun g => ?_⟩
  rw [membersOf_eq, membersIdx_length, ← membersIdx_map_posOf]
  exact List.Perm.of_eq (List.map_congr_left fun i hi =>
    List.getD_range_map _ _ (mem_membersIdx.mp hi).1)

theorem validPositions_filter_length {p : Pop} {pos : List Nat} (hv : ValidPositions p pos)
    (k g : Nat) :
    ((membersIdx p.ids g).filter fun i => pos.getD i 0 == k).length
      = if k < p.ids.count g then 1 else 0 := by
  rw [← membersIdx_length]
  exact filter_beq_length_of_perm_range _ _ (membersOf_eq p g ▸ hv.2 g) k

theorem valueNthCore_map_irrelevant {α} (p : Pop) (pos mp mp' : List Nat) (hv : ValidPositions p pos)
    (hmp : SortsByGroup p.ids mp) (hmp' : SortsByGroup p.ids mp') (k : Nat) (a : List α) (d : α) :
    valueNthCore p pos mp k a d = valueNthCore p pos mp' k a d := by
  unfold valueNthCore
  rw [maskSel_takeD_beq, maskSel_takeD_beq,
    filter_sorted_unique p.ids mp mp' hmp hmp' _ fun g _ => by
      rw [validPositions_filter_length hv k g]; split <;> omega]

theorem valueNthCore_assigned {α} (p : Pop) (pos mp : List Nat) (hv : ValidPositions p pos)
    (hmp : SortsByGroup p.ids mp) (k : Nat) (a : List α) (d : α) (hlen : a.length = p.ms.length)
    (hg : ∀ m ∈ p.ms, m.group < p.n) :
    valueNthCore p pos mp k a d = .ok ((List.range p.n).map fun g =>
      (((membersOf p g).find? fun i => pos.getD i 0 == k).map fun i => a.getD i d).getD d) := by
  -- the positions of a group are `0 .. size-1`: one member has position `k` if `k < size`, none otherwise
  have hsel := validPositions_filter_length hv k
  rw [valueNthCore_map_irrelevant p pos mp _ hv hmp (orderedMap_sorts p.ids) k a d]
  unfold valueNthCore
  rw [if_neg (by omega), if_neg (by have := hv.1; omega)]
  simp only
  rw [bincount_eq _ _ (ids_lt_of_ms p hg), maskSel_takeD_beq, orderedMap_filter_map p hg,
    List.map_map]
  -- the groups designated by the mask are those with a selected member
  rw [List.map_congr_left (g := fun g => decide (0 < (((membersIdx p.ids g).filter
      fun i => pos.getD i 0 == k).map fun i => a.getD i d).length)) fun g _ => by
    simp only [Function.comp, List.length_map, hsel g, Int.ofNat_lt]
    split <;> simp [*],
    maskedAssign_heads _ _ d fun g _ => by rw [List.length_map, hsel g]; split <;> omega]
  exact congrArg _ (List.map_congr_left fun g _ => by
    rw [List.head?_map, List.head?_filter, membersOf_eq])

theorem valueNthWith_computed {α} (p : Pop) (mp : List Nat) (k : Nat) (a : List α) (d : α)
    (hne : p.ms ≠ []) :
    valueNthWith p mp k a d
      = valueNthCore p ((List.range p.ids.length).map (posOf p.ids)) mp k a d := by
  unfold valueNthWith
  rw [membersPosition_eq _ (p.ids_ne_nil hne)]
  split
  next hlen =>
    unfold valueNthCore
    rw [if_pos hlen]
  · rfl

theorem valueNth_eq {α} (p : Pop) (k : Nat) (a : List α) (d : α) (hlen : a.length = p.ms.length)
    (hne : p.ms ≠ []) (hg : ∀ m ∈ p.ms, m.group < p.n) :
    valueNth p k a d = .ok ((List.range p.n).map fun g => (valuesOf p none g a)[k]?.getD d) := by
  rw [valueNth, valueNthWith_computed p _ k a d hne,
    valueNthCore_assigned p _ _ (computed_positions_valid p) (orderedMap_sorts p.ids) k a d hlen hg]
  -- the member whose computed position is `k` is the `k`-th member
  exact congrArg _ (List.map_congr_left fun g _ => by
    rw [membersOf_eq, ← List.head?_filter,
      List.filter_congr fun i hi => by rw [List.getD_range_map _ _ (mem_membersIdx.mp hi).1],
      membersIdx_filter_posOf, Option.head?_toList, valuesOf_none_eq_idx p a d hlen g,
      List.getElem?_map])

theorem valueNthWith_eq {α} (p : Pop) (mp : List Nat) (hmp : SortsByGroup p.ids mp) (k : Nat)
    (a : List α) (d : α) : valueNthWith p mp k a d = valueNth p k a d := by
  by_cases hne : p.ms = []
  · unfold valueNth valueNthWith Pop.ids
    rw [hne]; rfl
  · rw [valueNth, valueNthWith_computed p _ k a d hne, valueNthWith_computed p _ k a d hne]
    exact valueNthCore_map_irrelevant p _ mp _ (computed_positions_valid p) hmp
      (orderedMap_sorts p.ids) k a d

theorem valueFromPerson_nf {α} (p : Pop) (a : List α) (r : Role) (d : α) (hmax : r.max = some 1)
    (hlen : a.length = p.ms.length) (hg : ∀ m ∈ p.ms, m.group < p.n) :
    valueFromPerson p a r d = maskedAssign (List.replicate p.n d)
      ((List.range p.n).map fun g => decide (0 < (valuesOf p (some r) g a).length))
      ((List.range p.n).flatMap fun g => valuesOf p (some r) g a) := by
  unfold valueFromPerson valueFromPersonWith
  rw [if_neg (by simp [hmax]), if_neg (by omega),
    groupAny_eq p (p.hasRole r) none (p.hasRole_length r) hg]
  simp only
  rw [maskSel_takeD, orderedMap_filter_map p hg]
  congr 1
  · apply List.map_congr_left
    intro g _
    rw [valuesOf_none_eq_idx p (p.hasRole r) false (p.hasRole_length r) g,
      valuesOf_some_eq_idx p a d hlen r g, any_map_eq_filter_pos, List.length_map]
  · exact flatMap_congr_left _ _ _ fun g _ => (valuesOf_some_eq_idx p a d hlen r g).symm

theorem valueFromPerson_eq {α} (p : Pop) (a : List α) (r : Role) (d : α) (hmax : r.max = some 1)
    (hlen : a.length = p.ms.length) (hg : ∀ m ∈ p.ms, m.group < p.n)
    (hu : ∀ g, g < p.n → (valuesOf p (some r) g a).length ≤ 1) :
    valueFromPerson p a r d
      = .ok ((List.range p.n).map fun g => (valuesOf p (some r) g a).head?.getD d) := by
  rw [valueFromPerson_nf p a r d hmax hlen hg, maskedAssign_heads _ _ d hu]

theorem valueFromPersonWith_eq {α} (p : Pop) (mp : List Nat) (hmp : SortsByGroup p.ids mp)
    (a : List α) (r : Role) (d : α) (hlen : a.length = p.ms.length)
    (hg : ∀ m ∈ p.ms, m.group < p.n)
    (hu : ∀ g, g < p.n → (valuesOf p (some r) g a).length ≤ 1) :
    valueFromPersonWith p mp a r d = valueFromPerson p a r d := by
  unfold valueFromPerson valueFromPersonWith
  rw [maskSel_takeD, maskSel_takeD,
    filter_sorted_unique p.ids mp (orderedMap p.ids) hmp (orderedMap_sorts p.ids)]
  intro g hgm
  have := hu g (ids_lt_of_ms p hg g hgm)
  rwa [valuesOf_some_eq_idx p a d hlen r, List.length_map] at this

theorem valueFromPerson_nonunique {α} (p : Pop) (a : List α) (r : Role) (d : α)
    (hlen : a.length = p.ms.length) (hg : ∀ m ∈ p.ms, m.group < p.n) (g0 : Nat) (hg0 : g0 < p.n)
    (h2 : 2 ≤ (valuesOf p (some r) g0 a).length) :
    ∃ e, valueFromPerson p a r d = .error e := by
  by_cases hmax : r.max = some 1
  · rw [valueFromPerson_nf p a r d hmax hlen hg]
    exact maskedAssign_two _ _ d g0 hg0 h2
  · exact error_of_ite hmax

theorem reduceUpTo_eq {α} (p : Pop) (f : List α) (op : α → α → α) (e : α)
    (hlen : f.length = p.ms.length) (hne : p.ms ≠ []) (hg : ∀ m ∈ p.ms, m.group < p.n)
    (hid : ∀ x, op x e = x) (m : Nat) :
    reduceUpTo p f op e m
      = .ok ((List.range p.n).map fun g => ((valuesOf p none g f).take m).foldl op e) := by
  induction m with
  | zero =>
    simp only [reduceUpTo, List.take_zero, List.foldl_nil]
    congr 1
    apply List.ext_getElem <;> simp
  | succ m ih =>
    simp only [reduceUpTo, ih, valueNth_eq p m f e hlen hne hg]
    congr 1
    rw [List.zipWith_map, List.zipWith_self]
    apply List.map_congr_left
    intro g _
    rw [List.take_add_one, List.foldl_append]
    cases (valuesOf p none g f)[m]? with
    | none => simp [hid]
    | some v => simp

theorem reduce_eq {α} (p : Pop) (a : List α) (op : α → α → α) (e : α) (role : Option Role)
    (hlen : a.length = p.ms.length) (hne : p.ms ≠ []) (hg : ∀ m ∈ p.ms, m.group < p.n)
    (hid : ∀ x, op x e = x) :
    reduce p a op e role = .ok ((List.range p.n).map fun g => (valuesOf p role g a).foldl op e) := by
  -- the loop runs over every position of the biggest group, hence over all members of each group
  have loop : ∀ f : List α, f.length = p.ms.length → reduceUpTo p f op e (biggest p)
      = .ok ((List.range p.n).map fun g => (valuesOf p none g f).foldl op e) := fun f hf => by
    rw [reduceUpTo_eq p f op e hf hne hg hid]
    exact congrArg _ (List.map_congr_left fun g _ => by
      rw [List.take_of_length_le (by rw [valuesOf_length_none p f hf g]; exact count_le_biggest p g)])
  unfold reduce
  rw [if_neg (by omega), membersPosition_eq _ (p.ids_ne_nil hne)]
  cases role with
  | none => exact loop a hlen
  | some r =>
    -- the persons outside the role carry the neutral element
    have hw := whereL_length (p.hasRole r) a e (p.hasRole_length r) hlen
    refine (loop _ hw).trans (congrArg _ (List.map_congr_left fun g _ => ?_))
    rw [valuesOf_none_eq_idx p _ e hw g, valuesOf_some_eq_idx p a e hlen r g,
      List.map_congr_left (g := fun i => if (p.hasRole r).getD i false then a.getD i e else e)
        fun i hi => whereL_getD _ _ _ (p.hasRole_length r) hlen i
          (p.ids_length ▸ (mem_membersIdx.mp hi).1),
      foldl_map_ite _ _ _ _ _ hid]

theorem groupAll_eq (p : Pop) (b : List Bool) (role : Option Role) (hlen : b.length = p.ms.length)
    (hne : p.ms ≠ []) (hg : ∀ m ∈ p.ms, m.group < p.n) :
    groupAll p b role = .ok ((List.range p.n).map fun g => (valuesOf p role g b).all id) := by
  unfold groupAll
  rw [reduce_eq p b _ true role hlen hne hg (by simp)]
  congr 1
  apply List.map_congr_left
  intro g _
  rw [foldl_and]; simp

theorem groupMin_eq (p : Pop) (a : List Int) (role : Option Role) (hlen : a.length = p.ms.length)
    (hne : p.ms ≠ []) (hg : ∀ m ∈ p.ms, m.group < p.n) :
    groupMin p a role
      = .ok ((List.range p.n).map fun g => ((valuesOf p role g a).map EInt.fin).foldl EInt.min .posInf) := by
  unfold groupMin
  rw [reduce_eq p _ _ _ role (by simpa using hlen) hne hg EInt.min_posInf]
  simp only [valuesOf_map]

theorem groupMax_eq (p : Pop) (a : List Int) (role : Option Role) (hlen : a.length = p.ms.length)
    (hne : p.ms ≠ []) (hg : ∀ m ∈ p.ms, m.group < p.n) :
    groupMax p a role
      = .ok ((List.range p.n).map fun g => ((valuesOf p role g a).map EInt.fin).foldl EInt.max .negInf) := by
  unfold groupMax
  rw [reduce_eq p _ _ _ role (by simpa using hlen) hne hg EInt.max_negInf]
  simp only [valuesOf_map]

/-- What `min` with `+inf` and `max` with `-inf` have in common. -/
structure PickFold (opE : EInt → EInt → EInt) (opI : Int → Int → Int) (e : EInt)
    (R : Int → Int → Prop) : Prop where
  fin : ∀ a b, opE (.fin a) (.fin b) = .fin (opI a b)
  neutral : ∀ a, opE e (.fin a) = .fin a
  pick : ∀ a b, opI a b = a ∨ opI a b = b
  left : ∀ a b, R (opI a b) a
  right : ∀ a b, R (opI a b) b
  refl : ∀ a, R a a
  trans : ∀ a b c, R a b → R b c → R a c
  antisymm : ∀ a b, R a b → R b a → a = b

theorem pickFold_min : PickFold EInt.min min .posInf (· ≤ ·) where
  fin a b := by simp only [EInt.min, EInt.le, Int.min_def, decide_eq_true_eq]; split <;> rfl
  neutral _ := rfl
  pick a b := by rw [Int.min_def]; split <;> simp
  left := Int.min_le_left
  right := Int.min_le_right
  refl := Int.le_refl
  trans _ _ _ := Int.le_trans
  antisymm _ _ := Int.le_antisymm

theorem pickFold_max : PickFold EInt.max max .negInf (fun a b => b ≤ a) where
  fin a b := by simp only [EInt.max, EInt.le, Int.max_def, decide_eq_true_eq]; split <;> rfl
  neutral _ := rfl
  pick a b := by rw [Int.max_def]; split <;> simp
  left := Int.le_max_left
  right := Int.le_max_right
  refl := Int.le_refl
  trans _ _ _ h1 h2 := Int.le_trans h2 h1
  antisymm _ _ h1 h2 := Int.le_antisymm h2 h1

namespace PickFold
variable {opE : EInt → EInt → EInt} {opI : Int → Int → Int} {e : EInt} {R : Int → Int → Prop}
  (h : PickFold opE opI e R)
include h

theorem int : ∀ (t : List Int) (a : Int),
    t.foldl opI a ∈ a :: t ∧ ∀ y ∈ a :: t, R (t.foldl opI a) y
  | [], a => ⟨List.mem_singleton.mpr rfl, fun y hy => List.mem_singleton.mp hy ▸ h.refl a⟩
  | b :: t, a => by
    obtain ⟨h1, h2⟩ := int t (opI a b)
    have hm := h2 (opI a b) List.mem_cons_self
    refine ⟨?_, fun y hy => ?_⟩
    · rcases List.mem_cons.1 h1 with e1 | e1
      · rw [List.foldl_cons, e1]
        rcases h.pick a b with e2 | e2 <;> simp [e2]
      · exact List.mem_cons_of_mem _ (List.mem_cons_of_mem _ e1)
    · rcases List.mem_cons.1 hy with rfl | hy
      · exact h.trans _ _ _ hm (h.left _ b)
      · rcases List.mem_cons.1 hy with rfl | hy
        · exact h.trans _ _ _ hm (h.right a _)
        · exact h2 y (List.mem_cons_of_mem _ hy)

theorem int_perm {a a' : Int} {t t' : List Int} (hp : (a :: t).Perm (a' :: t')) :
    t.foldl opI a = t'.foldl opI a' :=
  h.antisymm _ _ ((h.int t a).2 _ (hp.mem_iff.mpr (h.int t' a').1))
    ((h.int t' a').2 _ (hp.mem_iff.mp (h.int t a).1))

theorem cons (a : Int) (t : List Int) :
    ((a :: t).map EInt.fin).foldl opE e = .fin (t.foldl opI a) := by
  rw [List.map_cons, List.foldl_cons, h.neutral]
  induction t generalizing a with
  | nil => rfl
  | cons b t ih => rw [List.map_cons, List.foldl_cons, h.fin, ih, List.foldl_cons]

theorem spec (l : List Int) :
    (l = [] → (l.map EInt.fin).foldl opE e = e) ∧
    (l ≠ [] → ∃ m ∈ l, (l.map EInt.fin).foldl opE e = .fin m ∧ ∀ x ∈ l, R m x) := by
  refine ⟨fun hl => hl ▸ rfl, fun hl => ?_⟩
  match l, hl with
  | a :: t, _ => exact ⟨_, (h.int t a).1, h.cons a t, (h.int t a).2⟩

theorem perm {l₁ l₂ : List Int} (hp : l₁.Perm l₂) :
    (l₁.map EInt.fin).foldl opE e = (l₂.map EInt.fin).foldl opE e := by
  match l₁, l₂, hp with
  | [], _, hp => rw [hp.nil_eq]
  | _ :: _, [], hp => exact absurd hp.eq_nil (List.cons_ne_nil _ _)
  | a :: t, a' :: t', hp => rw [h.cons, h.cons, h.int_perm hp]

theorem replicate (k : Nat) (v : Int) :
    ((List.replicate k v).map EInt.fin).foldl opE e = if 0 < k then .fin v else e := by
  cases k with
  | zero => rfl
  | succ k =>
    have hconst : ∀ n, (List.replicate n v).foldl opI v = v := by
      intro n
      induction n with
      | zero => rfl
      | succ n ih => rw [List.replicate_succ, List.foldl_cons, (h.pick v v).elim id id, ih]
    rw [List.replicate_succ, h.cons, hconst, if_pos (by omega)]

theorem of_eq {ε} {res : Except ε (List EInt)} {n : Nat} {V : Nat → List Int}
    (hres : res = .ok ((List.range n).map fun g => ((V g).map EInt.fin).foldl opE e)) :
    ∃ r, res = .ok r ∧ r.length = n ∧ ∀ g, g < n →
      r[g]? = some (((V g).map EInt.fin).foldl opE e) ∧
      (V g = [] → r[g]? = some e) ∧
      (V g ≠ [] → ∃ m ∈ V g, r[g]? = some (.fin m) ∧ ∀ x ∈ V g, R m x) := by
  obtain ⟨r, hr, hl, hg⟩ := ok_range_map hres
  refine ⟨r, hr, hl, fun g hgn => ⟨hg g hgn, fun he => ?_, fun hn => ?_⟩⟩
  · rw [hg g hgn, (h.spec _).1 he]
  · obtain ⟨m, hm, h1, h2⟩ := (h.spec _).2 hn
    exact ⟨m, hm, by rw [hg g hgn, h1], h2⟩

end PickFold

theorem project_eq {α} (p : Pop) (x : List α) (zero : α) (role : Option Role)
    (hx : x.length = p.n) (hg : ∀ m ∈ p.ms, m.group < p.n) :
    project p x zero role
      = .ok (p.ms.map fun m => if roleOk role m then x.getD m.group zero else zero) := by
  unfold project
  have hany : (p.ids.any fun g => decide (x.length ≤ g)) = false := by
    rw [List.any_eq_false]
    intro g hgm
    have := ids_lt_of_ms p hg g hgm
    simp; omega
  rw [if_neg (by omega), hany]
  simp only [Bool.false_eq_true, if_false]
  cases role with
  | none => simp [takeD, Pop.ids, roleOk]
  | some r =>
    simp only [takeD, Pop.ids, Pop.hasRole, List.map_map, roleOk]
    rw [whereL_map]
    rfl

theorem project_none {α} (p : Pop) (x : List α) (zero : α) (hx : x.length = p.n)
    (hg : ∀ m ∈ p.ms, m.group < p.n) :
    project p x zero none = .ok (p.ms.map fun m => x.getD m.group zero) :=
  project_eq p x zero none hx hg

theorem project_range_map {α} (p : Pop) (F : Nat → α) (zero : α) (hg : ∀ m ∈ p.ms, m.group < p.n) :
    project p ((List.range p.n).map F) zero none = .ok (p.ms.map fun m => F m.group) := by
  rw [project_none p _ zero (by simp) hg]
  exact congrArg _ (List.map_congr_left fun m hm => List.getD_range_map _ _ (hg m hm))

theorem valueFromPartner_eq {α} (p : Pop) (a : List α) (role : Role) (zero : α) (s1 s2 : Nat)
    (hsubs : role.subs = [s1, s2]) (hlen : a.length = p.ms.length)
    (hg : ∀ m ∈ p.ms, m.group < p.n)
    (hu1 : ∀ g, g < p.n → (valuesOf p (some ⟨s1, [], some 1⟩) g a).length ≤ 1)
    (hu2 : ∀ g, g < p.n → (valuesOf p (some ⟨s2, [], some 1⟩) g a).length ≤ 1) :
    valueFromPartner p a role zero = .ok (p.ms.map fun m =>
      if m.role = s1 then (valuesOf p (some ⟨s2, [], some 1⟩) m.group a).head?.getD zero
      else if m.role = s2 then (valuesOf p (some ⟨s1, [], some 1⟩) m.group a).head?.getD zero
      else zero) := by
  unfold valueFromPartner
  rw [if_neg (by omega), hsubs]
  simp only [valueFromPerson_eq p a ⟨s1, [], some 1⟩ zero rfl hlen hg hu1,
    valueFromPerson_eq p a ⟨s2, [], some 1⟩ zero rfl hlen hg hu2, project_range_map p _ zero hg,
    select2_map]
  simp [Role.holds]

theorem valuesOf_broadcast {α} (p : Pop) (role : Option Role) (g : Nat) (x : List α) (z : α) :
    valuesOf p role g (p.ms.map fun m => x.getD m.group z)
      = List.replicate (p.ms.filter fun m => m.group == g && roleOk role m).length (x.getD g z) := by
  rw [valuesOf_ms_map]
  apply List.eq_replicate_iff.mpr
  refine ⟨by simp, ?_⟩
  intro v hv
  obtain ⟨m, hm, rfl⟩ := List.mem_map.mp hv
  have := (List.mem_filter.mp hm).2
  simp only [Bool.and_eq_true, beq_iff_eq] at this
  rw [this.1]

theorem head?_broadcast {α} (p : Pop) (role : Option Role) (g : Nat) (x : List α) (z : α) :
    (valuesOf p role g (p.ms.map fun m => x.getD m.group z)).head?.getD z
      = if (p.ms.any fun m => m.group == g && roleOk role m) then x.getD g z else z := by
  have hany : (p.ms.any fun m => m.group == g && roleOk role m)
      = decide (0 < (p.ms.filter fun m => m.group == g && roleOk role m).length) := by
    rw [← any_map_eq_filter_pos, List.any_map]
    rfl
  rw [valuesOf_broadcast, hany]
  cases (p.ms.filter fun m => m.group == g && roleOk role m).length <;> rfl

theorem bubbleUp_append {α} (p : World) (z : α) (ps qs : List Proj) (x : List α) :
    bubbleUp p z (ps ++ qs) x
      = match bubbleUp p z ps x with
        | .error e => .error e
        | .ok y => bubbleUp p z qs y := by
  induction ps generalizing x with
  | nil => rfl
  | cons pr ps ih =>
    simp only [List.cons_append, bubbleUp]
    cases transform p z pr x with
    | error e => rfl
    | ok y => exact ih y

theorem bubbleUp_pair {α} {w : World} {z : α} {pr pr' : Proj} {x y y' : List α}
    (h : transform w z pr x = .ok y) (h' : transform w z pr' y = .ok y') :
    bubbleUp w z [pr, pr'] x = .ok y' := by
  simp only [bubbleUp, h, h']

theorem resolveAcc_append (w : World) (pre ss : List Shortcut) (acc : List Proj) (lvl : Level) :
    resolveAcc w acc lvl (pre ++ ss)
      = match resolveAcc w acc lvl pre with
        | .error e => .error e
        | .ok (acc', lvl') => resolveAcc w acc' lvl' ss := by
  induction pre generalizing acc lvl with
  | nil => rfl
  | cons s pre ih =>
    cases s with
    | members =>
      cases lvl with
      | person => rfl
      | group e' => simp only [List.cons_append, resolveAcc]; exact ih _ _
    | entity _ | firstPerson | role _ | other =>
      simp only [List.cons_append, resolveAcc]
      generalize resolve w lvl _ = q
      cases q with
      | none => rfl
      | some q => exact ih _ _

theorem transform_toPerson {α} (w : World) (e : Nat) (p : Pop) (hp : w.pop e = p) (z : α) (x : List α)
    (hx : x.length = p.n) (hg : ∀ m ∈ p.ms, m.group < p.n) :
    transform w z (.toPerson e) x = .ok (p.ms.map fun m => x.getD m.group z) := by
  subst hp
  exact project_none (w.pop e) x z hx hg

theorem transform_firstPerson {α} (w : World) (e : Nat) (p : Pop) (hp : w.pop e = p) (z : α) (y : List α)
    (hy : y.length = p.ms.length) (hne : p.ms ≠ []) (hg : ∀ m ∈ p.ms, m.group < p.n) :
    transform w z (.firstPerson e) y = .ok ((List.range p.n).map fun g => (valuesOf p none g y)[0]?.getD z) := by
  subst hp
  simp only [transform, valueFromFirst, valueNth_eq (w.pop e) 0 y z hy hne hg]

theorem transform_uniqueRole {α} (w : World) (e : Nat) (p : Pop) (hp : w.pop e = p) (z : α) (r : Role)
    (y : List α) (hmax : r.max = some 1)
    (hy : y.length = p.ms.length) (hg : ∀ m ∈ p.ms, m.group < p.n)
    (hu : ∀ g, g < p.n → (valuesOf p (some r) g y).length ≤ 1) :
    transform w z (.uniqueRole e r) y
      = .ok ((List.range p.n).map fun g => (valuesOf p (some r) g y).head?.getD z) := by
  subst hp
  simp only [transform, valueFromPerson_eq (w.pop e) y r z hmax hy hg hu]

end OFCore.Grp
