import OFCore.Lemmas.SetInputStore
import OFCore.Lemmas.InsertionSort
/-! C16, the order of several divide inputs: a long input can be deferred past the inputs inside it or apart from it (one
simulation, with `Filled` as its relation); hence every accepted order of a laminar family gives the same store as the
shortest-first order. -/
namespace OFCore

/-- `t` lies between `s` and the filling of `s` with `c` on `subs` -/
def Mid (s : Store) (subs : List Period) (c : Vec) (t : Store) : Prop :=
  ∀ q, sget t q = sget s q ∨ (sget s q = none ∧ q ∈ subs ∧ sget t q = some c)

theorem runDivide_cons_ok {k : VKind} {s t : Store} {l : List Period} {a : Vec}
    {r : List DCall} :
    runDivide k s ((l, a) :: r) = .ok t ↔ ∃ s', divideOn k s l a = .ok s' ∧ runDivide k s' r = .ok t := by
  rw [runDivide]
  cases divideOn k s l a <;> simp

theorem runDivide_append_ok {k : VKind} {s t : Store} {c1 c2 : List DCall} :
    runDivide k s (c1 ++ c2) = .ok t ↔ ∃ s', runDivide k s c1 = .ok s' ∧ runDivide k s' c2 = .ok t := by
  induction c1 generalizing s with
  | nil => exact ⟨fun h => ⟨s, rfl, h⟩, fun ⟨_, h1, h2⟩ => Except.ok.inj h1 ▸ h2⟩
  | cons x xs ih =>
    obtain ⟨l, a⟩ := x
    simp only [List.cons_append, runDivide_cons_ok, ih]
    exact ⟨fun ⟨s1, hd, s', h1, h2⟩ => ⟨s', ⟨s1, hd, h1⟩, h2⟩, fun ⟨s', ⟨s1, hd, h1⟩, h2⟩ => ⟨s1, hd, s', h1, h2⟩⟩

theorem runDivide_one {k : VKind} {s t : Store} {l : List Period} {a : Vec} :
    runDivide k s [(l, a)] = .ok t ↔ divideOn k s l a = .ok t := by
  rw [runDivide_cons_ok]
  exact ⟨fun ⟨_, hd, h⟩ => Except.ok.inj h ▸ hd, fun hd => ⟨t, hd, rfl⟩⟩

theorem runDivide_step {k : VKind} {s s' : Store} {subs : List Period} {a : Vec} (r : List DCall)
    (h : divideOn k s subs a = .ok s') : runDivide k s ((subs, a) :: r) = runDivide k s' r := by
  rw [runDivide, h]

theorem runDivide_inv {k : VKind} (P : Store → Prop) {calls : List DCall}
    (step : ∀ s l a s', (l, a) ∈ calls → P s → divideOn k s l a = .ok s' → P s') {s t : Store}
    (hs : P s) (h : runDivide k s calls = .ok t) : P t := by
  induction calls generalizing s with
  | nil => exact Except.ok.inj h ▸ hs
  | cons x xs ih =>
    obtain ⟨l, a⟩ := x
    obtain ⟨s', hd, h⟩ := runDivide_cons_ok.1 h
    exact ih (fun s l a s' hm => step s l a s' (List.mem_cons_of_mem _ hm))
      (step s l a s' List.mem_cons_self hs hd) h

theorem runDivide_wf {n : Nat} {s t : Store} {calls : List DCall} (hwf : WF n s)
    (hc : ∀ lx, lx ∈ calls → lx.2.length = n) (h : runDivide .num s calls = .ok t) : WF n t :=
  runDivide_inv (WF n) (fun _ l a _ hm hs hd => divideOn_wf hs (hc (l, a) hm) hd) hwf h

theorem sameStore_refl (s : Store) : SameStore s s := fun _ => rfl

theorem sameStore_symm {s t : Store} (h : SameStore s t) : SameStore t s := fun q => (h q).symm

theorem sameStore_trans {s t u : Store} (h1 : SameStore s t) (h2 : SameStore t u) : SameStore s u :=
  fun q => (h1 q).trans (h2 q)

theorem dispatchOn_congr {s s' : Store} (h : SameStore s s') (l : List Period) (c : Vec) :
    SameStore (dispatchOn s l c) (dispatchOn s' l c) := by
  intro q; rw [sget_dispatchOn, sget_dispatchOn, h q]

/-- `divide` only reads the store through `get_array` -/
theorem divideOn_congr {k : VKind} {s s' t : Store} {l : List Period} {a : Vec} (h : SameStore s s')
    (hd : divideOn k s l a = .ok t) : ∃ t', divideOn k s' l a = .ok t' ∧ SameStore t t' := by
  have e : tally s l a = tally s' l a := by
    have : tallyStep s = tallyStep s' := by funext acc q; unfold tallyStep; rw [h q]
    unfold tally; rw [this]
  unfold divideOn at hd ⊢
  simp only [← e] at hd ⊢
  split at hd
  · rename_i hpos
    rw [if_pos hpos]
    injection hd with hd; subst hd
    exact ⟨_, rfl, dispatchOn_congr h l _⟩
  · rename_i hpos
    rw [if_neg hpos]
    split at hd
    · rename_i hz
      rw [if_pos hz]
      injection hd with hd; subst hd
      exact ⟨_, rfl, h⟩
    · cases hd

theorem runDivide_congr {k : VKind} {s s' t : Store} {calls : List DCall} (h : SameStore s s')
    (hr : runDivide k s calls = .ok t) : ∃ t', runDivide k s' calls = .ok t' ∧ SameStore t t' := by
  induction calls generalizing s s' with
  | nil => simp only [runDivide] at hr ⊢; injection hr with hr; subst hr; exact ⟨_, rfl, h⟩
  | cons x xs ih =>
    obtain ⟨l, a⟩ := x
    obtain ⟨s1, hd, hr⟩ := runDivide_cons_ok.1 hr
    obtain ⟨s1', hd', hs1⟩ := divideOn_congr h hd
    obtain ⟨t', ht', hsame⟩ := ih hs1 hr
    exact ⟨t', runDivide_cons_ok.2 ⟨s1', hd', ht'⟩, hsame⟩

/-! A long input `(L, a)` stores a share `c` on the unknown pieces of `L`. Run the later inputs from the store without that
filling (`t`) as well: while each of them lies inside `L` or apart from it, the store with the long input (`s1`) stays the
`L`-filling (with `c`) of `t`, and at the end `t` accepts the long input with the same share. -/

theorem Filled.unique {s t t' : Store} {l : List Period} {c : Vec} (h : Filled s l c t) (h' : Filled s l c t') :
    SameStore t t' := fun q => (h q).trans (h' q).symm

theorem Filled.absorb {t t' s1 : Store} {L d : List Period} {c : Vec} (hf : Filled t L c s1)
    (ht : Filled t d c t') (hin : ∀ q, q ∈ d → q ∈ L) : Filled t' L c s1 := by
  intro q
  rw [hf q, ht q]
  cases sget t q with
  | some v => rfl
  | none =>
    by_cases hq : q ∈ d
    · simp [hq, hin q hq]
    · simp [hq]

theorem Filled.comm {t t' s1 s1' : Store} {L d : List Period} {c e : Vec} (hf : Filled t L c s1)
    (hd : Filled s1 d e s1') (ht : Filled t d e t') (hdis : ∀ q, q ∈ L → q ∉ d) : Filled t' L c s1' := by
  intro q
  rw [hd q, hf q, ht q]
  cases sget t q with
  | some v => rfl
  | none =>
    by_cases hq : q ∈ L
    · simp [hq, hdis q hq]
    · by_cases hq' : q ∈ d <;> simp [hq, hq']

theorem divideOn_defer {t s1 s1' : Store} {L d : List Period} {c x : Vec} (hwt : WF x.length t)
    (hcl : c.length = x.length) (hf : Filled t L c s1)
    (hd : (∀ q, q ∈ d → q ∈ L) ∨ (∀ q, q ∈ L → q ∉ d)) (h : divideOn .num s1 d x = .ok s1') :
    ∃ t', divideOn .num t d x = .ok t' ∧ Filled t' L c s1' ∧ WF x.length t' := by
  obtain ⟨e, hel, hsum, rfl⟩ := (divideOn_num_ok_iff (hf.wf hwt hcl)).1 h
  rcases hd with hin | hdis
  · -- inside `L`: `s1` knows every piece, so the amount is their total and nothing is written, and `t`
    -- accepts it with the share `c` of the long input
    have hk : ∀ q, q ∈ d → sget s1 q ≠ none := fun q hq => hf.known q (hin q hq)
    have hft := dispatchOn_filled t d c
    rw [dispatchOn_all_known s1 d e hk]
    refine ⟨_, (divideOn_num_ok_iff hwt).2 ⟨c, hcl, fun i => ?_, rfl⟩, hf.absorb hft hin, hft.wf hwt hcl⟩
    rw [hsum i, unknownCount_zero_iff.2 hk, knownSum_filled_sub hf d hin i]; push_cast; ring
  · -- apart from `L`: both stores show the same on `d`
    have hag : ∀ q, q ∈ d → sget s1 q = sget t q := fun q hq => hf.of_not_mem fun h => hdis q h hq
    have hft := dispatchOn_filled t d e
    refine ⟨_, (divideOn_num_ok_iff hwt).2 ⟨e, hel, fun i => ?_, rfl⟩,
      hf.comm (dispatchOn_filled s1 d e) hft hdis, hft.wf hwt hel⟩
    rw [hsum i, knownSum_congr hag, unknownCount_congr hag]

theorem runDivide_defer {n : Nat} {L : List Period} {c : Vec} (hcl : c.length = n) {calls : List DCall}
    (hc : ∀ d, d ∈ calls → d.2.length = n ∧ ((∀ q, q ∈ d.1 → q ∈ L) ∨ (∀ q, q ∈ L → q ∉ d.1)))
    {t s1 s2 : Store} (hwt : WF n t) (hf : Filled t L c s1) (h : runDivide .num s1 calls = .ok s2) :
    ∃ t', runDivide .num t calls = .ok t' ∧ Filled t' L c s2 ∧ WF n t' := by
  induction calls generalizing t s1 with
  | nil => exact ⟨t, rfl, Except.ok.inj h ▸ hf, hwt⟩
  | cons x xs ih =>
    obtain ⟨d, a⟩ := x
    obtain ⟨ha, hd⟩ := hc (d, a) List.mem_cons_self
    subst ha
    obtain ⟨s1', h1, h⟩ := runDivide_cons_ok.1 h
    obtain ⟨t1, ht1, hf1, hw1⟩ := divideOn_defer hwt hcl hf hd h1
    obtain ⟨t', ht', hf', hw'⟩ := ih (fun d hd => hc d (List.mem_cons_of_mem _ hd)) hw1 hf1 h
    exact ⟨t', runDivide_cons_ok.2 ⟨t1, ht1, ht'⟩, hf', hw'⟩

theorem runDivide_keeps {k : VKind} {s t : Store} {calls : List DCall} (h : runDivide k s calls = .ok t)
    (q : Period) (v : Vec) (hq : sget s q = some v) : sget t q = some v :=
  runDivide_inv (fun s => sget s q = some v) (fun _ _ _ _ _ hs hd => divideOn_keeps hd hs) hq h

theorem runDivide_long_last {n : Nat} {s t : Store} {L : List Period} {a : Vec} {calls : List DCall}
    (hwf : WF n s) (ha : a.length = n)
    (hc : ∀ d, d ∈ calls → d.2.length = n ∧ ((∀ q, q ∈ d.1 → q ∈ L) ∨ (∀ q, q ∈ L → q ∉ d.1)))
    (h : runDivide .num s ((L, a) :: calls) = .ok t) :
    ∃ t', runDivide .num s (calls ++ [(L, a)]) = .ok t' ∧ SameStore t' t := by
  subst ha
  obtain ⟨s1, hd, h⟩ := runDivide_cons_ok.1 h
  have hst := (divideOn_settled hwf hd).of_keeps (runDivide_keeps h)
  obtain ⟨c, hcl, -, rfl⟩ := (divideOn_num_ok_iff hwf).1 hd
  obtain ⟨t0, hr, hf0, hw0⟩ := runDivide_defer hcl hc hwf (dispatchOn_filled s L c) h
  -- the long input is still settled in `t`, which is the `L`-filling of `t0`
  have hd' := (divideOn_num_ok_iff hw0).2 ⟨c, hcl, fun i => by rw [← knownSum_filled hf0, hst.2 i], rfl⟩
  exact ⟨_, runDivide_append_ok.2 ⟨t0, hr, runDivide_one.2 hd'⟩, (dispatchOn_filled t0 L c).unique hf0⟩

/-- `c` goes after the calls with strictly fewer pieces and before the first with as many or more -/
def insertCall (c : List Period × Vec) : List (List Period × Vec) → List (List Period × Vec)
  | [] => [c]
  | d :: r => if d.1.length < c.1.length then d :: insertCall c r else c :: d :: r

def shortestFirst : List (List Period × Vec) → List (List Period × Vec)
  | [] => []
  | c :: r => insertCall c (shortestFirst r)

/-- nested or disjoint: a call with fewer pieces lies inside or apart from a call with more -/
def Laminar (calls : List (List Period × Vec)) : Prop :=
  ∀ c, c ∈ calls → ∀ d, d ∈ calls → d.1.length < c.1.length →
    (∀ q, q ∈ d.1 → q ∈ c.1) ∨ (∀ q, q ∈ c.1 → q ∉ d.1)

instance (calls : List (List Period × Vec)) : Decidable (Laminar calls) := by
  unfold Laminar; infer_instance

def callLe (c d : DCall) : Bool := !decide (d.1.length < c.1.length)

theorem insertCall_cons (c d : DCall) (r : List DCall) :
    insertCall c (d :: r) = if callLe c d then c :: d :: r else d :: insertCall c r := by
  rw [insertCall, callLe]; by_cases h : d.1.length < c.1.length <;> simp [h]

theorem insertCall_eq_insertBy (c : DCall) (r : List DCall) : insertCall c r = Srt.insertBy callLe c r :=
  Srt.insertBy_unique (ins := insertCall) (fun _ => rfl) insertCall_cons c r

theorem shortestFirst_eq (l : List DCall) : shortestFirst l = Srt.sortBy callLe l :=
  Srt.sortBy_unique (ins := insertCall) (fun _ => rfl) insertCall_cons rfl (fun _ _ => rfl) l

theorem perm_shortestFirst (l : List DCall) : (shortestFirst l).Perm l :=
  shortestFirst_eq l ▸ Srt.sortBy_perm _ l

theorem mem_shortestFirst (x : DCall) (l : List DCall) : x ∈ shortestFirst l ↔ x ∈ l :=
  (perm_shortestFirst l).mem_iff

theorem runDivide_move_past {n : Nat} (c : DCall) (hc : c.2.length = n) (A B : List DCall)
    (hA : ∀ d, d ∈ A → d.2.length = n ∧ ((∀ q, q ∈ d.1 → q ∈ c.1) ∨ (∀ q, q ∈ c.1 → q ∉ d.1)))
    {s t : Store} (hwf : WF n s) (h : runDivide .num s (c :: (A ++ B)) = .ok t) :
    ∃ t', runDivide .num s (A ++ c :: B) = .ok t' ∧ SameStore t' t := by
  obtain ⟨sA, hcA, hB⟩ := runDivide_append_ok.1 (List.cons_append ▸ h)
  obtain ⟨tA, hAc, hsame⟩ := runDivide_long_last hwf hc hA hcA
  obtain ⟨t', hB', hs⟩ := runDivide_congr (sameStore_symm hsame) hB
  exact ⟨t', (List.append_cons A c B).symm ▸ runDivide_append_ok.2 ⟨tA, hAc, hB'⟩, sameStore_symm hs⟩

theorem runDivide_insertCall {n : Nat} (c : DCall) (hc : c.2.length = n)
    (r : List DCall) (hr : ∀ d, d ∈ r → d.2.length = n)
    (hlam : ∀ d, d ∈ r → d.1.length < c.1.length →
      (∀ q, q ∈ d.1 → q ∈ c.1) ∨ (∀ q, q ∈ c.1 → q ∉ d.1))
    {s t : Store} (hwf : WF n s) (h : runDivide .num s (c :: r) = .ok t) :
    ∃ t', runDivide .num s (insertCall c r) = .ok t' ∧ SameStore t' t := by
  obtain ⟨A, B, rfl, hi, hA⟩ := Srt.insertBy_eq_append callLe c r
  rw [insertCall_eq_insertBy, hi]
  exact runDivide_move_past c hc A B (fun d hd => ⟨hr d (List.mem_append_left _ hd),
    hlam d (List.mem_append_left _ hd) (by simpa [callLe] using hA d hd)⟩) hwf h

/-- any accepted order of a nested-or-disjoint family of divide inputs gives the same store as the shortest-first
    order, which is accepted too -/
theorem runDivide_shortestFirst {n : Nat} (calls : List DCall)
    (hlen : ∀ d, d ∈ calls → d.2.length = n) (hlam : Laminar calls)
    {s t : Store} (hwf : WF n s) (h : runDivide .num s calls = .ok t) :
    ∃ t', runDivide .num s (shortestFirst calls) = .ok t' ∧ SameStore t' t := by
  induction calls generalizing s t with
  | nil => exact ⟨t, h, sameStore_refl t⟩
  | cons c r ih =>
    obtain ⟨c1, c2⟩ := c
    obtain ⟨s1, hd, h⟩ := runDivide_cons_ok.1 h
    have hc := hlen (c1, c2) List.mem_cons_self
    have hlam' : Laminar r := fun a ha b hb => hlam a (List.mem_cons_of_mem _ ha) b (List.mem_cons_of_mem _ hb)
    obtain ⟨t1, ht1, hsame1⟩ := ih (fun d hd => hlen d (List.mem_cons_of_mem _ hd)) hlam'
      (divideOn_wf hwf hc hd) h
    obtain ⟨t2, ht2, hsame2⟩ := runDivide_insertCall (c1, c2) hc (shortestFirst r)
      (fun d hd => hlen d (List.mem_cons_of_mem _ ((mem_shortestFirst d r).mp hd)))
      (fun d hd hlt => hlam (c1, c2) List.mem_cons_self d
        (List.mem_cons_of_mem _ ((mem_shortestFirst d r).mp hd)) hlt)
      hwf (runDivide_cons_ok.2 ⟨s1, hd, ht1⟩)
    exact ⟨t2, ht2, sameStore_trans hsame2 hsame1⟩

/-- `Laminar`, and inputs with equally many pieces are on the same pieces or on disjoint ones: two overlapping periods
with equally many pieces — calendar year 2018 and rolling year 2018-07 — are excluded, and for them the order does matter -/
def StrictLaminar (calls : List DCall) : Prop :=
  ∀ c, c ∈ calls → ∀ d, d ∈ calls → d.1.length ≤ c.1.length →
    (d.1.length < c.1.length ∧ ∀ q, q ∈ d.1 → q ∈ c.1) ∨ (∀ q, q ∈ c.1 → q ∉ d.1) ∨ d.1 = c.1

instance (calls : List DCall) : Decidable (StrictLaminar calls) := by
  unfold StrictLaminar; infer_instance

def ByLength (l : List DCall) : Prop := l.Pairwise (fun c d => c.1.length ≤ d.1.length)

/-- any accepted order against any shortest-first arrangement of the same inputs -/
theorem runDivide_perm_sorted {n : Nat} (calls : List DCall) (hlen : ∀ d, d ∈ calls → d.2.length = n)
    (hlam : StrictLaminar calls) {s t : Store} (hwf : WF n s) (h : runDivide .num s calls = .ok t)
    (calls' : List DCall) (hp : calls'.Perm calls) (hs : ByLength calls') :
    ∃ t', runDivide .num s calls' = .ok t' ∧ SameStore t' t := by
  induction calls generalizing s t calls' with
  | nil => obtain rfl := List.Perm.eq_nil hp; exact ⟨t, h, sameStore_refl t⟩
  | cons c r ih =>
    obtain ⟨A, B, rfl⟩ := List.append_of_mem (hp.symm.subset List.mem_cons_self)
    have hp' : (A ++ B).Perm r := ((List.perm_middle.symm).trans hp).cons_inv
    have hs' : ByLength (A ++ B) :=
      hs.sublist (List.Sublist.append (List.Sublist.refl A) (List.sublist_cons_self c B))
    obtain ⟨s1, hd, h⟩ := runDivide_cons_ok.1 h
    have hc := hlen c List.mem_cons_self
    obtain ⟨t1, ht1, hsame1⟩ := ih (fun d hd => hlen d (List.mem_cons_of_mem _ hd))
      (fun a ha b hb => hlam a (List.mem_cons_of_mem _ ha) b (List.mem_cons_of_mem _ hb))
      (divideOn_wf hwf hc hd) h (A ++ B) hp' hs'
    have hAmem : ∀ d, d ∈ A → d ∈ r := fun d hd => hp'.subset (List.mem_append_left B hd)
    have hAle : ∀ d, d ∈ A → d.1.length ≤ c.1.length := fun d hd =>
      (List.pairwise_append.1 hs).2.2 d hd c List.mem_cons_self
    obtain ⟨t2, ht2, hsame2⟩ := runDivide_move_past c hc A B
      (fun d hd => ⟨hlen d (List.mem_cons_of_mem _ (hAmem d hd)), by
        -- equally many pieces on the same pieces is the nested case
        rcases hlam c List.mem_cons_self d (List.mem_cons_of_mem _ (hAmem d hd)) (hAle d hd) with h | h | h
        · exact .inl h.2
        · exact .inr h
        · exact .inl fun q hq => h ▸ hq⟩)
      hwf (runDivide_cons_ok.2 ⟨s1, hd, ht1⟩)
    exact ⟨t2, ht2, sameStore_trans hsame2 hsame1⟩

theorem byLength_shortestFirst (l : List DCall) : ByLength (shortestFirst l) :=
  shortestFirst_eq l ▸
    (Srt.sortBy_pairwise (le := callLe) (S := fun _ _ => True)
      (fun a b => by simp only [callLe, Bool.not_eq_true', decide_eq_false_iff_not]; omega)
      (fun a b c => by simp only [callLe, Bool.not_eq_true', decide_eq_false_iff_not]; omega) l
      (List.pairwise_of_forall fun _ _ => trivial)).imp fun h => by
        simpa only [callLe, Bool.not_eq_true', decide_eq_false_iff_not, Nat.not_lt] using h.1

/-- order independence: two accepted histories made of the same inputs, a strictly laminar family, end in the same
    store -/
theorem runDivide_perm {n : Nat} (calls1 calls2 : List DCall) (hp : calls2.Perm calls1)
    (hlen : ∀ d, d ∈ calls1 → d.2.length = n) (hlam : StrictLaminar calls1)
    {s t1 t2 : Store} (hwf : WF n s) (h1 : runDivide .num s calls1 = .ok t1)
    (h2 : runDivide .num s calls2 = .ok t2) : SameStore t1 t2 := by
  -- both orders give the store of the shortest-first order of the first
  have hmem : ∀ d, d ∈ calls2 ↔ d ∈ calls1 := fun d => hp.mem_iff
  obtain ⟨u1, hu1, hs1⟩ := runDivide_perm_sorted calls1 hlen hlam hwf h1 _ (perm_shortestFirst calls1)
    (byLength_shortestFirst calls1)
  obtain ⟨u2, hu2, hs2⟩ := runDivide_perm_sorted calls2 (fun d hd => hlen d ((hmem d).mp hd))
    (fun c hc d hd => hlam c ((hmem c).mp hc) d ((hmem d).mp hd)) hwf h2 _
    ((perm_shortestFirst calls1).trans hp.symm) (byLength_shortestFirst calls1)
  obtain rfl := Except.ok.inj (hu1.symm.trans hu2)
  exact sameStore_trans (sameStore_symm hs1) hs2

/-- several dispatch inputs: the first input covering a piece decides its value -/
theorem sget_runDispatch (s : Store) (calls : List DCall) (q : Period) :
    sget (runDispatch s calls) q =
      match sget s q with
      | some v => some v
      | none => (calls.find? (fun lx => decide (q ∈ lx.1))).map (·.2) := by
  induction calls generalizing s with
  | nil => simp only [runDispatch, List.find?_nil, Option.map_none]; cases sget s q <;> rfl
  | cons x xs ih =>
    obtain ⟨l, a⟩ := x
    simp only [runDispatch]
    rw [ih, sget_dispatchOn]
    cases hs : sget s q with
    | some v => rfl
    | none =>
      by_cases hq : q ∈ l
      · simp [hq]
      · simp [hq]

end OFCore
