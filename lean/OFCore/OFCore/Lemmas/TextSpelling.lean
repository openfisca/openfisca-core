import OFCore.Lemmas.TextParse
/-! `Tok.text` spells a token the way `Period.__str__` and `Instant.__str__` do, and `lexIso` reads the spelling back.  A period
prints as a `Shape` — a spelling, perhaps `unit:` in front, perhaps `:size` behind — and every shape is read back, whatever
the token. -/
namespace OFCore

def Tok.text : Tok → List Char
  | .y a => natDigits a
  | .ym a m => natDigits a ++ '-' :: pad 2 m
  | .ymd a m d => natDigits a ++ '-' :: pad 2 m ++ '-' :: pad 2 d
  | .yw a w => natDigits a ++ ['-', 'W'] ++ pad 2 w
  | .ywd a w d => natDigits a ++ ['-', 'W'] ++ pad 2 w ++ ['-'] ++ natDigits d
  | .yd a d => natDigits a ++ '-' :: natDigits d

/-- a four-digit year, and fields within what `iso_format` and `iso_calendar` let through -/
def Tok.InRange : Tok → Prop
  | .y a => 1000 ≤ a ∧ a ≤ 9999
  | .ym a m => (1000 ≤ a ∧ a ≤ 9999) ∧ 1 ≤ m ∧ m ≤ 12
  | .ymd a m d => (1000 ≤ a ∧ a ≤ 9999) ∧ (1 ≤ m ∧ m ≤ 12) ∧ 1 ≤ d ∧ d ≤ 31
  | .yw a w => (1000 ≤ a ∧ a ≤ 9999) ∧ 1 ≤ w ∧ w ≤ 53
  | .ywd a w d => (1000 ≤ a ∧ a ≤ 9999) ∧ (1 ≤ w ∧ w ≤ 53) ∧ 1 ≤ d ∧ d ≤ 7
  | .yd _ _ => False

theorem lexIso_text (t : Tok) (h : t.InRange) : lexIso t.text = some t := by
  cases t
  case yd => exact h.elim
  all_goals simp only [Tok.InRange] at h; simp only [Tok.text]
  case y y =>
    obtain ⟨a, b, c, d, hy, hv⟩ := year_digits y h.1 h.2
    rw [hy]; simp only [lexIso, hv]
  case ym y m =>
    obtain ⟨a, b, c, d, hy, hv⟩ := year_digits y h.1.1 h.1.2
    obtain ⟨m1, m2, hm, hmv, _, _⟩ := pad2_digits m (by omega)
    rw [hy, hm]
    simp only [lexIso, List.cons_append, List.nil_append, hv, hmv]
    rw [if_pos h.2]
  case ymd y m d =>
    obtain ⟨a, b, c, d', hy, hv⟩ := year_digits y h.1.1 h.1.2
    obtain ⟨m1, m2, hm, hmv, _, _⟩ := pad2_digits m (by omega)
    obtain ⟨d1, d2, hd, hdv, _, _⟩ := pad2_digits d (by omega)
    rw [hy, hm, hd]
    simp only [lexIso, List.cons_append, List.nil_append, hv, hmv, hdv]
    rw [if_pos ⟨h.2.1.1, h.2.1.2, h.2.2⟩]
  case yw y w =>
    obtain ⟨a, b, c, d, hy, hv⟩ := year_digits y h.1.1 h.1.2
    obtain ⟨w1, w2, hw, hwv, _, _⟩ := pad2_digits w (by omega)
    rw [hy, hw]
    simp only [lexIso, List.cons_append, List.nil_append, hv, hwv]
    rw [if_pos h.2]
  case ywd y w d =>
    obtain ⟨a, b, c, d', hy, hv⟩ := year_digits y h.1.1 h.1.2
    obtain ⟨w1, w2, hw, hwv, _, hw2d⟩ := pad2_digits w (by omega)
    rw [hy, hw, natDigits1 d (by omega)]
    -- the pattern for `-Wnn-d` is tried after one with `-` in the place of the last week digit
    have hne : w2 ≠ '-' := hw2d.ne_minus
    simp only [lexIso, List.cons_append, List.nil_append, hv, hwv, digitVal_dc d (by omega)]
    rw [if_pos ⟨h.2.1.1, h.2.1.2, h.2.2⟩]

theorem natDigits_no_colon (Y : Nat) : ':' ∉ natDigits Y :=
  fun hm => (natDigits_isDig Y _ hm).ne_colon rfl

theorem pad_no_colon (w n : Nat) : ':' ∉ pad w n :=
  fun hm => (pad_isDig w n _ hm).ne_colon rfl

theorem Tok.text_no_colon (t : Tok) : ':' ∉ t.text := by
  cases t <;> simp [Tok.text, natDigits_no_colon, pad_no_colon]

structure Shape where
  pre : Option DUnit
  tok : Tok
  size : Option Nat

def Shape.text (s : Shape) : List Char :=
  let body := match s.size with
    | none => s.tok.text
    | some n => s.tok.text ++ ':' :: natDigits n
  match s.pre with
  | none => body
  | some u => u.name.toList ++ ':' :: body

theorem iso_spelling (t : Tok) (ht : t.InRange) (c : Date) (bu : DUnit)
    (hc : tokDate t = some c) (hbu : tokUnit t = some bu) : parseIsoPeriod t.text = .ok ⟨bu, c, 1⟩ := by
  unfold parseIsoPeriod; rw [lexIso_text t ht]; simp only [hc, hbu]

theorem parse_spelling (t : Tok) (ht : t.InRange) (c : Date) (bu : DUnit)
    (hc : tokDate t = some c) (hbu : tokUnit t = some bu) :
    parseInstant t.text = .ok c ∧ parsePeriod (Shape.text ⟨none, t, none⟩) = .ok ⟨bu, c, 1⟩ := by
  have hl := lexIso_text t ht
  exact ⟨by unfold parseInstant; rw [hl]; simp only [hc],
    by rw [Shape.text, parse_plain _ _ hl, iso_spelling t ht c bu hc hbu]⟩

theorem parse_shape_unit (u : DUnit) (t : Tok) (sz : Option Nat) (ht : t.InRange) (c : Date) (bu : DUnit)
    (hc : tokDate t = some c) (hbu : tokUnit t = some bu) (hu : u ≠ .eternity)
    (hf : finerThanDate u bu = false) :
    parsePeriod (Shape.text ⟨some u, t, sz⟩) = .ok ⟨u, c, ((sz.getD 1 : Nat) : Int)⟩ := by
  have hl := lexIso_text t ht
  have hb := iso_spelling t ht c bu hc hbu
  cases sz with
  | none => exact parse_prefixed u hu _ _ [] (splitOn_none ':' _ t.text_no_colon) t hl _ hb hf 1 rfl
  | some n =>
    refine parse_prefixed u hu _ _ [natDigits n] ?_ t hl _ hb hf n ?_
    · rw [splitOn_append ':' _ _ t.text_no_colon, splitOn_none ':' _ (natDigits_no_colon n)]
    · simp only [sizeField, pyInt_natDigits]

end OFCore
