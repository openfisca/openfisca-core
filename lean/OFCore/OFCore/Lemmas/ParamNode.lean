import OFCore.Param
/-!
Parameter groups (C06); `childrenAt` is read as a `filterMap`.
-/
namespace OFCore.Param

variable {V : Type}

theorem atInstant_isSome (c : PNode V) (d : Int) : (c.atInstant d).isSome = c.definedAt d := by
  cases c <;> simp [PNode.atInstant, PNode.definedAt]

theorem childrenAt_eq_filterMap (cs : List (String × PNode V)) (d : Int) :
    childrenAt cs d = cs.filterMap (fun p => (p.2.atInstant d).map (p.1, ·)) := by
  induction cs with
  | nil => rfl
  | cons p r ih =>
    rw [childrenAt, List.filterMap_cons, ← ih]
    cases p.2.atInstant d <;> rfl

theorem mem_filterMap_children {C S : Type} (f : C → Option S) (cs : List (String × C)) (k : String) (s : S) :
    (k, s) ∈ cs.filterMap (fun p => (f p.2).map (p.1, ·)) ↔ ∃ c, (k, c) ∈ cs ∧ f c = some s := by
  simp only [List.mem_filterMap, Option.map_eq_some_iff, Prod.mk.injEq, Prod.exists]
  constructor
  · rintro ⟨k', c, hm, s', hs, rfl, rfl⟩; exact ⟨c, hm, hs⟩
  · rintro ⟨c, hm, hs⟩; exact ⟨k, c, hm, s, hs, rfl, rfl⟩

theorem mem_childrenAt (cs : List (String × PNode V)) (d : Int) (k : String) (s : Snap V) :
    (k, s) ∈ childrenAt cs d ↔ ∃ c, (k, c) ∈ cs ∧ c.atInstant d = some s := by
  rw [childrenAt_eq_filterMap]
  exact mem_filterMap_children (·.atInstant d) cs k s

theorem childrenAt_append (cs₁ cs₂ : List (String × PNode V)) (d : Int) :
    childrenAt (cs₁ ++ cs₂) d = childrenAt cs₁ d ++ childrenAt cs₂ d := by
  simp only [childrenAt_eq_filterMap, List.filterMap_append]

theorem keys_childrenAt (cs : List (String × PNode V)) (d : Int) :
    (childrenAt cs d).map (·.1) = (cs.filter (fun p => p.2.definedAt d)).map (·.1) := by
  induction cs with
  | nil => rfl
  | cons p r ih =>
    rw [childrenAt, List.filter_cons, ← atInstant_isSome]
    cases p.2.atInstant d <;> simp [ih]

theorem lookup_none_of_not_mem {β : Type} (k : String) (l : List (String × β))
    (h : k ∉ l.map (·.1)) : l.lookup k = none :=
  List.lookup_eq_none_iff.mpr fun p hp => bne_iff_ne.mpr fun c => h (List.mem_map.mpr ⟨p, hp, c.symm⟩)

theorem lookup_childrenAt (cs : List (String × PNode V)) (d : Int) (k : String)
    (hnd : (cs.map (·.1)).Nodup) :
    (childrenAt cs d).lookup k = (cs.lookup k).bind (fun c => c.atInstant d) := by
  induction cs with
  | nil => rfl
  | cons p r ih =>
    obtain ⟨k', c⟩ := p
    rw [List.map_cons, List.nodup_cons] at hnd
    rw [childrenAt, List.lookup_cons]
    cases hk : k == k'
    · -- another name: the head child does not matter
      cases c.atInstant d
      · exact ih hnd.2
      · rw [List.lookup_cons, hk]; exact ih hnd.2
    · -- the head child is the one: names are distinct, so nothing later answers to `k`
      have hkk : k = k' := by simpa using hk
      cases hs : c.atInstant d
      · simp only [Option.bind_some, hs, List.lookup_eq_none_iff]
        intro p hp
        obtain ⟨c', hc', _⟩ := (mem_childrenAt r d p.1 p.2).mp hp
        exact bne_iff_ne.mpr fun hpk => hnd.1 (List.mem_map.mpr ⟨(p.1, c'), hc', (hkk.symm.trans hpk).symm⟩)
      · simp [List.lookup_cons, hk, hs]

theorem addChild_ok_iff (cs : List (String × PNode V)) (name : String) (c : PNode V) :
    (addChild cs name c = .ok (cs ++ [(name, c)]) ↔ name ∉ cs.map (·.1)) ∧
    ((∃ e, addChild cs name c = .error e) ↔ name ∈ cs.map (·.1)) := by
  have hany : name ∈ cs.map (·.1) ↔ cs.any (fun p => p.1 == name) = true := by
    simp only [List.any_eq_true, List.mem_map, beq_iff_eq]
  rw [hany, addChild]
  cases cs.any (fun p => p.1 == name) <;> simp

theorem mergeChildren_ok (cs other : List (String × PNode V))
    (hdisj : ∀ k ∈ other.map (·.1), k ∉ cs.map (·.1)) (hnd : (other.map (·.1)).Nodup) :
    mergeChildren cs other = .ok (cs ++ other) := by
  induction other generalizing cs with
  | nil => simp [mergeChildren]
  | cons p rest ih =>
    obtain ⟨k, c⟩ := p
    rw [List.map_cons, List.nodup_cons] at hnd
    have hk : k ∉ cs.map (·.1) := hdisj k (by simp)
    simp only [mergeChildren]
    rw [((addChild_ok_iff cs k c).1).mpr hk]
    simp only []
    rw [ih (cs ++ [(k, c)]) ?_ hnd.2]
    · simp
    · intro k' hk' hm
      simp only [List.map_append, List.map_cons, List.map_nil, List.mem_append, List.mem_singleton] at hm
      rcases hm with hm | hm
      · exact hdisj k' (by simp only [List.map_cons, List.mem_cons]; exact Or.inr hk') hm
      · subst hm; exact hnd.1 hk'

theorem absentAt_keys (name : String) (cs : List (String × PNode V)) (d : Int) :
    (absentAt name cs d).map (·.1) = (cs.filter (fun p => !p.2.definedAt d)).map (·.1) ∧
    ∀ k n, (k, n) ∈ absentAt name cs d → n = composeItem name k := by
  induction cs with
  | nil => exact ⟨rfl, fun k n h => nomatch h⟩
  | cons p r ih =>
    rw [absentAt, List.filter_cons]
    cases p.2.definedAt d
    · refine ⟨by simp [ih.1], fun k n hm => ?_⟩
      rcases List.mem_cons.mp hm with heq | hm'
      · cases heq; rfl
      · exact ih.2 k n hm'
    · exact ih

theorem length_childrenAt_absentAt (name : String) (cs : List (String × PNode V)) (d : Int) :
    (childrenAt cs d).length + (absentAt name cs d).length = cs.length := by
  induction cs with
  | nil => rfl
  | cons p r ih =>
    rw [childrenAt, absentAt, ← atInstant_isSome]
    cases p.2.atInstant d <;> simp <;> omega

theorem descAll_append (name : String) (cs₁ cs₂ : List (String × PNode V)) :
    descAll name (cs₁ ++ cs₂) = descAll name cs₁ ++ descAll name cs₂ := by
  induction cs₁ with
  | nil => rfl
  | cons p r ih =>
    obtain ⟨k, c⟩ := p
    simp only [List.cons_append, descAll, ih, List.append_assoc, List.cons_append]

end OFCore.Param
