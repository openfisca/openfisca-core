import OFCore.Lemmas.Requests
import OFCore.Lemmas.PeriodTotal
/-!
Inside pendulum's calendar (`Period.InRange`) the sub-periods, the enclosing period and the denominator of an
ADD / DIVIDE request exist; the duration order `DUnit.span` against the generated unit weights.
-/
namespace OFCore

theorem isDated_iff (u : DUnit) : isDated u = true ↔ u ≠ .eternity := by
  cases u <;> decide +kernel

/-- away from the two ends of the calendar: the week containing the first day begins in year
    1 or later, and the year containing the last day ends before year 9999 -/
def Period.InRange (p : Period) : Prop := 7 ≤ p.lo ∧ p.hi ≤ ord ⟨9998, 12, 31⟩

instance (p : Period) : Decidable p.InRange := by unfold Period.InRange; infer_instance

theorem sizeInYears_ok {p : Period} {n : Int} (h : p.sizeInYears = .ok n) : p.unit = .year :=
  Classical.byContradiction fun hn => by rw [Period.sizeInYears, if_neg hn] at h; cases h

/-- `hy`: the count of the years of a period that is not a year period is never asked for, the weight guard comes first -/
theorem denominator_eq_subCount {pu : DUnit} {c : Period} (hpu : pu ≠ .eternity)
    (hy : pu = .year → c.unit = .year) : denominator pu c = subCount c pu := by
  cases pu
  case eternity => exact absurd rfl hpu
  case year => simp only [denominator, subCount, Period.sizeInYears, hy rfl, if_true]
  all_goals rfl

theorem inRange_hi (p : Period) (hr : p.InRange) : p.hi + 1 ≤ 3652059 := by
  have := hr.2; rw [ord_9998, dby_9999] at this; omega

theorem year_cells : ∀ pu : DUnit, ¬ unitWeight .year > unitWeight pu → pu ≠ .eternity → pu = .year := by
  intro pu; rw [unitWeight_eq, unitWeight_eq]; cases pu <;> decide

theorem subperiods_total (p : Period) (u : DUnit) (hp : p.WF) (hr : p.InRange)
    (hw : ¬ unitWeight u > unitWeight p.unit) (hu : u ≠ .eternity)
    (hmw : ¬ (u = .month ∧ p.unit = .week)) : ∃ qs, p.subperiods u = .ok qs := by
  have hr' := inRange_hi p hr
  have hwd := weekday0_range (ord p.start)
  have h7 : 7 ≤ ord p.start := hr.1
  obtain ⟨n, hn⟩ := subCount_total_of_guard p u hp hr' hw hu hmw
  obtain ⟨s, -, -, -, h⟩ := subperiods_eq_shiftPieces p u hp hr' hw (fun _ => by omega) hn
  exact ⟨_, h⟩

theorem denominator_total (pu : DUnit) (c : Period) (hc : c.WF) (hr : c.hi + 1 ≤ 3652059)
    (hw : ¬ unitWeight c.unit < unitWeight pu) (hpu : pu ≠ .eternity)
    (hwm : ¬ (c.unit = .week ∧ pu = .month)) : ∃ n, denominator pu c = .ok n := by
  rw [denominator_eq_subCount hpu (fun e => year_cells c.unit (e ▸ hw) hc.1)]
  exact subCount_total_of_guard c pu hc hr hw hpu fun h => hwm ⟨h.2, h.1⟩

/-- how long one unit lasts, in days at least; eternity outlasts everything -/
def DUnit.span : DUnit → Nat
  | .weekday => 1 | .day => 1 | .week => 7 | .month => 28 | .year => 365 | .eternity => 1000000

/-- the code's ADD guard (generated weights) together with the one sub-division the period
    algebra refuses (months of a week) is exactly the duration order -/
theorem add_table : ∀ u pu : DUnit, u ≠ .eternity → pu ≠ .eternity →
    ((unitWeight u > unitWeight pu ∨ (u = .month ∧ pu = .week)) ↔ pu.span < u.span) := by
  decide +kernel

/-- the code's DIVIDE guard together with the one denominator the period algebra refuses
    (months in a week) is exactly the duration order -/
theorem divide_table : ∀ u pu : DUnit, u ≠ .eternity → pu ≠ .eternity →
    ((unitWeight u < unitWeight pu ∨ (u = .week ∧ pu = .month)) ↔ u.span < pu.span) := by
  decide +kernel

theorem year_period_bounds (y : Int) :
    (Period.mk .year ⟨y, 1, 1⟩ 1).lo = dby y + 1 ∧ (Period.mk .year ⟨y, 1, 1⟩ 1).hi = dby (y + 1) :=
  ⟨ord_jan y 1, (hi_one_year y).trans (ord_dec31 y)⟩

theorem month_period_bounds (c : Date) (hv : c.Valid) :
    (Period.mk .month ⟨c.y, c.m, 1⟩ 1).lo = ord c - c.d + 1 ∧
    (Period.mk .month ⟨c.y, c.m, 1⟩ 1).hi = ord c - c.d + dim c.y c.m := by
  have hbv := valid_first c.y c.m hv.1 hv.2.1 hv.2.2.1
  have hd := ord_month_day c
  constructor
  · simp only [Period.lo]; omega
  · simp only [Period.hi]
    rw [ord_addMonths_one _ hbv rfl]; simp only; omega

/-- whatever `calculate_divide` takes as calculation period is one definition period, aligned to its unit, that
    contains the first day of the request -/
theorem enclosing_spec (u : DUnit) (p c : Period) (hv : p.start.Valid) (hu : u ≠ .eternity)
    (h : enclosing u p = .ok c) :
    c.WF ∧ c.unit = u ∧ c.size = 1 ∧ AlignedTo c.start u ∧ c.lo ≤ p.lo ∧ p.lo ≤ c.hi := by
  obtain ⟨-, hcu, hcs, hc⟩ := subBase_spec ((subBase_eq_enclosing p hu).trans h)
  obtain ⟨hcv, hal, hlo, hhi⟩ := hc hv
  exact ⟨⟨hcu ▸ hu, hcv, by omega⟩, hcu, hcs, hal, hlo, hhi⟩

theorem shiftDate_one_year (c : Date) (hv : c.Valid) (u : DUnit) (hy : c.y ≤ 9998) :
    (shiftDate c 1 u).y ≤ 9999 := by
  have h1 := ord_pos _ hv
  have hle := ord_le_of_year_le c hv 9998 hy
  rw [show (9998 : Int) + 1 = 9999 by rfl, dby_9999] at hle
  obtain ⟨w, hw, h | ⟨-, h⟩⟩ := shiftDate_kind u <;> rw [h]
  · exact (year_ok _ (addDays_valid _ _ (by omega)) (by rw [ord_addDays]; omega)).2
  · have := hv.2.2.1; rw [addMonths_year]; omega

/-- for a request in the representable range that period exists and ends in the range (3652059 is 9999-12-31) -/
theorem enclosing_total (u : DUnit) (p : Period) (hp : p.WF) (hr : p.InRange) (hu : u ≠ .eternity) :
    ∃ c, enclosing u p = .ok c ∧ c.WF ∧ c.unit = u ∧ c.size = 1 ∧ c.hi + 1 ≤ 3652059 ∧
      c.lo ≤ p.lo ∧ p.lo ≤ c.hi ∧ AlignedTo c.start u := by
  have hv := hp.2.1
  have hlo := lo_le_hi p hp
  have h98 := hr.2
  rw [ord_9998] at h98
  have hy98 := year_le_of_ord_le _ hv 9998 (Int.le_trans hlo h98)
  obtain ⟨c, hc⟩ : ∃ c, enclosing u p = .ok c := by
    have hwd := weekday0_range (ord p.start)
    have h7 : 7 ≤ ord p.start := hr.1
    obtain ⟨s, hb, -⟩ := subBase_total p u hv (by omega) hu (fun _ => by omega)
    exact ⟨_, subBase_eq_enclosing p hu ▸ hb⟩
  obtain ⟨hwf, hcu, hcs, hal, hclo, hchi⟩ := enclosing_spec u p c hv hu hc
  have hcy := year_le_of_ord_le _ hwf.2.1 9998 (Int.le_trans hclo (Int.le_trans hlo h98))
  have := shiftDate_one_year _ hwf.2.1 c.unit hcy
  rw [← hcs] at this
  exact ⟨c, hc, hwf, hcu, hcs, hi_succ_le c hwf this, hclo, hchi, hal⟩

theorem nested_cells : ∀ pu u : DUnit, pu.family = u.family → pu.rank ≤ u.rank →
    pu = u ∨ (u = .year ∧ pu = .month) ∨ (pu = .day ∧ (u = .month ∨ u = .year)) ∨ (u = .week ∧ pu = .weekday) := by
  decide +kernel

theorem aligned_down (c : Date) : ∀ u pu : DUnit, AlignedTo c u → pu.family = u.family → pu.rank ≤ u.rank →
    AlignedTo c pu := by
  intro u pu h hf hr
  rcases nested_cells pu u hf hr with rfl | ⟨rfl, rfl⟩ | ⟨rfl, _⟩ | ⟨rfl, rfl⟩
  · exact h
  · exact h.2
  · trivial
  · trivial

theorem subperiods_length (c : Period) (pu : DUnit) (qs : List Period) (n : Int)
    (h : c.subperiods pu = .ok qs) (hn : denominator pu c = .ok n) : qs.length = n.toNat := by
  obtain ⟨-, b, n', hb, hn', ho⟩ := subperiods_eq_ok.1 h
  rw [denominator_eq_subCount (subBase_ok hb).1 (fun e => sizeInYears_ok (e ▸ hn)), hn'] at hn
  cases hn
  exact (offsetsFrom_units _ _ _ _ ho).1

/-- whatever the generated weights say, the period algebra itself enforces the duration order -/
theorem denominator_ok_span {pu : DUnit} {c : Period} {n : Int} (hpu : pu ≠ .eternity)
    (h : denominator pu c = .ok n) : pu.span ≤ c.unit.span ∧ c.unit ≠ .eternity := by
  cases pu <;> cases hc : c.unit <;>
    simp [denominator, Period.sizeInYears, Period.sizeInMonths, Period.sizeInDays, Period.sizeInWeeks,
      Period.sizeInWeekdays, hc, DUnit.span] at h hpu ⊢

theorem subperiods_ok_span {p : Period} {u : DUnit} {qs : List Period} (hp : p.unit ≠ .eternity)
    (h : p.subperiods u = .ok qs) : u.span ≤ p.unit.span := by
  obtain ⟨hw, b, n, hb, hn, -⟩ := subperiods_eq_ok.1 h
  have hu := (subBase_ok hb).1
  rw [← denominator_eq_subCount hu (fun e => year_cells p.unit (e ▸ hw) hp)] at hn
  exact (denominator_ok_span hu hn).1

theorem calcDivide_ok_inv {val : Period → Int} {store : Bool} {u : DUnit} {p : Period} {r : Rat}
    (hv : p.start.Valid) (h : calcDivide val store u p = .ok r) :
    p.size = 1 ∧ ∃ c n, enclosing u p = .ok c ∧ denominator p.unit c = .ok n ∧ r = (val c : Rat) / (n : Rat) ∧
      c.WF ∧ c.unit = u ∧ c.size = 1 ∧ AlignedTo c.start u ∧ c.lo ≤ p.lo ∧ p.lo ≤ c.hi := by
  obtain ⟨-, hs, hu, -, c, n, hc, hn, hr⟩ := calcDivide_eq_ok.1 h
  exact ⟨hs, c, n, hc, hn, hr, enclosing_spec u p c hv hu hc⟩

theorem enclosing_self {p c : Period} (hv : p.start.Valid) (hne : p.unit ≠ .eternity) (hs : p.size = 1)
    (hal : AlignedTo p.start p.unit) (hc : enclosing p.unit p = .ok c) : c = p := by
  rw [subBase_aligned hv hal ((subBase_eq_enclosing p hne).trans hc)]
  obtain ⟨pu, pst, pn⟩ := p
  simp only at hs; rw [hs]

theorem enclosing_contains {u : DUnit} {p c : Period} (hp : p.WF) (hs : p.size = 1)
    (hfam : p.unit.family = u.family) (hle : p.unit.rank ≤ u.rank) (hpal : AlignedTo p.start p.unit)
    (hc : enclosing u p = .ok c) (hchi : p.lo ≤ c.hi) : p.hi ≤ c.hi := by
  obtain ⟨hne, hv, -⟩ := hp
  rcases nested_cells p.unit u hfam hle with hpu | ⟨h1, h2⟩ | ⟨h2, _⟩ | ⟨_, h2⟩
  · -- same unit: `c` is the request itself
    rw [enclosing_self (c := c) hv hne hs hpal (by rw [hpu]; exact hc)]; exact Int.le_refl _
  · -- a month inside its year: it ends with its own enclosing month, inside the same year
    obtain ⟨m, hm⟩ : ∃ m, enclosing .month p = .ok m := ⟨_, rfl⟩
    have hpm : m = p := enclosing_self hv hne hs hpal (by rw [h2]; exact hm)
    have hyc : c = ⟨.year, ⟨p.start.y, 1, 1⟩, 1⟩ := by
      rw [h1] at hc; exact (Except.ok.inj hc).symm
    obtain ⟨_, m2⟩ := month_period_bounds p.start hv
    obtain ⟨_, e2⟩ := year_period_bounds p.start.y
    have hev := endOfMonth_valid p.start hv
    have hle98 := ord_le_of_year_le _ hev p.start.y (Int.le_refl _)
    rw [← hpm, (Except.ok.inj hm).symm, hyc, m2, e2]
    simp only [ord, endOfMonth] at hle98 ⊢; omega
  · have := hi_eq_lo_of_day hs (.inl h2); omega
  · have := hi_eq_lo_of_day hs (.inr h2); omega

theorem month_days (c : Period) (hv : c.start.Valid) (hu : c.unit = .month) (hs : c.size = 1)
    (hd : c.start.d = 1) : c.hi - c.lo + 1 = dim c.start.y c.start.m := by
  obtain ⟨e1, e2⟩ := month_period_bounds c.start hv
  have : c = ⟨.month, ⟨c.start.y, c.start.m, 1⟩, 1⟩ := by
    obtain ⟨u, ⟨y, m, d⟩, n⟩ := c; simp only at hu hs hd; rw [hu, hs, hd]
  rw [this, e1, e2]; simp only; omega

theorem year_days (c : Period) (hu : c.unit = .year) (hs : c.size = 1)
    (hal : c.start.m = 1 ∧ c.start.d = 1) :
    c.hi - c.lo + 1 = if isLeap c.start.y then 366 else 365 := by
  obtain ⟨e1, e2⟩ := year_period_bounds c.start.y
  have : c = ⟨.year, ⟨c.start.y, 1, 1⟩, 1⟩ := by
    obtain ⟨u, ⟨y, m, d⟩, n⟩ := c; simp only at hu hs hal; rw [hu, hs, hal.1, hal.2]
  rw [this, e1, e2, dby_succ]; simp only; omega

theorem denominator_values {u pu : DUnit} {c : Period} {n : Int} (hc : c.WF) (hcu : c.unit = u)
    (hcs : c.size = 1) (hal : AlignedTo c.start u) (hfam : pu.family = u.family) (hle : pu.rank ≤ u.rank)
    (hn : denominator pu c = .ok n) :
    1 ≤ n ∧ (pu = u → n = 1) ∧ (u = .year → pu = .month → n = 12) ∧ (u = .week → pu = .weekday → n = 7) ∧
    (u = .month → pu = .day → n = dim c.start.y c.start.m) ∧
    (u = .year → pu = .day → n = if isLeap c.start.y then 366 else 365) := by
  have hne := hc.1
  have hlohi := lo_le_hi c hc
  have hsame : pu = u → n = 1 := by
    rintro rfl
    cases pu <;> simp only [denominator] at hn
    case weekday => simp only [Period.sizeInWeekdays, hcu] at hn; injection hn with hn; omega
    case week => simp only [Period.sizeInWeeks, hcu] at hn; injection hn with hn; omega
    case day => simp only [Period.sizeInDays, hcu] at hn; injection hn with hn; omega
    case month => simp only [Period.sizeInMonths, hcu] at hn; simp at hn; omega
    case year => simp only [Period.sizeInYears, hcu] at hn; simp at hn; omega
    case eternity => exact absurd hcu hne
  have hym : u = .year → pu = .month → n = 12 := by
    rintro rfl rfl
    simp only [denominator, Period.sizeInMonths, hcu] at hn; simp at hn; omega
  have hww : u = .week → pu = .weekday → n = 7 := by
    rintro rfl rfl
    simp only [denominator, Period.sizeInWeekdays, hcu] at hn; injection hn with hn; omega
  have hdays : pu = .day → n = c.hi - c.lo + 1 := by
    rintro rfl; exact sizeInDays_count c n hn
  refine ⟨?_, hsame, hym, hww, fun h1 h2 => ?_, fun h1 h2 => ?_⟩
  · rcases nested_cells pu u hfam hle with hpu | ⟨h1, h2⟩ | ⟨h2, _⟩ | ⟨h1, h2⟩
    · have := hsame hpu; omega
    · have := hym h1 h2; omega
    · have := hdays h2; omega
    · have := hww h1 h2; omega
  · subst h1; rw [hdays h2, month_days c hc.2.1 hcu hcs hal]
  · subst h1; rw [hdays h2, year_days c hcu hcs hal]

theorem ne_eternity_of_family {u pu : DUnit} (h : u.family = pu.family) (hp : pu ≠ .eternity) :
    u ≠ .eternity := by
  rintro rfl
  cases pu
  case eternity => exact absurd rfl hp
  -- no other unit is in the family of eternity
  all_goals cases h

theorem span_le_of_nested {pu u : DUnit} (hfam : pu.family = u.family) (hle : pu.rank ≤ u.rank) : pu.span ≤ u.span := by
  rcases nested_cells pu u hfam hle with rfl | ⟨rfl, rfl⟩ | ⟨rfl, rfl | rfl⟩ | ⟨rfl, rfl⟩
  · exact Nat.le_refl _
  all_goals decide

theorem calcAdd_accepts (val : Period → Int) (store : Bool) (u : DUnit) (p : Period) (hp : p.WF)
    (hr : p.InRange) (hu : u ≠ .eternity) (hsp : ¬ p.unit.span < u.span) : ∃ r, calcAdd val store u p = .ok r :=
  have ht := (add_table u p.unit hu hp.1).1
  let ⟨qs, hq⟩ := subperiods_total p u hp hr (fun h => hsp (ht (.inl h))) hu (fun h => hsp (ht (.inr h)))
  ⟨_, calcAdd_eq_ok.2 ⟨fun h => hsp (ht (.inl h)), hu, hp.1, qs, hq, rfl⟩⟩

theorem calcDivide_accepts (val : Period → Int) (store : Bool) (u : DUnit) (p : Period) (hp : p.WF)
    (hr : p.InRange) (hs : p.size = 1) (hu : u ≠ .eternity) (hsp : ¬ u.span < p.unit.span) :
    ∃ r, calcDivide val store u p = .ok r := by
  have ht := (divide_table u p.unit hu hp.1).1
  have hw : ¬ unitWeight u < unitWeight p.unit := fun h => hsp (ht (.inl h))
  obtain ⟨c, hc, hcwf, hcu, _, hcr, _⟩ := enclosing_total u p hp hr hu
  obtain ⟨n, hn⟩ := denominator_total p.unit c hcwf hcr (by rw [hcu]; exact hw) hp.1
    (by rw [hcu]; exact fun h => hsp (ht (.inr h)))
  exact ⟨_, calcDivide_eq_ok.2 ⟨hw, hs, hu, hp.1, c, n, hc, hn, rfl⟩⟩

end OFCore
