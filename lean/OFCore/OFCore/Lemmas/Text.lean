import OFCore.PeriodText
namespace OFCore

theorem digitVal_digitChar : ∀ k : Fin 10, digitVal (Nat.digitChar k.val) = some k.val ∧
    Nat.digitChar k.val ≠ ':' ∧ Nat.digitChar k.val ≠ '_' ∧ Nat.digitChar k.val ≠ '-' ∧ Nat.digitChar k.val ≠ '+' ∧
    isSpace (Nat.digitChar k.val) = false ∧ (Nat.digitChar k.val).toLower ≠ 'e' := by decide +kernel

theorem digitVal_dc (k : Nat) (h : k < 10) : digitVal (Nat.digitChar k) = some k :=
  (digitVal_digitChar ⟨k, h⟩).1

def IsDig (c : Char) : Prop := ∃ k, k < 10 ∧ c = Nat.digitChar k

theorem IsDig.val {c : Char} (h : IsDig c) : ∃ k, k < 10 ∧ digitVal c = some k ∧ c = Nat.digitChar k := by
  obtain ⟨k, hk, rfl⟩ := h; exact ⟨k, hk, digitVal_dc k hk, rfl⟩
theorem IsDig.ne_colon {c : Char} (h : IsDig c) : c ≠ ':' := by
  obtain ⟨k, hk, rfl⟩ := h; exact (digitVal_digitChar ⟨k, hk⟩).2.1
theorem IsDig.ne_us {c : Char} (h : IsDig c) : c ≠ '_' := by
  obtain ⟨k, hk, rfl⟩ := h; exact (digitVal_digitChar ⟨k, hk⟩).2.2.1
theorem IsDig.ne_minus {c : Char} (h : IsDig c) : c ≠ '-' := by
  obtain ⟨k, hk, rfl⟩ := h; exact (digitVal_digitChar ⟨k, hk⟩).2.2.2.1
theorem IsDig.ne_plus {c : Char} (h : IsDig c) : c ≠ '+' := by
  obtain ⟨k, hk, rfl⟩ := h; exact (digitVal_digitChar ⟨k, hk⟩).2.2.2.2.1
theorem IsDig.not_space {c : Char} (h : IsDig c) : isSpace c = false := by
  obtain ⟨k, hk, rfl⟩ := h; exact (digitVal_digitChar ⟨k, hk⟩).2.2.2.2.2.1
theorem IsDig.lower_ne_e {c : Char} (h : IsDig c) : c.toLower ≠ 'e' := by
  obtain ⟨k, hk, rfl⟩ := h; exact (digitVal_digitChar ⟨k, hk⟩).2.2.2.2.2.2

theorem digitChar_eq_ofNat : ∀ k : Fin 10, Nat.digitChar k.val = Char.ofNat (48 + k.val) := by decide

theorem digitVal_some_isDig (a : Char) (k : Nat) (h : digitVal a = some k) : IsDig a := by
  unfold digitVal at h
  split at h
  · rename_i hr
    have h0 : 48 ≤ a.toNat := hr.1
    have h9 : a.toNat ≤ 57 := hr.2
    refine ⟨a.toNat - 48, by omega, ?_⟩
    rw [digitChar_eq_ofNat ⟨a.toNat - 48, by omega⟩]
    simp only [Nat.add_sub_cancel' h0, Char.ofNat_toNat]
  · cases h

theorem natDigits_isDig (n : Nat) : ∀ c ∈ natDigits n, IsDig c := by
  unfold natDigits
  induction n using Nat.strongRecOn with
  | _ n ih =>
    rw [Nat.toDigits_eq_if (by decide)]
    split
    · intro c hc; simp only [List.mem_singleton] at hc; exact ⟨n, by omega, hc⟩
    · intro c hc
      rcases List.mem_append.1 hc with h | h
      · exact ih (n / 10) (by omega) c h
      · simp only [List.mem_singleton] at h; exact ⟨n % 10, by omega, h⟩

theorem natDigits_ne_nil (n : Nat) : natDigits n ≠ [] := Nat.toDigits_ne_nil

/-- what both `digitsVal` and `pyDigits` compute on a list of digits -/
def foldVal (acc : Nat) (cs : List Char) : Nat := cs.foldl (fun a c => a * 10 + (digitVal c).getD 0) acc

theorem foldVal_natDigits (n : Nat) : foldVal 0 (natDigits n) = n := by
  unfold natDigits
  induction n using Nat.strongRecOn with
  | _ n ih =>
    rw [Nat.toDigits_eq_if (by decide)]
    split
    · rename_i h; simp [foldVal, digitVal_dc n h]
    · have := ih (n / 10) (by omega)
      unfold foldVal at this ⊢
      rw [List.foldl_append, this]
      simp only [List.foldl_cons, List.foldl_nil, digitVal_dc (n % 10) (by omega), Option.getD_some]
      omega

theorem pyDigits_go_cons (c : Char) (cs : List Char) (acc : Nat) (hne : c ≠ '_') :
    pyDigits.go acc (c :: cs) = (match digitVal c with
      | some d => pyDigits.go (acc * 10 + d) cs
      | none => none) := by
  rw [pyDigits.go.eq_def]
  split
  · rename_i heq; cases heq
  · rename_i heq; injection heq with h1 _; exact absurd h1 hne
  · rename_i heq; injection heq with h1 h2; subst h1 h2; rfl

theorem pyDigits_go (cs : List Char) (h : ∀ c ∈ cs, IsDig c) (acc : Nat) :
    pyDigits.go acc cs = some (foldVal acc cs) := by
  induction cs generalizing acc with
  | nil => simp [pyDigits.go, foldVal]
  | cons c cs ih =>
    have hc := h c (List.mem_cons_self)
    obtain ⟨k, hk, hv, _⟩ := hc.val
    have ih' := ih (fun c' hc' => h c' (List.mem_cons_of_mem _ hc')) (acc * 10 + k)
    rw [pyDigits_go_cons c cs acc hc.ne_us, hv]
    simp only; rw [ih']; simp [foldVal, hv]

theorem pyDigits_natDigits (n : Nat) : pyDigits (natDigits n) = some n := by
  have hd := natDigits_isDig n
  have hv := foldVal_natDigits n
  cases hcs : natDigits n with
  | nil => exact absurd hcs (natDigits_ne_nil n)
  | cons c cs =>
    rw [hcs] at hd hv
    have hc := hd c List.mem_cons_self
    obtain ⟨k, hk, hvk, _⟩ := hc.val
    simp only [pyDigits, hvk]
    rw [pyDigits_go cs (fun c' hc' => hd c' (List.mem_cons_of_mem _ hc'))]
    simp only [foldVal, List.foldl_cons, hvk, Option.getD_some, Nat.zero_mul, Nat.zero_add] at hv
    simp only [foldVal]; rw [hv]

theorem dropWhile_space_dig (cs : List Char) (h : ∀ c ∈ cs, IsDig c) : cs.dropWhile isSpace = cs := by
  cases cs with
  | nil => rfl
  | cons c cs => simp [List.dropWhile, (h c List.mem_cons_self).not_space]

theorem pyInt_natDigits (n : Nat) : pyInt (natDigits n) = some (n : Int) := by
  have hd := natDigits_isDig n
  unfold pyInt
  simp only
  rw [dropWhile_space_dig _ hd]
  rw [dropWhile_space_dig _ (by intro c hc; exact hd c (List.mem_reverse.1 hc)), List.reverse_reverse]
  cases hcs : natDigits n with
  | nil => exact absurd hcs (natDigits_ne_nil n)
  | cons c cs =>
    have hc : IsDig c := hd c (by rw [hcs]; exact List.mem_cons_self)
    have h1 := hc.ne_minus; have h2 := hc.ne_plus
    split
    · rename_i heq; injection heq with h _; exact absurd h h1
    · rename_i heq; injection heq with h _; exact absurd h h2
    · rw [← hcs, pyDigits_natDigits]; rfl

theorem natDigits1 (d : Nat) (h : d < 10) : natDigits d = [Nat.digitChar d] := by
  unfold natDigits; exact Nat.toDigits_of_lt_base h

theorem natDigits4 (y : Nat) (h1 : 1000 ≤ y) (h2 : y ≤ 9999) :
    natDigits y = [Nat.digitChar (y / 10 / 10 / 10), Nat.digitChar (y / 10 / 10 % 10),
      Nat.digitChar (y / 10 % 10), Nat.digitChar (y % 10)] := by
  unfold natDigits
  rw [Nat.toDigits_eq_if (by decide), if_neg (by omega)]
  rw [Nat.toDigits_eq_if (by decide), if_neg (by omega)]
  rw [Nat.toDigits_eq_if (by decide), if_neg (by omega)]
  rw [Nat.toDigits_eq_if (by decide), if_pos (by omega)]
  rfl

theorem pad2 (m : Nat) (h : m ≤ 99) : pad 2 m = [Nat.digitChar (m / 10), Nat.digitChar (m % 10)] := by
  unfold pad natDigits
  rw [Nat.toDigits_eq_if (by decide)]
  split
  · rename_i h1
    have : m / 10 = 0 := by omega
    have e : m % 10 = m := by omega
    simp [this, e]
  · rw [Nat.toDigits_eq_if (by decide), if_pos (by omega)]
    simp

theorem two_dc (a b : Nat) (ha : a < 10) (hb : b < 10) : two (Nat.digitChar a) (Nat.digitChar b) = some (a * 10 + b) := by
  simp [two, digitVal_dc, ha, hb]

theorem splitOn_none (sep : Char) (cs : List Char) (h : sep ∉ cs) : splitOn sep cs = [cs] := by
  induction cs with
  | nil => rfl
  | cons c cs ih =>
    have hc : c ≠ sep := fun e => h (by rw [e]; exact List.mem_cons_self)
    have := ih (fun hm => h (List.mem_cons_of_mem _ hm))
    simp [splitOn, hc, this]

theorem splitOn_append (sep : Char) (a b : List Char) (h : sep ∉ a) :
    splitOn sep (a ++ sep :: b) = a :: splitOn sep b := by
  induction a with
  | nil => simp [splitOn]
  | cons c cs ih =>
    have hc : c ≠ sep := fun e => h (by rw [e]; exact List.mem_cons_self)
    have := ih (fun hm => h (List.mem_cons_of_mem _ hm))
    simp [splitOn, hc, this]

theorem lower_ne_eternity (c : Char) (cs : List Char) (h : c.toLower ≠ 'e') :
    lower (c :: cs) ≠ "eternity".toList := by
  intro he
  simp only [lower, List.map_cons] at he
  have : "eternity".toList = 'e' :: "ternity".toList := by decide
  rw [this] at he
  injection he with h1 _
  exact h h1

end OFCore
