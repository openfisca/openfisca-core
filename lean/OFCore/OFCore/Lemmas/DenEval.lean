import OFCore.Engine
/-!
# The meaning `den`, by structural recursion

`den`/`denE` recurse on (fuel, expression) together, which Lean compiles by well-founded
recursion: the kernel cannot evaluate them.  `denS` is the same function written as a recursion
on the fuel around a recursion on the expression (`evalWith`); `den_eq_denS` lets test vectors
about `den` be checked by evaluation.
-/
namespace OFCore.Engine
variable {P : Type}

/-- `denE` with the meaning of the reads given -/
def evalWith (sys : Sys P) (rd : Nat → P → Option Res) : Expr P → Option Res
  | .const c => some (.ok c)
  | .bad => some (.error .fault)
  | .ref v p => rd v p
  | .fail id a => if sys.armed id then some (.error .fault) else evalWith sys rd a
  | .op1 o a =>
    match evalWith sys rd a with
    | none => none
    | some (.error e) => some (.error e)
    | some (.ok x) => some (.ok (sys.f1 o x))
  | .op2 o a b =>
    match evalWith sys rd a with
    | none => none
    | some (.error e) => some (.error e)
    | some (.ok x) =>
      match evalWith sys rd b with
      | none => none
      | some (.error e) => some (.error e)
      | some (.ok y) => some (.ok (sys.f2 o x y))

def denS (sys : Sys P) : Nat → Nat → P → Option Res
  | 0 => fun _ _ => none
  | n+1 => fun v p =>
    match sys.input v p with
    | some x => some (.ok x)
    | none =>
      match sys.formula v p with
      | none => some (.ok (sys.post v (sys.dflt v)))
      | some e =>
        match evalWith sys (denS sys n) e with
        | none => none
        | some (.error er) => some (.error er)
        | some (.ok x) => some (.ok (sys.post v x))

theorem denE_eq_evalWith (sys : Sys P) (n : Nat) (e : Expr P) :
    denE sys n e = evalWith sys (den sys n) e := by
  induction e with
  | const c => rw [denE, evalWith]
  | bad => rw [denE, evalWith]
  | ref v p => rw [denE, evalWith]
  | fail id a ih => rw [denE, evalWith, ih]
  | op1 o a ih => rw [denE, evalWith, ih]; rfl
  | op2 o a b iha ihb => rw [denE, evalWith, iha, ihb]; rfl

theorem den_eq_denS (sys : Sys P) (n : Nat) : den sys n = denS sys n := by
  induction n with
  | zero => funext v p; rw [den, denS]
  | succ n ih => funext v p; simp only [den, denS, denE_eq_evalWith, ih]; rfl

end OFCore.Engine
