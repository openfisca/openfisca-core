import OFCore.Lemmas.GroupAgg
/-!
`get_rank`: the rank of a person is the index of its column in the sorted row of its group
(`rank_of_cols`), and the index of an element of a sorted list is the number of its predecessors:
the rank of a person satisfying the condition is the number of such persons of its group that come
before it by (criterion, index) (`getRank_count`), whatever the width of the matrix and, when the
criteria are distinct, whatever the sort.
-/
namespace OFCore.Grp

/-- the criteria with `+inf` outside the condition: `numpy.where(condition, criteria, inf)` -/
def filteredCrit (crit : List Int) (cond : List Bool) : List EInt :=
  whereL cond (crit.map .fin) .posInf

theorem filteredCrit_length {crit : List Int} {cond : List Bool} {n : Nat} (hc : crit.length = n)
    (hb : cond.length = n) : (filteredCrit crit cond).length = n :=
  whereL_length _ _ _ hb (by rw [List.length_map, hc])

theorem filteredCrit_getD {crit : List Int} {cond : List Bool} {n : Nat} (hc : crit.length = n)
    (hb : cond.length = n) (i : Nat) (hi : i < n) :
    (filteredCrit crit cond).getD i .posInf
      = if cond.getD i false then .fin (crit.getD i 0) else .posInf := by
  rw [filteredCrit, whereL_getD _ _ _ hb (by rw [List.length_map, hc]) i hi,
    List.getD_map_of_lt _ _ 0 _ (hc ▸ hi)]

/-- row `g` of the position matrix, `B` columns -/
def rowOf (p : Pop) (f : List EInt) (B g : Nat) : List EInt :=
  (List.range B).map (fun k => (valuesOf p none g f)[k]?.getD .posInf)

theorem rowOf_length (p : Pop) (f : List EInt) (B g : Nat) : (rowOf p f B g).length = B := by
  simp [rowOf]

theorem rowOf_getD (p : Pop) (f : List EInt) (hlen : f.length = p.ms.length) (B g c : Nat)
    (hc : c < B) :
    (rowOf p f B g).getD c .posInf
      = ((membersIdx p.ids g)[c]?.map (fun i => f.getD i .posInf)).getD .posInf := by
  unfold rowOf
  rw [List.getD_range_map _ _ hc, valuesOf_none_eq_idx p f .posInf hlen g, List.getElem?_map]

theorem rankCols_eq (p : Pop) (f : List EInt) (hlen : f.length = p.ms.length) (hne : p.ms ≠ [])
    (hg : ∀ m ∈ p.ms, m.group < p.n) (m : Nat) :
    rankCols p f m = .ok ((List.range m).map fun k =>
      (List.range p.n).map fun g => (valuesOf p none g f)[k]?.getD .posInf) := by
  induction m with
  | zero => rfl
  | succ m ih =>
    simp only [rankCols, ih, valueNth_eq p m f .posInf hlen hne hg, List.range_succ, List.map_append,
      List.map_cons, List.map_nil]

theorem rankRow_eq (p : Pop) (f : List EInt) (m g : Nat) (hg : g < p.n) :
    rankRow ((List.range m).map fun k =>
      (List.range p.n).map fun g => (valuesOf p none g f)[k]?.getD .posInf) g = rowOf p f m g := by
  simp only [rankRow, rowOf, List.map_map]
  apply List.map_congr_left
  intro k _
  exact List.getD_range_map _ _ hg

/-- The last lines of `getRankWith` and `getRankWide`, the columns being known (`rankCols_eq`); for any
width `B` and any row sorter because the first varies the sorter and the second the width.  What the
index of a ranked person's column in its sorted row equals enters as `R`, each caller having its own
reason for it. -/
theorem rank_of_cols (sort1 : List EInt → List Nat)
    (hsort : ∀ row, (sort1 row).Perm (List.range row.length))
    (p : Pop) (f : List EInt) (cond : List Bool) (hb : cond.length = p.ms.length)
    (hg : ∀ m ∈ p.ms, m.group < p.n) (B : Nat) (hB : biggest p ≤ B) (R : Nat → Nat)
    (hR : ∀ i, i < p.ms.length → cond.getD i false = true →
      (sort1 (rowOf p f B (p.ids.getD i 0))).idxOf (posOf p.ids i) = R i) :
    whereL cond
      (((p.ids.zip ((List.range p.ids.length).map (posOf p.ids))).map fun gk =>
        (((List.range p.n).map fun g => argsortN (sort1 (rankRow
          ((List.range B).map fun k => (List.range p.n).map fun g =>
            (valuesOf p none g f)[k]?.getD .posInf) g))).getD gk.1 []).getD gk.2 0).map Int.ofNat) (-1)
    = (List.range p.ms.length).map fun i => if cond.getD i false then (R i : Int) else -1 := by
  rw [zip_range_map p.ids 0, List.map_map, List.map_map, p.ids_length, whereL_range_map _ _ _ hb]
  apply List.map_congr_left
  intro i hi
  have hi' : i < p.ids.length := p.ids_length ▸ List.mem_range.mp hi
  cases hci : cond.getD i false
  · rfl
  · have hgi : p.ids.getD i 0 < p.n := ids_lt_of_ms p hg _ (List.getD_mem_of_lt _ _ hi')
    have hsp := hsort (rowOf p f B (p.ids.getD i 0))
    rw [rowOf_length] at hsp
    simp only [Function.comp]
    rw [List.getD_range_map _ _ hgi, rankRow_eq p f B _ hgi,
      argsortN_inverse_getD _ hsp _ (Nat.lt_of_lt_of_le (posOf_lt_biggest p i hi') hB),
      hR i (List.mem_range.mp hi) hci]
    rfl

theorem idxOf_eq_of_sortsRow {row : List EInt} {s₁ s₂ : List Nat} (h₁ : SortsRow row s₁)
    (h₂ : SortsRow row s₂) {c : Nat} (hc : c < row.length)
    (huniq : ∀ b, b < row.length → row.getD b .posInf = row.getD c .posInf → b = c) :
    s₁.idxOf c = s₂.idxOf c := by
  have key : ∀ {s}, SortsRow row s →
      s.idxOf c = (s.filter fun a => leE row a c && (a != c)).length := fun {s} hs =>
    idxOf_eq_filter_length (hs.2.and (hs.1.nodup_iff.mpr List.nodup_range))
      (hs.1.mem_iff.mpr (List.mem_range.mpr hc))
      (fun b hb h1 h2 => h1.2 (huniq b (List.mem_range.mp (hs.1.mem_iff.mp hb))
        (EInt.le_antisymm _ _ h2.1 h1.1)).symm)
      _ (fun a _ => by simp [leE])
  rw [key h₁, key h₂, ((h₁.1.trans h₂.1.symm).filter _).length_eq]

def lexLt (crit : List Int) (j i : Nat) : Bool :=
  decide (crit.getD j 0 < crit.getD i 0) || (crit.getD j 0 == crit.getD i 0 && decide (j < i))

theorem lexLt_trans_lt {crit : List Int} {k i j : Nat} (h : lexLt crit k i = true)
    (hij : crit.getD i 0 < crit.getD j 0) : lexLt crit k j = true := by
  simp only [lexLt, Bool.or_eq_true, Bool.and_eq_true, decide_eq_true_eq, beq_iff_eq] at h ⊢
  omega

def leC (crit : List Int) (a b : Nat) : Bool := decide (crit.getD a 0 ≤ crit.getD b 0)

theorem before_leC_iff (crit : List Int) (a b : Nat) :
    Before (leC crit) a b ↔ lexLt crit a b = true := by
  simp only [Before, leC, lexLt, Bool.or_eq_true, Bool.and_eq_true, decide_eq_true_eq, beq_iff_eq]
  omega

/-- the number of predecessors of an element is its place in the list sorted by (criterion, index) -/
theorem map_count_lexLt_perm (crit : List Int) (L : List Nat) (hL : L.Pairwise (· < ·)) :
    (L.map fun i => (L.filter fun j => lexLt crit j i).length).Perm (List.range L.length) := by
  have hs := isort_pairwise (leC crit) (fun a b => by simp only [leC, decide_eq_true_eq]; omega)
    (fun a b c h1 h2 => by simp only [leC, decide_eq_true_eq] at *; omega) L hL
  have hp := isort_perm (leC crit) L
  rw [← hp.length_eq]
  refine (List.Perm.of_eq (List.map_congr_left fun i hi => ?_)).trans
    (map_idxOf_perm L (isort (leC crit) L) (pairwise_before_nodup _ _ hs) hp.symm)
  rw [idxOf_eq_filter_length hs (hp.mem_iff.mpr hi) (fun b _ h1 h2 => before_asymm _ _ _ h1 h2)
    (fun j => lexLt crit j i) (fun a _ => (before_leC_iff crit a i).symm), (hp.filter _).length_eq]

theorem rankedIn_eq (p : Pop) (cond : List Bool) (g : Nat) :
    rankedIn p cond g = (membersIdx p.ids g).filter fun i => cond.getD i false := by
  unfold rankedIn membersIdx
  rw [List.filter_filter, p.ids_length]
  exact List.filter_congr fun i _ => by rw [p.ids_getD, Bool.and_comm]

theorem mem_rankedIn {p : Pop} {cond : List Bool} {g i : Nat} :
    i ∈ rankedIn p cond g ↔ i ∈ membersIdx p.ids g ∧ cond.getD i false = true := by
  rw [rankedIn_eq, List.mem_filter]

theorem mem_rankedIn_self {p : Pop} {cond : List Bool} {i : Nat} (hi : i < p.ms.length)
    (hci : cond.getD i false = true) : i ∈ rankedIn p cond (p.ids.getD i 0) :=
  mem_rankedIn.mpr ⟨mem_membersIdx.mpr ⟨p.ids_length ▸ hi, rfl⟩, hci⟩

/-- the number of ranked persons of the group of `i` that come before `i` -/
def rankCount (p : Pop) (crit : List Int) (cond : List Bool) (i : Nat) : Nat :=
  ((rankedIn p cond (p.ids.getD i 0)).filter fun j => lexLt crit j i).length

section count
variable (p : Pop) (crit : List Int) (cond : List Bool) (hc : crit.length = p.ms.length)
  (hb : cond.length = p.ms.length)

include hc hb in
theorem rowOf_at_ranked (B : Nat) (hB : biggest p ≤ B) (g i : Nat) (hi : i ∈ rankedIn p cond g) :
    (rowOf p (filteredCrit crit cond) B g).getD (posOf p.ids i) .posInf = .fin (crit.getD i 0) := by
  obtain ⟨hi, hci⟩ := mem_rankedIn.mp hi
  have hilt := (mem_membersIdx.mp hi).1
  rw [rowOf_getD p _ (filteredCrit_length hc hb) _ _ _
      (Nat.lt_of_lt_of_le (posOf_lt_biggest p i hilt) hB),
    membersIdx_getElem_posOf _ _ _ hi, Option.map_some, Option.getD_some,
    filteredCrit_getD hc hb i (p.ids_length ▸ hilt), hci]
  rfl

include hc hb in
theorem finite_col (B g c : Nat) (hcB : c < B)
    (hne : (rowOf p (filteredCrit crit cond) B g).getD c .posInf ≠ .posInf) :
    ∃ i ∈ rankedIn p cond g, posOf p.ids i = c := by
  rw [rowOf_getD p _ (filteredCrit_length hc hb) _ _ _ hcB] at hne
  cases hMc : (membersIdx p.ids g)[c]? with
  | none => rw [hMc] at hne; exact absurd rfl hne
  | some i =>
    have hiM : i ∈ membersIdx p.ids g := List.mem_of_getElem? hMc
    refine ⟨i, mem_rankedIn.mpr ⟨hiM, ?_⟩, posOf_of_getElem? _ _ _ _ hMc⟩
    rw [hMc, Option.map_some, Option.getD_some,
      filteredCrit_getD hc hb i (p.ids_length ▸ (mem_membersIdx.mp hiM).1)] at hne
    cases h : cond.getD i false
    · rw [h] at hne; exact absurd rfl hne
    · rfl

include hc hb in
theorem before_ranked_iff (B : Nat) (hB : biggest p ≤ B) (g i j : Nat) (hi : i ∈ rankedIn p cond g)
    (hj : j ∈ rankedIn p cond g) :
    Before (leE (rowOf p (filteredCrit crit cond) B g)) (posOf p.ids j) (posOf p.ids i)
      ↔ lexLt crit j i = true := by
  have hpos := posOf_lt_iff p.ids g i j (mem_rankedIn.mp hi).1 (mem_rankedIn.mp hj).1
  simp only [Before, leE, rowOf_at_ranked p crit cond hc hb B hB g i hi,
    rowOf_at_ranked p crit cond hc hb B hB g j hj, EInt.le, decide_eq_true_eq, lexLt,
    Bool.or_eq_true, Bool.and_eq_true, beq_iff_eq]
  omega

include hc hb in
theorem before_col_iff (B : Nat) (hB : biggest p ≤ B) (g i : Nat) (hi : i ∈ rankedIn p cond g)
    (a : Nat) :
    (a < B ∧ Before (leE (rowOf p (filteredCrit crit cond) B g)) a (posOf p.ids i)) ↔
      a ∈ ((rankedIn p cond g).filter fun j => lexLt crit j i).map (posOf p.ids) := by
  simp only [List.mem_map, List.mem_filter]
  constructor
  · rintro ⟨haB, hbef⟩
    -- a column before a finite one is finite: it is the column of a ranked person
    have hle := hbef.1
    simp only [leE, rowOf_at_ranked p crit cond hc hb B hB g i hi] at hle
    obtain ⟨j, hj, rfl⟩ := finite_col p crit cond hc hb B g a haB
      fun h => by rw [h] at hle; exact Bool.noConfusion hle
    exact ⟨j, ⟨hj, (before_ranked_iff p crit cond hc hb B hB g i j hi hj).mp hbef⟩, rfl⟩
  · rintro ⟨j, ⟨hj, hlex⟩, rfl⟩
    exact ⟨Nat.lt_of_lt_of_le (posOf_lt_biggest p j (mem_membersIdx.mp (mem_rankedIn.mp hj).1).1) hB,
      (before_ranked_iff p crit cond hc hb B hB g i j hi hj).mpr hlex⟩

include hc hb in
theorem idxOf_argsortE_rowOf (B : Nat) (hB : biggest p ≤ B) (g i : Nat)
    (hi : i ∈ rankedIn p cond g) :
    (argsortE (rowOf p (filteredCrit crit cond) B g)).idxOf (posOf p.ids i)
      = ((rankedIn p cond g).filter fun j => lexLt crit j i).length := by
  generalize hrow : rowOf p (filteredCrit crit cond) B g = row
  have hrl : row.length = B := hrow ▸ rowOf_length _ _ _ _
  have hcB : posOf p.ids i < B :=
    Nat.lt_of_lt_of_le (posOf_lt_biggest p i (mem_membersIdx.mp (mem_rankedIn.mp hi).1).1) hB
  let q : Nat → Bool := fun a =>
    leE row a (posOf p.ids i) && (!leE row (posOf p.ids i) a || decide (a < posOf p.ids i))
  have hq : ∀ a, q a = true ↔ Before (leE row) a (posOf p.ids i) := fun a => by
    simp only [q, Before, Bool.and_eq_true, Bool.or_eq_true, Bool.not_eq_true', decide_eq_true_eq]
    cases leE row (posOf p.ids i) a <;> simp
  rw [idxOf_eq_filter_length (argsortE_pairwise row)
      ((argsortE_perm row).mem_iff.mpr (List.mem_range.mpr (hrl ▸ hcB)))
      (fun b _ h1 h2 => before_asymm _ _ _ h1 h2) q (fun a _ => hq a),
    ((argsortE_perm row).filter q).length_eq, hrl]
  refine Eq.trans ?_ (List.length_map (posOf p.ids))
  refine ((List.perm_ext_iff_of_nodup (List.nodup_range.sublist List.filter_sublist) ?_).mpr
    fun a => ?_).length_eq
  · have hsub := (List.filter_sublist.trans (rankedIn_eq p cond g ▸ List.filter_sublist) :
      ((rankedIn p cond g).filter fun j => lexLt crit j i).Sublist (membersIdx p.ids g)).map
        (posOf p.ids)
    rw [membersIdx_map_posOf] at hsub
    exact List.nodup_range.sublist hsub
  · rw [List.mem_filter, List.mem_range, hq, ← hrow, before_col_iff p crit cond hc hb B hB g i hi a]

theorem rankCount_mono (i j : Nat) (hi : i < p.ms.length)
    (hgrp : (p.ms.getD i default).group = (p.ms.getD j default).group)
    (hci : cond.getD i false = true) (hlt : crit.getD i 0 < crit.getD j 0) :
    rankCount p crit cond i < rankCount p crit cond j := by
  unfold rankCount
  rw [p.ids_getD j, ← hgrp, ← p.ids_getD i]
  exact filter_length_lt _ _ _ (fun k _ hk => lexLt_trans_lt hk hlt) i (mem_rankedIn_self hi hci)
    (by simp only [lexLt, Bool.or_eq_true, decide_eq_true_eq]; exact Or.inl hlt)
    (by simp [lexLt])

theorem rankCount_perm (g : Nat) :
    ((rankedIn p cond g).map (rankCount p crit cond)).Perm (List.range (rankedIn p cond g).length) := by
  refine (List.Perm.of_eq (List.map_congr_left fun i hi => ?_)).trans
    (map_count_lexLt_perm crit _ (rankedIn_eq p cond g ▸ (membersIdx_pairwise_lt p.ids g).filter _))
  rw [rankCount, (mem_membersIdx.mp (mem_rankedIn.mp hi).1).2]

end count

theorem getRankWide_count (extra : Nat) (p : Pop) (crit : List Int) (cond : List Bool)
    (hc : crit.length = p.ms.length) (hb : cond.length = p.ms.length) (hne : p.ms ≠ [])
    (hg : ∀ m ∈ p.ms, m.group < p.n) :
    getRankWide extra p crit cond = .ok ((List.range p.ms.length).map fun i =>
      if cond.getD i false then (rankCount p crit cond i : Int) else -1) := by
  unfold getRankWide
  rw [membersPosition_eq _ (p.ids_ne_nil hne)]
  simp only
  rw [if_neg (by omega), ← filteredCrit, rankCols_eq p _ (filteredCrit_length hc hb) hne hg]
  exact congrArg _ (rank_of_cols argsortE argsortE_perm p _ cond hb hg _ (Nat.le_add_right _ _) _
    fun i hi hci => idxOf_argsortE_rowOf p crit cond hc hb _ (Nat.le_add_right _ _) _ i
      (mem_rankedIn_self hi hci))

theorem getRank_count (p : Pop) (crit : List Int) (cond : List Bool)
    (hc : crit.length = p.ms.length) (hb : cond.length = p.ms.length) (hne : p.ms ≠ [])
    (hg : ∀ m ∈ p.ms, m.group < p.n) :
    getRank p crit cond = .ok ((List.range p.ms.length).map fun i =>
      if cond.getD i false then (rankCount p crit cond i : Int) else -1) :=
  getRankWide_count 0 p crit cond hc hb hne hg

theorem getRankWith_count (sort1 : List EInt → List Nat) (hsort : ∀ row, SortsRow row (sort1 row))
    (p : Pop) (crit : List Int) (cond : List Bool)
    (hc : crit.length = p.ms.length) (hb : cond.length = p.ms.length) (hne : p.ms ≠ [])
    (hg : ∀ m ∈ p.ms, m.group < p.n)
    (hdist : ∀ i j, i < p.ms.length → j < p.ms.length →
      (p.ms.getD i default).group = (p.ms.getD j default).group →
      cond.getD i false = true → cond.getD j false = true → crit.getD i 0 = crit.getD j 0 → i = j) :
    getRankWith sort1 p crit cond = .ok ((List.range p.ms.length).map fun i =>
      if cond.getD i false then (rankCount p crit cond i : Int) else -1) := by
  unfold getRankWith
  rw [membersPosition_eq _ (p.ids_ne_nil hne)]
  simp only
  rw [if_neg (by omega), ← filteredCrit, rankCols_eq p _ (filteredCrit_length hc hb) hne hg]
  refine congrArg _ (rank_of_cols sort1 (fun row => (hsort row).1) p _ cond hb hg _ (Nat.le_refl _) _
    fun i hi hci => ?_)
  have hiR := mem_rankedIn_self hi hci
  have hri := rowOf_at_ranked p crit cond hc hb _ (Nat.le_refl _) _ i hiR
  rw [rankCount, ← idxOf_argsortE_rowOf p crit cond hc hb _ (Nat.le_refl _) _ i hiR]
  refine idxOf_eq_of_sortsRow (hsort _) (argsortE_sortsRow _)
    (by rw [rowOf_length]; exact posOf_lt_biggest p i (p.ids_length ▸ hi)) fun b hbl hbe => ?_
  -- another column with the same finite entry would be a ranked member with the same criterion
  rw [rowOf_length] at hbl
  rw [hri] at hbe
  obtain ⟨j, hj, rfl⟩ := finite_col p crit cond hc hb _ _ b hbl
    (by rw [hbe]; exact EInt.noConfusion)
  rw [rowOf_at_ranked p crit cond hc hb _ (Nat.le_refl _) _ j hj] at hbe
  obtain ⟨hjM, hcj⟩ := mem_rankedIn.mp hj
  have hj' := mem_membersIdx.mp hjM
  rw [hdist j i (p.ids_length ▸ hj'.1) hi ((p.ids_getD j).symm.trans (hj'.2.trans (p.ids_getD i)))
    hcj hci (EInt.fin.inj hbe)]

end OFCore.Grp
