import OFCore.RuleSys
import OFCore.Lemmas.GroupAgg
import OFCore.Lemmas.ListGetD
/-!
One equation per code band of `f1`; codes 1 and 2 are digit 9 of their bands; the codes outside the
bands act value by value (`f1_shape`, `f2_shape`, `castTo_shape`).
-/
namespace OFCore.RuleSys
open OFCore OFCore.Engine

/-- `f1` tests four single codes, then bands of ten codes.  A code from 4 on fails the single
    tests; a code `K + r` of the band `K` fails the tests of the bands below it and passes its own. -/
theorem skip_singles {α : Type} {o : Nat} (h : 4 ≤ o) {u₀ u₁ u₂ u₃ v w : α} (hv : v = w) :
    (if o = 0 then u₀ else if o = 1 then u₁ else if o = 2 then u₂ else if o = 3 then u₃ else v) = w :=
  have ne : ∀ c, c < 4 → ¬o = c := fun c hc e => Nat.not_le_of_lt hc (e ▸ h)
  (if_neg (ne 0 (by decide))).trans <| (if_neg (ne 1 (by decide))).trans <|
  (if_neg (ne 2 (by decide))).trans <| (if_neg (ne 3 (by decide))).trans hv

theorem skip_band {α : Type} {K lo hi : Nat} (r : Nat) (h : hi ≤ K) {u v w : α} (hv : v = w) :
    (if lo ≤ K + r ∧ K + r < hi then u else v) = w :=
  (if_neg (by omega)).trans hv

theorem in_band {α : Type} {K hi r : Nat} (hr : r ≤ 9) (h : K + 10 = hi) {u v w : α} (hu : u = w) :
    (if K ≤ K + r ∧ K + r < hi then u else v) = w :=
  (if_pos (by omega)).trans hu

theorem skip_inner_band {α : Type} {o lo hi lo' hi' : Nat} (h : ¬(lo ≤ o ∧ o < hi)) (h1 : lo ≤ lo')
    (h2 : hi' ≤ hi) {u v w : α} (hv : v = w) : (if lo' ≤ o ∧ o < hi' then u else v) = w :=
  (if_neg fun h' => h ⟨Nat.le_trans h1 h'.1, Nat.lt_of_lt_of_le h'.2 h2⟩).trans hv

theorem f1_one (d : Decl) (x : Val) : f1 d 1 x = (List.range d.nG).map fun g =>
    ((d.mem.zip x).filter (fun m => m.1 = g)).foldl (fun acc m => acc + m.2) 0 := rfl

theorem f1_two (d : Decl) (x : Val) : f1 d 2 x = d.mem.map (fun g => x.getD g 0) := rfl

theorem f1_sum (d : Decl) (r : Nat) (hr : r ≤ 9) (x : Val) :
    f1 d (10 + r) x = (List.range d.nG).map (roleSum d r x) :=
  skip_singles (Nat.le_add_right_of_le (by decide)) <|
  in_band hr rfl (by rw [Nat.add_sub_cancel_left])

theorem f1_from (d : Decl) (r : Nat) (hr : r ≤ 9) (x : Val) :
    f1 d (20 + r) x = (List.range d.nG).map (roleSum d r x) :=
  skip_singles (Nat.le_add_right_of_le (by decide)) <|
  skip_band r (by decide) <|
  in_band hr rfl (by rw [Nat.add_sub_cancel_left])

theorem f1_count (d : Decl) (r : Nat) (hr : r ≤ 9) (x : Val) :
    f1 d (30 + r) x = (List.range d.nG).map (roleSum d r (List.replicate d.mem.length 1)) :=
  skip_singles (Nat.le_add_right_of_le (by decide)) <|
  skip_band r (by decide) <| skip_band r (by decide) <|
  in_band hr rfl (by rw [Nat.add_sub_cancel_left])

theorem f1_any (d : Decl) (r : Nat) (hr : r ≤ 9) (x : Val) :
    f1 d (40 + r) x = (List.range d.nG).map fun g => if roleSum d r x g > 0 then 1 else 0 :=
  skip_singles (Nat.le_add_right_of_le (by decide)) <|
  skip_band r (by decide) <| skip_band r (by decide) <| skip_band r (by decide) <|
  in_band hr rfl (by rw [Nat.add_sub_cancel_left])

theorem f1_max (d : Decl) (r : Nat) (hr : r ≤ 9) (x : Val) :
    f1 d (50 + r) x = (List.range d.nG).map fun g => listMax (holderVals d r x g) :=
  skip_singles (Nat.le_add_right_of_le (by decide)) <|
  skip_band r (by decide) <| skip_band r (by decide) <| skip_band r (by decide) <|
  skip_band r (by decide) <|
  in_band hr rfl (by rw [Nat.add_sub_cancel_left])

theorem f1_min (d : Decl) (r : Nat) (hr : r ≤ 9) (x : Val) :
    f1 d (60 + r) x = (List.range d.nG).map fun g => listMin (holderVals d r x g) :=
  skip_singles (Nat.le_add_right_of_le (by decide)) <|
  skip_band r (by decide) <| skip_band r (by decide) <| skip_band r (by decide) <|
  skip_band r (by decide) <| skip_band r (by decide) <|
  in_band hr rfl (by rw [Nat.add_sub_cancel_left])

theorem f1_all (d : Decl) (r : Nat) (hr : r ≤ 9) (x : Val) :
    f1 d (70 + r) x = (List.range d.nG).map fun g => listAll (holderVals d r x g) :=
  skip_singles (Nat.le_add_right_of_le (by decide)) <|
  skip_band r (by decide) <| skip_band r (by decide) <| skip_band r (by decide) <|
  skip_band r (by decide) <| skip_band r (by decide) <| skip_band r (by decide) <|
  in_band hr rfl (by rw [Nat.add_sub_cancel_left])

theorem f1_rproj (d : Decl) (r : Nat) (hr : r ≤ 9) (x : Val) :
    f1 d (80 + r) x = (List.range d.mem.length).map fun i =>
      if roleMatch r (d.roles.getD i 0) = true then x.getD (d.mem.getD i 0) 0 else 0 :=
  skip_singles (Nat.le_add_right_of_le (by decide)) <|
  skip_band r (by decide) <| skip_band r (by decide) <| skip_band r (by decide) <|
  skip_band r (by decide) <| skip_band r (by decide) <| skip_band r (by decide) <|
  skip_band r (by decide) <|
  in_band hr rfl (by rw [Nat.add_sub_cancel_left])

theorem roleOp_cases {o : Nat} (h : isRoleOp o = true) : ∃ r, r ≤ 9 ∧
    (o = 10 + r ∨ o = 20 + r ∨ o = 30 + r ∨ o = 40 + r ∨ o = 50 + r ∨ o = 60 + r ∨ o = 70 + r) := by
  have hb : 10 ≤ o ∧ o < 80 := of_decide_eq_true h
  exact ⟨o % 10, by omega, by omega⟩

theorem projOp_cases {o : Nat} (h : isProjOp o = true) : ∃ r, r ≤ 9 ∧ o = 80 + r := by
  have hb : 80 ≤ o ∧ o < 90 := of_decide_eq_true h
  exact ⟨o - 80, by omega, by omega⟩

theorem roleMatch_nine (ρ : Nat) : roleMatch 9 ρ = true := decide_eq_true (Or.inl rfl)

/-- digit 9 of a band is "no role filter" -/
theorem f1_one_eq (d : Decl) (x : Val) (hx : x.length = d.mem.length) : f1 d 1 x = f1 d 19 x := by
  rw [f1_one, Grp.zip_eq_range_map d.mem x 0 0 hx, show f1 d 19 x = _ from f1_sum d 9 (Nat.le_refl 9) x]
  apply List.map_congr_left
  intro g _
  unfold roleSum
  rw [List.filter_map, List.foldl_map, List.foldl_map]
  simp only [Function.comp_def, roleMatch_nine, and_true]

theorem f1_two_eq (d : Decl) (x : Val) : f1 d 2 x = f1 d 89 x := by
  rw [f1_two, show f1 d 89 x = _ from f1_rproj d 9 (Nat.le_refl 9) x]
  conv => lhs; rw [← List.map_getD_range d.mem 0, List.map_map]
  simp only [Function.comp_def, roleMatch_nine, if_true]

/-- what is left acts value by value: codes 0 and 3, the identity (4–9, 90–99), a scaling from 100 on -/
theorem f1_shape (o : Nat) (hS : ¬(o = 1 ∨ isRoleOp o = true)) (hP : ¬(o = 2 ∨ isProjOp o = true)) :
    ∃ g : Int → Int, ∀ (d : Decl) (x : Val), f1 d o x = x.map g := by
  by_cases h4 : 4 ≤ o
  · have hb : ¬(10 ≤ o ∧ o < 80) := fun h => hS (.inr (decide_eq_true h))
    have skip : ∀ (d : Decl) (x : Val),
        f1 d o x = if 100 ≤ o then x.map (fun a => a * ((o : Int) - 150)) else x := fun d x =>
      skip_singles h4 <|
      skip_inner_band hb (by decide) (by decide) <| skip_inner_band hb (by decide) (by decide) <|
      skip_inner_band hb (by decide) (by decide) <| skip_inner_band hb (by decide) (by decide) <|
      skip_inner_band hb (by decide) (by decide) <| skip_inner_band hb (by decide) (by decide) <|
      skip_inner_band hb (by decide) (by decide) <| if_neg fun h => hP (.inr (decide_eq_true h))
    by_cases h100 : 100 ≤ o
    · exact ⟨_, fun d x => (skip d x).trans (if_pos h100)⟩
    · exact ⟨id, fun d x => (skip d x).trans ((if_neg h100).trans (List.map_id x).symm)⟩
  · have below : ∀ o < 4, o ≠ 1 → o ≠ 2 → o = 0 ∨ o = 3 := by decide
    rcases below o (Nat.lt_of_not_le h4) (fun h => hS (.inl h)) (fun h => hP (.inl h)) with rfl | rfl
    · exact ⟨fun a => -a, fun d x => rfl⟩
    · exact ⟨fun a => if a ≠ 0 then 1 else 0, fun d x => rfl⟩

theorem f2_shape : ∀ o : Nat,
    (∃ g : Int → Int → Int, ∀ x y, f2 o x y = List.zipWith g x y) ∨ (∀ x y, f2 o x y = x)
  | 0 => .inl ⟨(· + ·), fun _ _ => rfl⟩
  | 1 => .inl ⟨(· - ·), fun _ _ => rfl⟩
  | 2 => .inl ⟨min, fun _ _ => rfl⟩
  | 3 => .inl ⟨max, fun _ _ => rfl⟩
  | 4 => .inl ⟨fun a b => if a < b then 1 else 0, fun _ _ => rfl⟩
  | 5 => .inl ⟨fun a b => if a ≤ b then 1 else 0, fun _ _ => rfl⟩
  | 6 => .inl ⟨fun a b => if a = b then 1 else 0, fun _ _ => rfl⟩
  | 7 => .inl ⟨fun c a => if c ≠ 0 then a else 0, fun _ _ => rfl⟩
  | 8 => .inl ⟨fun c b => if c ≠ 0 then 0 else b, fun _ _ => rfl⟩
  | _ + 9 => .inr fun _ _ => by simp [f2]

theorem castTo_shape (t : VType) : ∃ g : Int → Int, ∀ x : Val, castTo t x = x.map g := by
  cases t
  case bool => exact ⟨fun a => if a ≠ 0 then 1 else 0, fun x => rfl⟩
  all_goals exact ⟨id, fun x => by simp [castTo]⟩

theorem roleSum_eq (d : Decl) (r : Nat) (x : Val) (g : Nat) :
    roleSum d r x g = (holderVals d r x g).sum := List.sum_eq_foldl.symm

theorem roleSum_unique (d : Decl) (r : Nat) (x : Val) (g i : Nat) (hi : i < d.mem.length)
    (hh : d.mem.getD i 0 = g ∧ roleMatch r (d.roles.getD i 0) = true)
    (hu : ∀ k, k < d.mem.length → d.mem.getD k 0 = g ∧ roleMatch r (d.roles.getD k 0) = true → k = i) :
    roleSum d r x g = x.getD i 0 := by
  unfold roleSum
  rw [Grp.filter_eq_toList List.nodup_range (o := some i) fun k => by
    simp only [Option.some.injEq, List.mem_range, decide_eq_true_eq]
    exact ⟨fun h => h ▸ ⟨hi, hh⟩, fun ⟨h1, h2⟩ => (hu k h1 h2).symm⟩]
  simp

/-- no member of `g` holds role `r`: 0, the default of `value_from_person` -/
theorem roleSum_none (d : Decl) (r : Nat) (x : Val) (g : Nat)
    (hn : ∀ k, k < d.mem.length → ¬(d.mem.getD k 0 = g ∧ roleMatch r (d.roles.getD k 0) = true)) :
    roleSum d r x g = 0 := by
  unfold roleSum
  rw [List.filter_eq_nil_iff.2 fun k hk hd => hn k (List.mem_range.1 hk) (of_decide_eq_true hd)]
  rfl

theorem listMax_spec (l : List Int) (hne : l ≠ []) : listMax l ∈ l ∧ ∀ y ∈ l, y ≤ listMax l := by
  cases l with
  | nil => exact absurd rfl hne
  | cons a t => exact Grp.pickFold_max.int t a

theorem listMin_spec (l : List Int) (hne : l ≠ []) : listMin l ∈ l ∧ ∀ y ∈ l, listMin l ≤ y := by
  cases l with
  | nil => exact absurd rfl hne
  | cons a t => exact Grp.pickFold_min.int t a

theorem listAll_eq_one_iff (l : List Int) : listAll l = 1 ↔ ∀ y ∈ l, y ≠ 0 := by
  unfold listAll
  rw [← List.all_eq_true.trans (forall₂_congr fun y _ => decide_eq_true_iff)]
  cases l.all fun a => decide (a ≠ 0) <;> decide

theorem listMax_perm {l l' : List Int} (hp : l.Perm l') : listMax l = listMax l' := by
  match l, l', hp with
  | [], _, hp => rw [hp.nil_eq]
  | _ :: _, [], hp => exact absurd hp.eq_nil (List.cons_ne_nil _ _)
  | _ :: _, _ :: _, hp => exact Grp.pickFold_max.int_perm hp

theorem listMin_perm {l l' : List Int} (hp : l.Perm l') : listMin l = listMin l' := by
  match l, l', hp with
  | [], _, hp => rw [hp.nil_eq]
  | _ :: _, [], hp => exact absurd hp.eq_nil (List.cons_ne_nil _ _)
  | _ :: _, _ :: _, hp => exact Grp.pickFold_min.int_perm hp

theorem listAll_perm {l l' : List Int} (hp : l.Perm l') : listAll l = listAll l' := by
  unfold listAll
  rw [hp.all_eq]

end OFCore.RuleSys
