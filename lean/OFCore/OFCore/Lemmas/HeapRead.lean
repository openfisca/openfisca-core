import OFCore.Lemmas.HeapRun
/-!
# Reading a clone against reading the original: pair by pair, what `cloneSim_spec` describes answers the same, hence so does
every reader that goes from the simulation to the population of an entity.  A route is a look-up in the same list
(`routeAnswer`); its lemmas speak of one heap, not of a clone and its original.
-/
namespace OFCore.Heap
open HM

theorem alGet_rel₂ {κ α β : Type} [DecidableEq κ] {R : κ × α → κ × β → Prop} {L : List (κ × α)} {L' : List (κ × β)}
    (hrel : Rel₂ R L L') (hk : ∀ e e', R e e' → e.1 = e'.1) (k : κ) :
    (alGet L k = none ∧ alGet L' k = none) ∨ ∃ a a', alGet L k = some a ∧ alGet L' k = some a' ∧ R (k, a) (k, a') := by
  induction hrel with
  | nil => exact Or.inl ⟨rfl, rfl⟩
  | @cons e e' l l' hr _ ih =>
    obtain ⟨k1, a⟩ := e
    obtain ⟨k2, a'⟩ := e'
    have hkk : k1 = k2 := hk _ _ hr
    subst hkk
    by_cases h : k1 = k
    · subst h
      rw [alGet_cons_self, alGet_cons_self]
      exact Or.inr ⟨a, a', rfl, rfl, hr⟩
    · rw [alGet_cons_ne h, alGet_cons_ne h]
      exact ih

theorem alGet_filter_ne {β : Type} (l : List (Nat × β)) (k : Nat) (hk : k ≠ 0) :
    alGet (l.filter (fun e => e.1 ≠ 0)) k = alGet l k := by
  induction l with
  | nil => rfl
  | cons e t ih =>
    obtain ⟨k', b⟩ := e
    by_cases h0 : k' = 0
    · subst h0
      rw [List.filter_cons_of_neg (by simp), ih, alGet_cons_ne (Ne.symm hk)]
    · by_cases hk' : k' = k
      · subst hk'
        rw [List.filter_cons_of_pos (by simpa using h0), alGet_cons_self, alGet_cons_self]
      · rw [List.filter_cons_of_pos (by simpa using h0), alGet_cons_ne hk', alGet_cons_ne hk', ih]

theorem Rel₂.keys {κ α β : Type} {R : κ × α → κ × β → Prop} {L : List (κ × α)} {L' : List (κ × β)}
    (hrel : Rel₂ R L L') (hk : ∀ e e', R e e' → e.1 = e'.1) : L'.map (fun e => e.1) = L.map (fun e => e.1) := by
  induction hrel with
  | nil => rfl
  | cons hr _ ih => simp only [List.map_cons, ih, hk _ _ hr]

def HolderAgrees (h h' : Heap) (ho ho' : HolderObj) : Prop :=
  (∀ p, (holderFind ho' p h').1 = (holderFind ho p h).1) ∧ (knownPeriods ho' h').1 = (knownPeriods ho h).1

theorem HolderPair.agrees {rc rs : Nat} {newPop sim : Id} {h h' : Heap} {e e' : Var × Id}
    (hp : HolderPair rc newPop sim h h' e e') (cl : Closed rs h) (he : e.2.reg = rs) (hr : h[rs]? = h'[rs]?) :
    ∃ ho ho', h.get? e.2 = some (.holder ho) ∧ h'.get? e'.2 = some (.holder ho') ∧ HolderAgrees h h' ho ho' := by
  obtain ⟨_, ho, st, mem', a1, a2, a3, a4, _, _, _, _⟩ := hp
  have hin : InReg rs (.holder ho) := cl.get he a1
  refine ⟨ho, _, a1, a3, fun p => ?_, ?_⟩
  · unfold holderFind
    rw [rdStore_bind_eq a4, rdStore_bind_eq a2]
    cases st.find p with
    | some v => rfl
    | none => exact ((LocI.diskLookup hin.disk p).toLoc.loc h h' cl hr).1
  · unfold knownPeriods
    rw [rdStore_bind_eq a4, rdStore_bind_eq a2]
    have e := ((LocI.diskPeriods hin.disk).toLoc.loc h h' cl hr).1
    cases hd : (diskPeriods ho.disk h).1 with
    | ok ds => rw [bind_of_fst_ok hd, bind_of_fst_ok (e.trans hd)]; rfl
    | error er => rw [bind_of_fst_error hd, bind_of_fst_error (e.trans hd)]

structure PopAgrees (h h' : Heap) (c : Id) (v : Var) (po po' : PopObj) : Prop where
  count : po'.count = po.count
  ids : po'.ids = po.ids
  membersEntityId : po'.membersEntityId = po.membersEntityId
  membersRole : po'.membersRole = po.membersRole
  membersPosition : po'.membersPosition = po.membersPosition
  sim : po'.sim = c
  vars : po'.holders.map (fun e => e.1) = po.holders.map (fun e => e.1)
  holder : (alGet po.holders v = none ∧ alGet po'.holders v = none)
    ∨ ∃ hid hid' ho ho', alGet po.holders v = some hid ∧ alGet po'.holders v = some hid'
        ∧ h.get? hid = some (.holder ho) ∧ h'.get? hid' = some (.holder ho') ∧ HolderAgrees h h' ho ho'

theorem PopPair.agrees {rc rs : Nat} {newSim p0 : Id} {h h' : Heap} {e e' : Nat × Id}
    (hp : PopPair rc newSim p0 h h' e e') (cl : Closed rs h) (he : e.2.reg = rs) (hr : h[rs]? = h'[rs]?) (v : Var) :
    ∃ po po', h.get? e.2 = some (.pop po) ∧ h'.get? e'.2 = some (.pop po') ∧ PopAgrees h h' newSim v po po' := by
  obtain ⟨_, po, hs, members, b1, _, _, _, b5, b6⟩ := hp
  have hpo : InReg rs (.pop po) := cl.get he b1
  refine ⟨po, _, b1, b5, rfl, rfl, rfl, rfl, rfl, rfl, b6.keys (fun e e' hp => hp.1), ?_⟩
  rcases alGet_rel₂ b6 (fun e e' hp => hp.1) v with hn | ⟨hid, hid', g1, g2, g3⟩
  · exact Or.inl hn
  · obtain ⟨ho, ho', d⟩ := g3.agrees cl (hpo.holders _ (alGet_mem g1)) hr
    exact Or.inr ⟨hid, hid', ho, ho', g1, g2, d⟩

theorem SimCloned.pops_agree {s c : Id} {tr dbg : Bool} {h h' : Heap} (sc : SimCloned s c tr dbg h h')
    (hwf : WellFormed h s) :
    ∃ so so', h.get? s = some (.sim so) ∧ h'.get? c = some (.sim so')
      ∧ ∀ (k : Nat) (v : Var), (alGet so.pops k = none ∧ alGet so'.pops k = none)
        ∨ ∃ pid pid' po po', alGet so.pops k = some pid ∧ alGet so'.pops k = some pid'
            ∧ h.get? pid = some (.pop po) ∧ h'.get? pid' = some (.pop po') ∧ PopAgrees h h' c v po po' := by
  obtain ⟨so, persons', groups', trc, inv, hs, hs', _, _, _, _, a7, a8, _⟩ := sc.ex
  have hin : InReg s.reg (.sim so) := hwf.closed.get rfl hs
  refine ⟨so, _, hs, hs', fun k v => ?_⟩
  by_cases hk : k = 0
  · subst hk
    have l1 := hwf.listed so hs
    obtain ⟨po, po', q⟩ := a7.agrees hwf.closed (hin.pops _ (alGet_mem l1)) (sc.older sc.lt) v
    exact Or.inr ⟨_, _, po, po', l1, alGet_cons_self .., q⟩
  · have := alGet_rel₂ a8 (fun e e' hp => hp.1) k
    rw [alGet_filter_ne _ _ hk] at this
    rcases this with ⟨h1, h2⟩ | ⟨a, a', h1, h2, h3⟩
    · exact Or.inl ⟨h1, (alGet_cons_ne (Ne.symm hk) ..).trans h2⟩
    · obtain ⟨po, po', q⟩ := h3.agrees hwf.closed (hin.pops _ (alGet_mem h1)) (sc.older sc.lt) v
      exact Or.inr ⟨a, a', po, po', h1, (alGet_cons_ne (Ne.symm hk) ..).trans h2, q⟩

theorem SimCloned.reads_agree {β : Type} {s c : Id} {tr dbg : Bool} {h h' : Heap} (sc : SimCloned s c tr dbg h h')
    (hwf : WellFormed h s) (v : Var) (ent : Nat) (k : PopObj → HM β)
    (hk : ∀ po po', PopAgrees h h' c v po po' → (k po' h').1 = (k po h).1) :
    let read := fun x : Id => (do
      let so ← rdSim x; let pid ← ofOption .value (alGet so.pops ent); let po ← rdPop pid; k po : HM β)
    (read c h').1 = (read s h).1 := by
  obtain ⟨so, so', hs, hs', pops⟩ := sc.pops_agree hwf
  dsimp only
  rcases pops ent v with ⟨n1, n2⟩ | ⟨pid, pid', po, po', l1, l2, q1, q2, ag⟩
  · rw [rdSim_bind_eq hs', rdSim_bind_eq hs, n1, n2]
    rfl
  · rw [rdSim_bind_eq hs', rdSim_bind_eq hs, l1, l2]
    simp only [ofOption_some, pure_bind']
    rw [rdPop_bind_eq q2, rdPop_bind_eq q1]
    exact hk po po' ag

theorem SimCloned.holder_reads_agree {β : Type} {s c : Id} {tr dbg : Bool} {h h' : Heap}
    (sc : SimCloned s c tr dbg h h') (hwf : WellFormed h s) (sys : Sys) (v : Var) (K : HolderObj → HM β) (d : β)
    (hK : ∀ ho ho', HolderAgrees h h' ho ho' → (K ho' h').1 = (K ho h).1) :
    let read := fun x : Id => (do
      let decl ← varDecl sys v; let so ← rdSim x; let pid ← ofOption .value (alGet so.pops decl.entity); let po ← rdPop pid
      match alGet po.holders v with
      | some hid => (do let ho ← rdHolder hid; K ho)
      | none => pure d : HM β)
    (read c h').1 = (read s h).1 := by
  unfold varDecl
  cases sys[v]? with
  | none => rfl
  | some decl =>
    simp only [ofOption_some, pure_bind']
    refine sc.reads_agree hwf v decl.entity _ fun po po' ag => ?_
    rcases ag.holder with ⟨m1, m2⟩ | ⟨hid, hid', ho, ho', m1, m2, m3, m4, m5⟩
    · rw [m1, m2]; rfl
    · rw [m1, m2]
      simp only
      rw [rdHolder_bind_eq m4, rdHolder_bind_eq m3]
      exact hK ho ho' m5

theorem SimCloned.persons_reads_agree {β : Type} {s c : Id} {tr dbg : Bool} {h h' : Heap} (sc : SimCloned s c tr dbg h h')
    (hwf : WellFormed h s) (v : Var) (k : PopObj → HM β)
    (hk : ∀ po po', PopAgrees h h' c v po po' → po.sim = s → (k po' h').1 = (k po h).1) :
    let read := fun x : Id => (do let so ← rdSim x; let po ← rdPop so.persons; k po : HM β)
    (read c h').1 = (read s h).1 := by
  dsimp only
  obtain ⟨so, persons', groups', trc, inv, hs, hs', _, _, _, _, a7, _⟩ := sc.ex
  obtain ⟨po, po', q1, q2, ag⟩ := a7.agrees hwf.closed (hwf.closed.get rfl hs).persons (sc.older sc.lt) v
  rw [rdSim_bind_eq hs', rdSim_bind_eq hs, rdPop_bind_eq q2, rdPop_bind_eq q1]
  exact hk po po' ag (hwf.bound so po hs q1)

def routeAnswer (so : SimObj) (rt : Route) (ent : Nat) : Except Err Id :=
  if rt = .persons then .ok so.persons
  else match alGet so.pops ent with
    | some q => .ok q
    | none => .error .value

theorem routePop_eq {h : Heap} {x : Id} {so : SimObj} (hs : h.get? x = some (.sim so)) (rt : Route) (ent : Nat) :
    routePop x rt ent h = (routeAnswer so rt ent, h) := by
  unfold routePop routeAnswer
  rw [rdSim_bind_eq hs]
  cases rt with
  | persons => rfl
  | _ => cases alGet so.pops ent <;> rfl

theorem routeAnswer_mem {so : SimObj} {rt : Route} {ent : Nat} {pid : Id} (e : routeAnswer so rt ent = .ok pid)
    (hl : alGet so.pops 0 = some so.persons) : ∃ k, (k, pid) ∈ so.pops := by
  unfold routeAnswer at e
  split at e
  · cases e; exact ⟨0, alGet_mem hl⟩
  · cases hg : alGet so.pops ent with
    | none => rw [hg] at e; cases e
    | some q => rw [hg] at e; cases e; exact ⟨ent, alGet_mem hg⟩

theorem routeOwn_eq {h : Heap} {x pid : Id} {so : SimObj} {po : PopObj} {rt : Route} {ent : Nat}
    (hs : h.get? x = some (.sim so)) (hr : routeAnswer so rt ent = .ok pid) (hp : h.get? pid = some (.pop po)) :
    routeOwn x rt ent h = (.ok (decide (po.sim = x)), h) := by
  unfold routeOwn
  rw [bind_of_ok ((routePop_eq hs rt ent).trans (by rw [hr])), rdPop_bind_eq hp]
  rfl

end OFCore.Heap
