import OFCore.Lemmas.TaxScaleClip
import OFCore.Lemmas.ListGetD
/-!
# Tax scales: a base splits sorted thresholds into those `≤ base` and those above (`exists_split`); the reported bracket is
the last one of the lower part, `-1` when that part is empty (`bracketIndex_append`)
-/
namespace OFCore.Sca

theorem cntLe_zero_of_lt (l : Scale) (x : Rat) (h : ∀ c ∈ l, x < c.1) : cntLe l x = 0 := by
  unfold cntLe
  rw [List.countP_eq_zero]
  intro c hc
  simp only [decide_eq_true_eq, not_le]
  exact h c hc

theorem bracketIndex_eq (ε f : Rat) (rd : Option Nat) (s : Scale) (x : Rat) :
    bracketIndex ε f rd s x = (cntLe (mapT (thrMap ε f rd) s) x : Int) - 1 := by
  unfold bracketIndex cntLe mapT
  rw [List.countP_map]
  congr 2
  apply List.countP_congr
  intro b _
  simp only [Function.comp, decide_eq_true_eq]
  exact sub_nonneg

theorem exists_split (τ : Rat → Rat) (s : Scale) (hl : WSorted (mapT τ s)) (x : Rat) :
    ∃ pre post, s = pre ++ post ∧ (∀ c ∈ pre, τ c.1 ≤ x) ∧ ∀ c ∈ post, x < τ c.1 := by
  induction s with
  | nil => exact ⟨[], [], rfl, List.forall_mem_nil _, List.forall_mem_nil _⟩
  | cons a rest ih =>
    have hl' := (wsorted_cons (b := (τ a.1, a.2))).mp hl
    by_cases h : τ a.1 ≤ x
    · obtain ⟨pre, post, e, h1, h2⟩ := ih hl'.2
      exact ⟨a :: pre, post, congrArg (a :: ·) e, List.forall_mem_cons.mpr ⟨h, h1⟩, h2⟩
    · refine ⟨[], a :: rest, rfl, List.forall_mem_nil _, List.forall_mem_cons.mpr ⟨not_le.mp h, fun c hc => ?_⟩⟩
      exact lt_of_lt_of_le (not_le.mp h) (hl'.1 (τ c.1, c.2) (List.mem_map_of_mem hc))

theorem bracketIndex_append (ε f : Rat) (rd : Option Nat) (pre post : Scale) (x : Rat)
    (h1 : ∀ c ∈ pre, thrMap ε f rd c.1 ≤ x) (h2 : ∀ c ∈ post, x < thrMap ε f rd c.1) :
    bracketIndex ε f rd (pre ++ post) x = (pre.length : Int) - 1 := by
  unfold bracketIndex
  rw [List.countP_append, List.countP_eq_length.mpr (fun c hc => decide_eq_true (sub_nonneg.mpr (h1 c hc))),
    List.countP_eq_zero.mpr (fun c hc => by
      rw [decide_eq_false (not_le.mpr (sub_neg.mpr (h2 c hc)))]; exact Bool.false_ne_true), Nat.add_zero]

theorem exists_bracket (ε f : Rat) (rd : Option Nat) (s : Scale) (hl : WSorted (mapT (thrMap ε f rd) s)) (x : Rat)
    (h0 : 0 ≤ bracketIndex ε f rd s x) :
    ∃ pre t r post, s = pre ++ (t, r) :: post ∧ thrMap ε f rd t ≤ x ∧ ∀ c ∈ post, x < thrMap ε f rd c.1 := by
  obtain ⟨pre, post, rfl, h1, h2⟩ := exists_split _ s hl x
  rw [bracketIndex_append ε f rd pre post x h1 h2] at h0
  obtain ⟨pre, ⟨t, r⟩, rfl⟩ := (List.eq_nil_or_concat pre).resolve_left (by rintro rfl; simp at h0)
  rw [List.concat_eq_append] at h1 ⊢
  exact ⟨pre, t, r, post, List.append_assoc _ _ _, h1 (t, r) (List.mem_append_right _ List.mem_cons_self), h2⟩

theorem countP_split {α} (p : α → Bool) (pre post : List α) (b : α) (h1 : ∀ c ∈ pre, p c = true) (hb : p b = true)
    (h2 : ∀ c ∈ post, p c = false) : (pre ++ b :: post).countP p = pre.length + 1 := by
  rw [List.countP_append, List.countP_cons, if_pos hb, List.countP_eq_length.mpr h1,
    List.countP_eq_zero.mpr (fun c hc => by rw [h2 c hc]; exact Bool.false_ne_true)]

theorem getD_split {α} (pre post : List α) (b d : α) : (pre ++ b :: post).getD pre.length d = b := by
  rw [List.getD_eq_getElem?_getD, List.getElem?_append_right (Nat.le_refl _), Nat.sub_self]
  rfl

theorem rates_getD (s : Scale) (n : Nat) : (rates s).getD n 0 = (s.getD n (0, 0)).2 :=
  List.getD_map_default (fun b : Rat × Rat => b.2) s n (0, 0)

theorem pyIndex_natCast (l : List Rat) (n : Nat) (h : n < l.length) : pyIndex l (n : Int) = .ok (l.getD n 0) := by
  unfold pyIndex
  rw [if_pos ⟨Int.natCast_nonneg n, Int.ofNat_lt.mpr h⟩, Int.toNat_natCast]

theorem pyIndex_neg_one (l : List Rat) (hne : l ≠ []) : pyIndex l (-1) = .ok (l.getLast hne) := by
  have hlen : 0 < l.length := List.length_pos_of_ne_nil hne
  unfold pyIndex
  rw [if_neg (by omega), if_pos (by omega), show ((l.length : Int) + -1).toNat = l.length - 1 by omega,
    List.getD_eq_getElem?_getD, ← List.getLast?_eq_getElem?, List.getLast?_eq_some_getLast hne]
  rfl

theorem pyIndex_map_split (g : Rat × Rat → Rat) (pre post : Scale) (b : Rat × Rat) :
    pyIndex ((pre ++ b :: post).map g) (pre.length : Int) = .ok (g b) := by
  rw [pyIndex_natCast _ _ (by rw [List.length_map, List.length_append, List.length_cons]; omega),
    List.map_append, List.map_cons]
  have := getD_split (pre.map g) (post.map g) (g b) 0
  rw [List.length_map] at this
  rw [this]

theorem nonneg_of_lattice {n : Int} {g d e : Rat} (hg : 0 < g) (hd : d = n * g) (he : |e| < g) (h : 0 ≤ d + e) :
    0 ≤ d := by
  have h1 : -g < n * g := by rw [← hd]; have := le_abs_self e; linarith
  have hn : 0 ≤ n := by
    by_contra hn
    have h2 : (n : Rat) ≤ -1 := by exact_mod_cast (by omega : n ≤ -1)
    have := mul_le_mul_of_nonneg_right h2 hg.le
    linarith
  rw [hd]
  exact mul_nonneg (Int.cast_nonneg hn) hg.le

theorem le_of_lattice {ε t b g : Rat} (hε : 0 ≤ ε) (hg : 0 < g) (hlat : ∃ n : Int, b - t = n * g) (hgap : ε * |t| < g) :
    ((1 + ε) * t ≤ b → t ≤ b) ∧ (b < (1 + ε) * t → b ≤ t) := by
  obtain ⟨n, hn⟩ := hlat
  have he : |ε * t| < g := by rwa [abs_mul, abs_of_nonneg hε]
  have hn' : t - b = ((-n : Int) : Rat) * g := by rw [Int.cast_neg, neg_mul, ← hn]; ring
  -- `b − t` is a multiple of the step, and the perturbed comparison is off it by `ε·t`, less than a step
  exact ⟨fun h => sub_nonneg.mp (nonneg_of_lattice hg hn (e := -(ε * t)) (by rwa [abs_neg]) (by linarith)),
    fun h => sub_nonneg.mp (nonneg_of_lattice hg hn' he (by linarith))⟩

theorem bracketIndices_eq (ε f : Rat) (rd : Option Nat) {s : Scale} {bs : List Rat} (h1 : s ≠ []) (h2 : bs ≠ []) :
    bracketIndices ε f rd s bs = .ok (bs.map (bracketIndex ε f rd s)) := by
  unfold bracketIndices
  rw [List.isEmpty_eq_false_iff.mpr h1, List.isEmpty_eq_false_iff.mpr h2]
  rfl

theorem bracketIndices_bind (ε f : Rat) (rd : Option Nat) {s : Scale} {bs : List Rat} (h1 : s ≠ []) (h2 : bs ≠ [])
    {β : Type} (F : List Int → Except String β) :
    (bracketIndices ε f rd s bs >>= F) = F (bs.map (bracketIndex ε f rd s)) := by
  rw [bracketIndices_eq ε f rd h1 h2]
  rfl

theorem bracketIndicesF_eq {efs : List (Rat × Rat)} {bs : List Rat} (hlen : efs.length = bs.length) (rd : Option Nat)
    {s : Scale} (h1 : s ≠ []) (h2 : bs ≠ []) :
    bracketIndicesF efs rd s bs = .ok (List.zipWith (fun ef b => bracketIndex ef.1 ef.2 rd s b) efs bs) := by
  unfold bracketIndicesF
  rw [List.isEmpty_eq_false_iff.mpr h1, List.isEmpty_eq_false_iff.mpr h2, if_neg (not_not.mpr hlen)]
  rfl

theorem bracketIndex_le (ε f : Rat) (rd : Option Nat) (s : Scale) (x : Rat) :
    bracketIndex ε f rd s x ≤ (s.length : Int) - 1 := by
  unfold bracketIndex
  have := List.countP_le_length (p := fun b : Rat × Rat => decide (0 ≤ x - thrMap ε f rd b.1)) (l := s)
  omega

/-- the bound check of `rate_from_bracket_indice` never fires (`bracketIndex_le`) -/
theorem rateFromTaxBase_eq (ε : Rat) {s : Scale} {bs : List Rat} (h1 : s ≠ []) (h2 : bs ≠ []) :
    rateFromTaxBase ε s bs = marginalRates ε 1 none s bs := by
  unfold rateFromTaxBase marginalRates
  rw [bracketIndices_bind ε 1 none h1 h2, bracketIndices_bind ε 1 none h1 h2]
  unfold rateFromBracketIndice
  rw [if_neg (by simpa using h2), if_neg]
  rw [Bool.not_eq_true, List.any_eq_false]
  intro i hi
  obtain ⟨x, _, rfl⟩ := List.mem_map.mp hi
  simpa using bracketIndex_le ε 1 none s x

end OFCore.Sca
