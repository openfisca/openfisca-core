import OFCore.TaxScale
/-!
# The one-walk insertion `ins`: it keeps the order, adds the threshold, and adds the rate to what the threshold had.
On a strictly sorted scale `add_bracket` is this walk (`addBracket_eq_ins`, `Lemmas/TaxScale`), and so is `scaleAdd` of the
parameter side (`scaleAdd_eq_ins`, `Lemmas/ParamScale`)
-/
namespace OFCore.Sca

def StrictSorted (s : Scale) : Prop := s.Pairwise (fun a b => a.1 < b.1)

instance (s : Scale) : Decidable (StrictSorted s) := by unfold StrictSorted; infer_instance

/-- sum of the rates (amounts) given for threshold `u` in a list of brackets -/
def rateOf : List (Rat × Rat) → Rat → Rat
  | [], _ => 0
  | (t, r) :: rest, u => (if t = u then r else 0) + rateOf rest u

def ins : Scale → Rat → Rat → Scale
  | [], t, r => [(t, r)]
  | (t', r') :: rest, t, r =>
    if t = t' then (t', r' + r) :: rest
    else if t < t' then (t, r) :: (t', r') :: rest
    else (t', r') :: ins rest t r

theorem strictSorted_nil : StrictSorted [] := List.Pairwise.nil

theorem strictSorted_cons {b : Rat × Rat} {s : Scale} :
    StrictSorted (b :: s) ↔ (∀ c ∈ s, b.1 < c.1) ∧ StrictSorted s := List.pairwise_cons

@[simp] theorem hasT_cons (b : Rat × Rat) (s : Scale) (t : Rat) :
    hasT (b :: s) t = (decide (b.1 = t) || hasT s t) := List.any_cons

theorem hasT_iff {s : Scale} {t : Rat} : hasT s t = true ↔ ∃ c ∈ s, c.1 = t := by
  unfold hasT
  rw [List.any_eq_true]
  simp only [decide_eq_true_eq]

theorem hasT_eq_false_of_lt {s : Scale} {t : Rat} (h : ∀ c ∈ s, t < c.1) : hasT s t = false := by
  rw [Bool.eq_false_iff]
  intro hh
  obtain ⟨c, hc, e⟩ := hasT_iff.mp hh
  exact absurd (h c hc) (by rw [e]; exact Rat.lt_irrefl)

theorem rateOf_eq_zero {s : Scale} {u : Rat} (h : hasT s u = false) : rateOf s u = 0 := by
  induction s with
  | nil => rfl
  | cons a rest ih =>
    obtain ⟨t, r⟩ := a
    rw [hasT_cons, Bool.or_eq_false_iff, decide_eq_false_iff_not] at h
    rw [rateOf, if_neg h.1, ih h.2, Rat.add_zero]

theorem hasT_ins (s : Scale) (t r u : Rat) : hasT (ins s t r) u = (hasT s u || decide (t = u)) := by
  induction s with
  | nil => exact (Bool.or_false _).trans (Bool.false_or _).symm
  | cons a rest ih =>
    obtain ⟨t1, r1⟩ := a
    unfold ins
    split
    · rename_i h; subst h
      simp only [hasT_cons, Bool.or_comm, Bool.or_self_left]
    · split
      · simp only [hasT_cons, Bool.or_comm]
      · simp only [hasT_cons, ih, Bool.or_assoc]

theorem ins_mem_thr {s : Scale} {t r : Rat} {c : Rat × Rat} (hc : c ∈ ins s t r) :
    c.1 = t ∨ ∃ d ∈ s, d.1 = c.1 := by
  have h : hasT (ins s t r) c.1 = true := hasT_iff.mpr ⟨c, hc, rfl⟩
  rw [hasT_ins, Bool.or_eq_true, decide_eq_true_eq] at h
  exact h.symm.imp Eq.symm hasT_iff.mp

theorem ins_sorted {s : Scale} (hs : StrictSorted s) (t r : Rat) : StrictSorted (ins s t r) := by
  induction s with
  | nil => exact List.pairwise_singleton _ _
  | cons b rest ih =>
    obtain ⟨t', r'⟩ := b
    rw [strictSorted_cons] at hs
    unfold ins
    split
    · exact strictSorted_cons.mpr ⟨hs.1, hs.2⟩
    · rename_i h1
      split
      · rename_i h2
        exact strictSorted_cons.mpr
          ⟨List.forall_mem_cons.mpr ⟨h2, fun c hc => Std.lt_trans h2 (hs.1 c hc)⟩, strictSorted_cons.mpr hs⟩
      · rename_i h2
        have h3 : t' < t := Rat.lt_of_le_of_ne (Rat.not_lt.mp h2) (fun e => h1 e.symm)
        refine strictSorted_cons.mpr ⟨fun c hc => ?_, ih hs.2⟩
        rcases ins_mem_thr hc with h | ⟨d, hd, e⟩
        · rw [h]; exact h3
        · rw [← e]; exact hs.1 d hd

theorem rateOf_ins (s : Scale) (t r u : Rat) : rateOf (ins s t r) u = rateOf s u + (if t = u then r else 0) := by
  induction s with
  | nil => exact (Rat.add_zero _).trans (Rat.zero_add _).symm
  | cons a rest ih =>
    obtain ⟨t1, r1⟩ := a
    unfold ins
    split
    · rename_i h; subst h
      simp only [rateOf]
      split
      · ac_rfl
      · rw [Rat.add_zero]
    · split
      · simp only [rateOf]; ac_rfl
      · simp only [rateOf, ih]; ac_rfl

/-- stated for any `f` that is `ins` on sorted scales: it is used at `addBracket` (tax scales) and at `scaleAdd` (parameters) -/
theorem foldl_ins_spec (f : Scale → Rat → Rat → Scale) (hf : ∀ s t r, StrictSorted s → f s t r = ins s t r)
    (l : List (Rat × Rat)) : ∀ s, StrictSorted s →
    StrictSorted (l.foldl (fun s b => f s b.1 b.2) s) ∧
    ∀ u, hasT (l.foldl (fun s b => f s b.1 b.2) s) u = (hasT s u || hasT l u) ∧
      rateOf (l.foldl (fun s b => f s b.1 b.2) s) u = rateOf s u + rateOf l u := by
  induction l with
  | nil => exact fun s hs => ⟨hs, fun u => ⟨(Bool.or_false _).symm, (Rat.add_zero _).symm⟩⟩
  | cons b l ih =>
    intro s hs
    obtain ⟨h1, h2⟩ := ih _ (ins_sorted hs b.1 b.2)
    rw [List.foldl_cons, hf s _ _ hs]
    refine ⟨h1, fun u => ?_⟩
    rw [(h2 u).1, (h2 u).2, hasT_ins, rateOf_ins, hasT_cons, Bool.or_assoc, Rat.add_assoc]
    exact ⟨rfl, rfl⟩

end OFCore.Sca
