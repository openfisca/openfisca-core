import OFCore.Lemmas.RuleSys
import OFCore.Lemmas.Engine
/-!
# Elaborated systems are slot-coherent

An eternal variable is stored under ETERNITY whatever period it is requested for.  Its meaning
does not depend on the requested period when (`EternalWF`) it has no end date, its formulas all
start on or before day 1, and its formulas read only fixed periods or other eternal variables at
the formula's own period.  (An eternal variable whose formula depends on the request period has
no period-independent meaning — the code then returns whichever period was asked first.)
-/
namespace OFCore.RuleSys
open OFCore OFCore.Engine

/-- reads that do not depend on the formula's own period -/
def PeriodFree (d : Decl) : DExpr → Prop
  | .const _ => True
  | .var w pt add =>
    (∃ q, pt = .fixed q) ∨
    (pt = .same ∧ add = false ∧ ∃ wv, d.vars[w]? = some wv ∧ wv.unit = .eternity)
  | .op1 _ a => PeriodFree d a
  | .op2 _ a b => PeriodFree d a ∧ PeriodFree d b
  | .fail _ a => PeriodFree d a

def EternalWF (d : Decl) : Prop :=
  ∀ (v : Nat) (vv : Var), d.vars[v]? = some vv → vv.unit = DUnit.eternity →
    vv.endOrd = none ∧ ∀ f ∈ vv.formulas, f.1 ≤ 1 ∧ PeriodFree d f.2

theorem startOrdOf_ge (p : Period) : 1 ≤ startOrdOf p := by
  unfold startOrdOf; split
  · exact Int.le_refl 1
  · exact Int.le_max_left 1 _

theorem pick_fold_indep (o o' : Int) : ∀ (fs : List (Int × DExpr)) (best : Option (Int × DExpr)),
    (∀ f ∈ fs, f.1 ≤ o ∧ f.1 ≤ o') → fs.foldl (pickStep o) best = fs.foldl (pickStep o') best
  | [], _, _ => rfl
  | f :: fs, best, h => by
    simp only [List.foldl_cons]
    have hf := h f List.mem_cons_self
    have e : pickStep o best f = pickStep o' best f := by
      unfold pickStep; rw [if_pos hf.1, if_pos hf.2]
    rw [e]
    exact pick_fold_indep o o' fs _ (fun g hg => h g (List.mem_cons_of_mem _ hg))

theorem formulaInForce_indep (vv : Var) (he : vv.endOrd = none) (hs : ∀ f ∈ vv.formulas, f.1 ≤ 1)
    (p p' : Period) : formulaInForce vv (startOrdOf p) = formulaInForce vv (startOrdOf p') := by
  rw [formulaInForce_eq_pick (he ▸ nofun), formulaInForce_eq_pick (he ▸ nofun), pickFormula, pickFormula,
    pick_fold_indep (startOrdOf p) (startOrdOf p') vv.formulas none
    (fun f hf => ⟨Int.le_trans (hs f hf) (startOrdOf_ge p), Int.le_trans (hs f hf) (startOrdOf_ge p')⟩)]

theorem storageKey_eternal (d : Decl) (v : Nat) (vv : Var) (hv : d.vars[v]? = some vv) (hu : vv.unit = .eternity)
    (p : Period) : storageKey d v p = Period.eternity := by
  simp [storageKey, hv, hu]

theorem storageKey_eq_cases {d : Decl} {v : Nat} {p p' : Period} (h : storageKey d v p = storageKey d v p') :
    p = p' ∨ ∃ vv, d.vars[v]? = some vv ∧ vv.unit = .eternity := by
  unfold storageKey at h
  cases hv : d.vars[v]? with
  | none => rw [hv] at h; exact .inl h
  | some vv =>
    by_cases hu : vv.unit = .eternity
    · exact .inr ⟨vv, rfl, hu⟩
    · rw [hv] at h; simp only [hu, if_false] at h; exact .inl h

theorem elab_input_eternal (d : Decl) (armed : List Nat) (v : Nat) (vv : Var) (hv : d.vars[v]? = some vv)
    (hu : vv.unit = .eternity) (hend : vv.endOrd = none) (p p' : Period) :
    (elabSys d armed).input v p = (elabSys d armed).input v p' := by
  simp only [(elabSys_declared hv).1, hend, inputLookup, storageKey_eternal d v vv hv hu]

def EternalIndep (d : Decl) (sys : Sys Period) (n : Nat) : Prop :=
  ∀ (v : Nat) (vv : Var), d.vars[v]? = some vv → vv.unit = .eternity → ∀ p p', den sys n v p = den sys n v p'

/-- for any elaborator `el` and its notion `PF` of period-free expression: used at `elabExpr` and at `xelabExpr` -/
theorem slotCoherent_of_elab (d : Decl) (sys : Sys Period) (el : Nat → Period → DExpr → Expr Period) (PF : DExpr → Prop)
    (hkey : ∀ v p, sys.ckey v p = storageKey d v p)
    (hformula : ∀ (v : Nat) (vv : Var), d.vars[v]? = some vv → ∀ p,
      sys.formula v p = (formulaInForce vv (startOrdOf p)).map (el vv.entity p))
    (hinput : ∀ (v : Nat) (vv : Var), d.vars[v]? = some vv → vv.unit = .eternity → vv.endOrd = none →
      ∀ p p', sys.input v p = sys.input v p')
    (hwf : ∀ (v : Nat) (vv : Var), d.vars[v]? = some vv → vv.unit = .eternity →
      vv.endOrd = none ∧ ∀ f ∈ vv.formulas, f.1 ≤ 1 ∧ PF f.2)
    (hexp : ∀ n, EternalIndep d sys n → ∀ e ent p p', PF e → denE sys n (el ent p e) = denE sys n (el ent p' e)) :
    SlotCoherent sys := by
  have indep : ∀ n, EternalIndep d sys n := by
    intro n
    induction n with
    | zero => intro v vv _ _ p p'; rw [den_zero, den_zero]
    | succ n ih =>
      intro v vv hv hu p p'
      obtain ⟨hend, hfs⟩ := hwf v vv hv hu
      have hform : sys.formula v p' = (formulaInForce vv (startOrdOf p)).map (el vv.entity p') := by
        rw [hformula v vv hv, formulaInForce_indep vv hend (fun f hf => (hfs f hf).1) p p']
      rw [den, den, ← hinput v vv hv hu hend p p', hformula v vv hv p, hform]
      cases hff : formulaInForce vv (startOrdOf p) with
      | none => rfl
      | some e =>
        obtain ⟨s, hs⟩ := formulaInForce_mem vv _ e hff
        simp only [Option.map_some, hexp n ih e vv.entity p p' (hfs (s, e) hs).2]
  intro v p p' hck n
  rw [hkey, hkey] at hck
  rcases storageKey_eq_cases hck with rfl | ⟨vv, hv, hu⟩
  · rfl
  · exact indep n v vv hv hu p p'

theorem denE_read_indep (d : Decl) (sys : Sys Period) (n : Nat) (ih : EternalIndep d sys n)
    (ent w : Nat) (pt : PTrans) (add : Bool) (p p' : Period)
    (hpf : (∃ q, pt = .fixed q) ∨ (pt = .same ∧ add = false ∧ ∃ wv, d.vars[w]? = some wv ∧ wv.unit = .eternity)) :
    denE sys n (elabExpr d ent p (.var w pt add)) = denE sys n (elabExpr d ent p' (.var w pt add)) := by
  simp only [elabExpr]
  cases hw : d.vars[w]? with
  | none => rfl
  | some wv =>
    simp only
    split
    · rcases hpf with ⟨q, rfl⟩ | ⟨rfl, rfl, wv', hw', hwu⟩
      · rfl
      · rw [hw] at hw'; injection hw' with hw'; subst hw'
        simp only [applyPT, elabRead, hw, servedPeriod, hwu, if_true, Bool.false_eq_true, if_false, denE_ref]
        exact ih w wv hw hwu p p'
    · rfl

/-- reads that do not depend on the formula's own period, extended language: a DIVIDE read or a
    parameter read must name a fixed period -/
def XPeriodFree (d : Decl) : DExpr → Prop
  | .const _ => True
  | .var w pt add =>
    (∃ q, pt = .fixed q) ∨
    (pt = .same ∧ add = false ∧ ∃ wv, d.vars[w]? = some wv ∧ wv.unit = .eternity)
  | .op1 o a => XPeriodFree d a ∧
      ((o = OP_DIVIDE ∨ o = OP_PARAM) → ∀ w pt add, a = .var w pt add → ∃ q, pt = .fixed q)
  | .op2 _ a b => XPeriodFree d a ∧ XPeriodFree d b
  | .fail _ a => XPeriodFree d a

def XEternalWF (x : XDecl) : Prop :=
  ∀ (v : Nat) (vv : Var), x.vars[v]? = some vv → vv.unit = DUnit.eternity →
    vv.endOrd = none ∧ ∀ f ∈ vv.formulas, f.1 ≤ 1 ∧ XPeriodFree x.toDecl f.2

theorem specialOp_cases (o : Nat) (a : DExpr) :
    (∀ x ent p, specialOp x ent p o a = none) ∨ ∃ w pt add, a = .var w pt add ∧ (o = OP_DIVIDE ∨ o = OP_PARAM) := by
  cases a with
  | var w pt add =>
    by_cases ho : o = OP_DIVIDE ∨ o = OP_PARAM
    · exact .inr ⟨w, pt, add, rfl, ho⟩
    · rw [not_or] at ho
      exact .inl fun x ent p => (if_neg ho.1).trans (if_neg ho.2)
  | const k => exact .inl fun _ _ _ => rfl
  | op1 o' b => exact .inl fun _ _ _ => rfl
  | op2 o' b c => exact .inl fun _ _ _ => rfl
  | fail id b => exact .inl fun _ _ _ => rfl

theorem specialOp_none (x : XDecl) (ent : Nat) (p : Period) (o : Nat) (a : DExpr)
    (h1 : o ≠ OP_DIVIDE) (h2 : o ≠ OP_PARAM) : specialOp x ent p o a = none := by
  rcases specialOp_cases o a with h | ⟨_, _, _, _, ho⟩
  · exact h x ent p
  · exact (ho.elim h1 h2).elim

theorem xelab_formula (x : XDecl) (armed : List Nat) (v : Nat) (vv : Var) (hv : x.vars[v]? = some vv) (p : Period) :
    (xelabSys x armed).formula v p = (formulaInForce vv (startOrdOf p)).map (xelabExpr x vv.entity p) := by
  simp [xelabSys, hv]

theorem xelabSys_slotCoherent (x : XDecl) (armed : List Nat) (hwf : XEternalWF x) :
    SlotCoherent (xelabSys x armed) :=
  slotCoherent_of_elab x.toDecl (xelabSys x armed) (xelabExpr x) (XPeriodFree x.toDecl) (fun _ _ => rfl)
    (xelab_formula x armed) (elab_input_eternal x.toDecl armed) hwf fun n ih e => by
      induction e with
      | const k => intro ent p p' _; rfl
      | var w pt add => intro ent p p' hpf; exact denE_read_indep x.toDecl _ n ih ent w pt add p p' hpf
      | op1 o a iha =>
        intro ent p p' hpf
        simp only [xelabExpr]
        rcases specialOp_cases o a with hn | ⟨w, pt, add, rfl, ho⟩
        · rw [hn, hn]
          simp only [denE_op1]
          rw [iha _ p p' hpf.1]
        · obtain ⟨q, rfl⟩ := hpf.2 ho w pt add rfl
          rfl
      | op2 o a b iha ihb =>
        intro ent p p' hpf
        simp only [xelabExpr, denE_op2]
        rw [iha _ p p' hpf.1, ihb _ p p' hpf.2]
      | fail id a iha =>
        intro ent p p' hpf
        simp only [xelabExpr, denE_fail]
        rw [iha _ p p' hpf]

/-- a system without eternal variable stores every value under its own period -/
theorem xelabSys_slotCoherent_dated (x : XDecl) (armed : List Nat)
    (h : ∀ (v : Nat) (vv : Var), x.vars[v]? = some vv → vv.unit ≠ DUnit.eternity) : SlotCoherent (xelabSys x armed) :=
  xelabSys_slotCoherent x armed fun v vv hv hu => absurd hu (h v vv hv)

theorem xf1_div (d : Decl) (m : Nat) (hm : 0 < m) (v : Val) :
    xf1 d (XDIV + m) v = v.map (fun a => a / (m : Int)) := by
  unfold xf1
  rw [if_pos (by omega)]
  have : XDIV + m - XDIV = m := by omega
  rw [this]

theorem xf1_low (d : Decl) (o : Nat) (ho : o ≤ XDIV) (v : Val) : xf1 d o v = f1 d o v := by
  unfold xf1
  rw [if_neg (by omega)]

/-- expressions of the plain language: neither reserved form occurs -/
def Plain : DExpr → Prop
  | .const _ => True
  | .var _ _ _ => True
  | .op1 o a => o ≠ OP_DIVIDE ∧ o ≠ OP_PARAM ∧ Plain a
  | .op2 _ a b => Plain a ∧ Plain b
  | .fail _ a => Plain a

def Plain.dec : (e : DExpr) → Decidable (Plain e)
  | .const _ => isTrue trivial
  | .var _ _ _ => isTrue trivial
  | .op1 o a => have := Plain.dec a; inferInstanceAs (Decidable (o ≠ OP_DIVIDE ∧ o ≠ OP_PARAM ∧ Plain a))
  | .op2 _ a b => have := Plain.dec a; have := Plain.dec b; inferInstanceAs (Decidable (Plain a ∧ Plain b))
  | .fail _ a => Plain.dec a

instance (e : DExpr) : Decidable (Plain e) := Plain.dec e

theorem xelabExpr_plain (x : XDecl) (p : Period) : ∀ (e : DExpr) (ent : Nat), Plain e →
    xelabExpr x ent p e = elabExpr x.toDecl ent p e := by
  intro e
  induction e with
  | const k => intro ent _; rfl
  | var w pt add => intro ent _; rfl
  | op1 o a ih =>
    intro ent h
    simp only [xelabExpr, elabExpr, specialOp_none x ent p o a h.1 h.2.1]
    rw [ih _ h.2.2]
  | op2 o a b iha ihb =>
    intro ent h
    simp only [xelabExpr, elabExpr]
    rw [iha _ h.1, ihb _ h.2]
  | fail id a ih =>
    intro ent h
    simp only [xelabExpr, elabExpr]
    rw [ih _ h]

end OFCore.RuleSys
