import OFCore.Lemmas.BuilderFolds
/-!
# The programmatic route: what a successful `join_with_persons` went through
-/

namespace OFCore.Bld

theorem joinMemb_ok {gids assign : List String} {memb : List Nat} (h : joinMemb gids assign = .ok memb) :
    gids.Nodup ∧ memb.length = assign.length ∧
    ∀ (i : Nat) (a : String), assign[i]? = some a → a ∈ gids ∧ memb[i]? = some (gids.idxOf a) := by
  unfold joinMemb at h
  split at h
  next hnd =>
    refine ⟨hnd, mapE_length h, ?_⟩
    intro i a ha
    obtain ⟨m, hm1, hm2⟩ := mapE_getElem? h ha
    split at hm2
    next hmem => cases hm2; exact ⟨hmem, hm1⟩
    · cases hm2
  · cases h

theorem joinRoles_ok {flat : List String} {roles : List RoleRef} {rs : List String}
    (h : joinRoles flat roles = .ok rs) :
    rs.length = roles.length ∧ ∀ (i : Nat) (r : RoleRef), roles[i]? = some r →
      (∀ k, r = .key k → rs[i]? = some k ∧ k ∈ flat) ∧
      (∀ t, r = .idx t → rs[i]? = flat[t]? ∧ t < flat.length) := by
  unfold joinRoles at h
  split at h
  · cases h
  · refine ⟨mapE_length h, fun i r hri => ?_⟩
    obtain ⟨b, hb1, hb2⟩ := mapE_getElem? h hri
    refine ⟨?_, ?_⟩
    · rintro k rfl; cases hb2
    · rintro t rfl
      simp only at hb2
      split at hb2
      · cases hb2; rename_i hf; exact ⟨hb1.trans hf.symm, (List.getElem?_eq_some_iff.mp hf).1⟩
      · cases hb2
  · refine ⟨mapE_length h, fun i r hri => ?_⟩
    obtain ⟨b, hb1, hb2⟩ := mapE_getElem? h hri
    refine ⟨?_, ?_⟩
    · rintro k rfl
      simp only at hb2
      split at hb2
      next hmem => cases hb2; exact ⟨hb1, hmem⟩
      · cases hb2
    · rintro t rfl; cases hb2

theorem joinOne_ok {npersons : Nat} {j : Joined} {e : Ent} (h : joinOne sys npersons j = .ok e) :
    ∃ g memb roles, sys.groups.find? (fun g => g.key == j.kind) = some g ∧
      j.assign.length = npersons ∧ j.roles.length = npersons ∧
      joinMemb j.ids j.assign = .ok memb ∧ joinRoles g.flatRoles j.roles = .ok roles ∧
      e = ⟨g.key, g.plural, false, j.ids, memb, roles⟩ := by
  unfold joinOne at h
  split at h
  · cases h
  next g hg =>
    split at h
    · cases h
    · rename_i hlen
      split at h
      · cases h
      next memb hm =>
        split at h
        · cases h
        next roles hr =>
          cases h
          exact ⟨g, memb, roles, hg, Decidable.byContradiction (fun c => hlen (Or.inl c)),
            Decidable.byContradiction (fun c => hlen (Or.inr c)), hm, hr, rfl⟩

end OFCore.Bld
