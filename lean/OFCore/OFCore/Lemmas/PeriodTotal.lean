import OFCore.Lemmas.Subperiods
/-!
Inside pendulum's years (1 … 9999) the shifts succeed and return `shiftDate`, the loop of `get_subperiods`
(`offsetsFrom`) produces `shiftPieces`, and `get_subperiods` itself answers as soon as its count does.
A period lies inside those years when `p.hi + 1 ≤ 3652059`: the ordinal of 31 December 9999 is `dby 10000 = 3652059`.
-/
namespace OFCore

theorem unitWeight_eq (u : DUnit) : unitWeight u =
    match u with
    | .weekday => 100 | .week => 200 | .day => 100 | .month => 200 | .year => 300 | .eternity => 400 := by
  cases u <;> rfl

theorem ord_9998 : ord ⟨9998, 12, 31⟩ = dby 9999 := by decide +kernel
theorem dby_9999 : dby 9999 = 3651694 := by decide +kernel
theorem dby_10000 : dby 10000 = 3652059 := by decide +kernel

theorem year_le_of_ord_le (c : Date) (hv : c.Valid) (Y : Int) (h : ord c ≤ dby (Y + 1)) : c.y ≤ Y := by
  by_cases hc : c.y ≤ Y
  · exact hc
  · have h1 : Y + 1 ≤ c.y := by omega
    have := dby_le _ _ h1
    have := (ord_bounds c hv).1
    omega

theorem ord_le_of_year_le (c : Date) (hv : c.Valid) (Y : Int) (h : c.y ≤ Y) : ord c ≤ dby (Y + 1) :=
  Int.le_trans (ord_le_dby_succ c hv) (dby_le _ _ (by omega))

theorem chk_of (c : Date) (h1 : 1 ≤ c.y) (h2 : c.y ≤ 9999) : chk c = .ok c := by
  unfold chk; rw [if_pos ⟨h1, h2⟩]

theorem year_le_9999_iff (c : Date) (hv : c.Valid) : c.y ≤ 9999 ↔ ord c ≤ 3652059 := by
  rw [← dby_10000]; exact ⟨ord_le_of_year_le c hv 9999, year_le_of_ord_le c hv 9999⟩

theorem year_ok (c : Date) (hv : c.Valid) (h : ord c ≤ 3652059) : 1 ≤ c.y ∧ c.y ≤ 9999 :=
  ⟨hv.1, (year_le_9999_iff c hv).2 h⟩

theorem instOffset_n_total (c : Date) (k : Int) (u : DUnit) (hv : c.Valid) (hy : c.y ≤ 9999)
    (hu : u ≠ .eternity) (h1 : 1 ≤ (shiftDate c k u).y) (h2 : (shiftDate c k u).y ≤ 9999) :
    instOffset c (.n k) u = .ok (some (shiftDate c k u)) :=
  instOffset_n_eq_ok.2 ⟨hu, ⟨hv, hy⟩, ⟨h1, h2⟩, rfl⟩

theorem offset_n_total (b : Period) (k : Int) (uo : Option DUnit) (hv : b.start.Valid)
    (hy : b.start.y ≤ 9999) (hu : uo.getD b.unit ≠ .eternity)
    (h1 : 1 ≤ (shiftDate b.start k (uo.getD b.unit)).y)
    (h2 : (shiftDate b.start k (uo.getD b.unit)).y ≤ 9999) :
    b.offset (.n k) uo = .ok ⟨b.unit, shiftDate b.start k (uo.getD b.unit), b.size⟩ :=
  offset_eq_ok.2 ⟨_, instOffset_n_total _ _ _ hv hy hu h1 h2, rfl⟩

theorem offset_one_shiftDate (s : Date) (hv : s.Valid) (u : DUnit) (hu : u ≠ .eternity)
    (hal : NoClip s u) (i : Nat) (hy : (shiftDate s (i + 1 : Nat) u).y ≤ 9999) :
    Period.offset ⟨u, shiftDate s i u, 1⟩ (.n 1) none = .ok ⟨u, shiftDate s (i + 1 : Nat) u, 1⟩ := by
  have hvi := shiftDate_valid s hv i (by omega) u
  have hyi := Int.le_trans (shiftDate_year_mono s hv i (i + 1 : Nat) (by omega) (by omega) u) hy
  have hs : shiftDate (shiftDate s i u) 1 u = shiftDate s (i + 1 : Nat) u := shiftDate_add s u hal i 1
  have := offset_n_total ⟨u, shiftDate s i u, 1⟩ 1 none hvi hyi hu
  simp only [Option.getD_none, hs] at this
  exact this (shiftDate_valid s hv _ (by omega) u).1 hy

theorem offsetsFrom_eq_shiftPieces (s : Date) (hv : s.Valid) (u : DUnit) (hu : u ≠ .eternity) (n : Int)
    (hy : (shiftDate s n.toNat u).y ≤ 9999) : offsetsFrom ⟨u, s, 1⟩ u n = .ok (shiftPieces u s n.toNat) := by
  have h0 := shiftDate_year_mono s hv 0 n.toNat (by omega) (by omega) u
  rw [shiftDate_zero s hv] at h0
  refine mapM_ok_map _ _ _ fun i hi => ?_
  have hi' : i < n.toNat := List.mem_range.1 hi
  exact offset_n_total ⟨u, s, 1⟩ (Int.ofNat i) (some u) hv (Int.le_trans h0 hy) hu
    (shiftDate_valid s hv i (by omega) u).1
    (Int.le_trans (shiftDate_year_mono s hv i n.toNat (by omega) (by omega) u) hy)

theorem range_facts (p : Period) (hp : p.WF) (hr : p.hi + 1 ≤ 3652059) :
    p.start.y ≤ 9999 ∧ (shiftDate p.start p.size p.unit).Valid ∧ ord (shiftDate p.start p.size p.unit) = p.hi + 1 ∧
      1 ≤ (shiftDate p.start p.size p.unit).y ∧ (shiftDate p.start p.size p.unit).y ≤ 9999 := by
  have hlo := lo_le_hi p hp
  have hhi := hi_eq_shiftDate p hp.1
  obtain ⟨hne, hv, hs⟩ := hp
  have hav := shiftDate_valid _ hv p.size (by omega) p.unit
  have hy := year_ok _ hv (by unfold Period.lo at hlo; omega)
  have ha := year_ok _ hav (by omega)
  exact ⟨hy.2, hav, by omega, ha.1, ha.2⟩

theorem spanDays_total (p : Period) (hp : p.WF) (hr : p.hi + 1 ≤ 3652059) :
    p.spanDays = .ok (p.hi - p.lo + 1) := by
  obtain ⟨hy, hav, hao, ha1, ha2⟩ := range_facts p hp hr
  have hlo := lo_le_hi p hp
  have h1 := ord_pos _ hp.2.1
  have hlo' : p.lo = ord p.start := rfl
  have e1 := instOffset_n_total _ _ _ hp.2.1 hy hp.1 ha1 ha2
  have hd := year_ok (addDays (shiftDate p.start p.size p.unit) (-1)) (addDays_valid _ _ (by omega))
    (by rw [ord_addDays]; omega)
  have e2 := instOffset_n_total _ (-1) .day hav ha2 nofun hd.1 hd.2
  have : ∃ k, p.spanDays = .ok k := by
    unfold Period.spanDays
    rw [e1]; simp only [bind, Except.bind]
    rw [e2]; exact ⟨_, rfl⟩
  obtain ⟨k, hk⟩ := this
  rw [hk, spanDays_count p k hk]

theorem sizeInDays_total (p : Period) (hp : p.WF) (hr : p.hi + 1 ≤ 3652059) :
    p.sizeInDays = .ok (p.hi - p.lo + 1) := by
  unfold Period.sizeInDays
  cases hu : p.unit <;> simp only
  case weekday => rw [span_daylike p (.inl hu)]
  case week => rw [span_week p hu]
  case day => rw [span_daylike p (.inr hu)]
  case month | year => exact spanDays_total p hp hr
  case eternity => exact absurd hu hp.1

theorem sizeInWeeks_total (p : Period) (hp : p.WF) (hr : p.hi + 1 ≤ 3652059)
    (hu : p.unit = .month ∨ p.unit = .year) : p.sizeInWeeks = .ok ((p.hi - p.lo + 1) / 7) := by
  obtain ⟨hy, -, -, ha1, ha2⟩ := range_facts p hp hr
  rw [sizeInWeeks_eq p hu.symm, if_pos ((dateOk_iff _).2 ⟨hp.2.1, hy⟩), chk_of _ ha1 ha2]
  exact congrArg _ (inWeeks_span p hp)

theorem hi_succ_le (p : Period) (hp : p.WF) (hy : (shiftDate p.start p.size p.unit).y ≤ 9999) :
    p.hi + 1 ≤ 3652059 := by
  have hs := hp.2.2
  have := (year_le_9999_iff _ (shiftDate_valid p.start hp.2.1 p.size (by omega) p.unit)).1 hy
  rw [hi_eq_shiftDate p hp.1]; omega

/-- `hmon`: the Monday of the start's week is a date -/
theorem subBase_total (p : Period) (u : DUnit) (hv : p.start.Valid) (hy : p.start.y ≤ 9999) (hu : u ≠ .eternity)
    (hmon : u = .week → 1 ≤ ord p.start - weekday0 (ord p.start)) :
    ∃ s, subBase p u = .ok ⟨u, s, 1⟩ ∧ s.Valid ∧ ord s ≤ ord p.start := by
  obtain ⟨s, hs⟩ : ∃ s, subBase p u = .ok ⟨u, s, 1⟩ := by
    cases u
    case eternity => exact absurd rfl hu
    case week =>
      have hsv : (startOfWeek p.start).Valid := ofOrd_valid _ (hmon rfl)
      have ho := ord_startOfWeek p.start
      have hwd := weekday0_range (ord p.start)
      have hsy := year_mono _ _ hsv hv (by omega)
      exact ⟨_, firstWeek_eq_ok.2 ⟨⟨hv, hy⟩, _, chk_of _ hsv.1 (by omega), rfl⟩⟩
    all_goals exact ⟨_, rfl⟩
  obtain ⟨hsv, -, hlo, -⟩ := (subBase_spec hs).2.2.2 hv
  exact ⟨s, hs, hsv, hlo⟩

/-- months of weeks pass the guard too (equal weights); there the count refuses -/
theorem guard_cells (u pu : DUnit) (hw : ¬ unitWeight pu < unitWeight u) (hu : u ≠ .eternity) (hpu : pu ≠ .eternity) :
    Divides u pu ∨ (u = .week ∧ (pu = .year ∨ pu = .month)) ∨ (u = .weekday ∧ pu = .year) ∨
      (u = .month ∧ pu = .week) := by
  revert u pu; decide +kernel

theorem subCount_le {p : Period} {u : DUnit} {n : Int} (hp : p.WF)
    (hw : ¬ unitWeight p.unit < unitWeight u) (h : subCount p u = .ok n) :
    0 ≤ n ∧ ord (shiftDate p.start n u) ≤ p.hi + 1 := by
  have hu : u ≠ .eternity := by rintro rfl; cases h
  have hll := lo_le_hi p hp
  have hlo : p.lo = ord p.start := rfl
  have weeks : ∀ w : Int, w = (p.hi - p.lo + 1) / 7 → ∀ k, k = 7 * w → 0 ≤ k ∧ ord (addDays p.start k) ≤ p.hi + 1 :=
    fun w hw k hk => ⟨by omega, by rw [ord_addDays]; omega⟩
  rcases guard_cells u p.unit hw hu hp.1 with hd | ⟨rfl, hpu⟩ | ⟨rfl, hpu⟩ | ⟨rfl, hpu⟩
  · obtain ⟨h0, e⟩ := subCount_reaches hp hd h
    rw [e, hi_eq_shiftDate p hp.1]
    exact ⟨h0, by omega⟩
  · have := weeks n (sizeInWeeks_count p hp hpu n h) _ rfl
    exact ⟨by omega, this.2⟩
  · obtain ⟨w, hw', h⟩ := bind_ok (show (p.sizeInWeeks >>= fun w => .ok (w * 7)) = .ok n by
      simpa only [subCount, Period.sizeInWeekdays, hpu] using h)
    cases h
    exact weeks w (sizeInWeeks_count p hp (.inl hpu) w hw') _ (Int.mul_comm w 7)
  · -- months of a week period: `sizeInMonths` refuses, so `h` is `.error _ = .ok n`
    simp [subCount, Period.sizeInMonths, hpu] at h

theorem subperiods_eq_shiftPieces (p : Period) (u : DUnit) (hp : p.WF) (hr : p.hi + 1 ≤ 3652059)
    (hw : ¬ unitWeight p.unit < unitWeight u)
    (hmon : u = .week → 1 ≤ ord p.start - weekday0 (ord p.start)) {n : Int} (hn : subCount p u = .ok n) :
    ∃ s, subBase p u = .ok ⟨u, s, 1⟩ ∧ s.Valid ∧ ord s ≤ ord p.start ∧
      p.subperiods u = .ok (shiftPieces u s n.toNat) := by
  have hu : u ≠ .eternity := by rintro rfl; cases hn
  have hv := hp.2.1
  obtain ⟨hy, -⟩ := range_facts p hp hr
  obtain ⟨s, hb, hsv, hsl⟩ := subBase_total p u hv hy hu hmon
  obtain ⟨h0, hle⟩ := subCount_le hp hw hn
  refine ⟨s, hb, hsv, hsl, ?_⟩
  rw [subperiods_eq, if_neg hw, hb, hn]
  refine offsetsFrom_eq_shiftPieces s hsv u hu n ?_
  rw [Int.toNat_of_nonneg h0]
  have := shiftDate_year_mono_start s p.start hsv hv hsl n h0 u
  have := (year_ok _ (shiftDate_valid _ hv n h0 u) (by omega)).2
  omega

theorem subCount_total (p : Period) (u : DUnit) (hp : p.WF) (hr : p.hi + 1 ≤ 3652059)
    (hd : Divides u p.unit) : ∃ n, subCount p u = .ok n := by
  have hu := (hd.weight hp.1).1
  have hd := hd.unit_of hp.1
  cases u
  case eternity => exact absurd rfl hu
  case day => exact ⟨_, sizeInDays_total p hp hr⟩
  case year => exact ⟨_, rfl⟩
  case week => exact ⟨p.size, by simp only [subCount, Period.sizeInWeeks, hd.2.1 rfl]⟩
  case month =>
    rcases hd.2.2.1 rfl with h | h <;> simp only [subCount, Period.sizeInMonths, h] <;> exact ⟨_, rfl⟩
  case weekday => exact ⟨_, (sizeInWeekdays_eq_days p (hd.1 rfl)).trans (sizeInDays_total p hp hr)⟩

theorem subCount_total_of_guard (p : Period) (u : DUnit) (hp : p.WF) (hr : p.hi + 1 ≤ 3652059)
    (hw : ¬ unitWeight p.unit < unitWeight u) (hu : u ≠ .eternity) (hmw : ¬ (u = .month ∧ p.unit = .week)) :
    ∃ n, subCount p u = .ok n := by
  rcases guard_cells u p.unit hw hu hp.1 with hd | ⟨rfl, hpu⟩ | ⟨rfl, hpu⟩ | h
  · exact subCount_total p u hp hr hd
  · exact ⟨_, sizeInWeeks_total p hp hr hpu.symm⟩
  · exact ⟨_, by simp only [subCount, Period.sizeInWeekdays, hpu, sizeInWeeks_total p hp hr (.inr hpu)]; rfl⟩
  · exact absurd h hmw

theorem subperiods_aligned_eq (p : Period) (u : DUnit) (hp : p.WF) (hr : p.hi + 1 ≤ 3652059)
    (hd : Divides u p.unit) (hal : AlignedTo p.start u) {N : Nat} (hN : shiftDate p.start N u = shiftDate p.start p.size p.unit) :
    p.subperiods u = .ok (shiftPieces u p.start N) := by
  have hv := hp.2.1
  have h1 := ord_pos _ hv
  obtain ⟨n, hn⟩ := subCount_total p u hp hr hd
  obtain ⟨s, hb, -, -, hq⟩ := subperiods_eq_shiftPieces p u hp hr (hd.weight hp.1).2
    (fun e => by subst e; rw [show weekday0 (ord p.start) = 0 from hal]; omega) hn
  cases subBase_aligned hv hal hb
  obtain ⟨h0, e⟩ := subCount_reaches hp hd hn
  rw [hq, shiftDate_inj p.start hv u hal.noClip (show shiftDate p.start n.toNat u = shiftDate p.start N u by
    rw [Int.toNat_of_nonneg h0, e, hN])]

end OFCore
