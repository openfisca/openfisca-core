import OFCore.Calendar
/-!
`ord`/`ofOrd` are inverse bijections between valid dates and ordinals >= 1 (`ord (ofOrd o) = o` holds of every
integer, `ord_ofOrd_any`), `ord` is strictly monotone for the lexicographic (tuple) order.
-/
namespace OFCore

/-- in place of `split at`, which on a chain of `if`s costs twice as much with every level -/
theorem of_ite_eq {α : Type} {c : Prop} [Decidable c] {x y r : α} (h : (if c then x else y) = r) :
    c ∧ x = r ∨ ¬ c ∧ y = r := by
  by_cases hc : c
  · exact Or.inl ⟨hc, by rwa [if_pos hc] at h⟩
  · exact Or.inr ⟨hc, by rwa [if_neg hc] at h⟩

theorem isLeap_iff (y : Int) : isLeap y = true ↔ (y % 4 = 0 ∧ y % 100 ≠ 0) ∨ y % 400 = 0 := by
  simp [isLeap]

theorem dby_succ (y : Int) : dby (y+1) = dby y + (if isLeap y then 366 else 365) := by
  unfold dby
  by_cases h : isLeap y = true
  · rw [if_pos h]; rw [isLeap_iff] at h; omega
  · rw [if_neg h]; rw [isLeap_iff] at h; omega

theorem dby_succ_ge (y : Int) : dby y + 365 ≤ dby (y + 1) := by
  rw [dby_succ]; split <;> omega

theorem dby_lt (a b : Int) (h : a < b) : dby a + 365 ≤ dby b := by
  obtain ⟨n, rfl⟩ : ∃ n : Nat, b = a + 1 + n := ⟨(b - a - 1).toNat, by omega⟩
  clear h
  induction n with
  | zero => simpa using dby_succ_ge a
  | succ n ih =>
    have := dby_succ_ge (a + 1 + n)
    rw [Int.natCast_succ, ← Int.add_assoc]; omega

theorem dby_le (a b : Int) (h : a ≤ b) : dby a ≤ dby b := by
  by_cases e : a = b
  · rw [e]; exact Int.le_refl _
  · have := dby_lt a b (by omega); omega

theorem dby_nonneg (y : Int) (h : 1 ≤ y) : 0 ≤ dby y := by
  have : dby 1 = 0 := by decide
  have := dby_le 1 y h; omega

def dimL (leap : Bool) (m : Int) : Int :=
  if m = 2 then (if leap then 29 else 28)
  else if m = 4 ∨ m = 6 ∨ m = 9 ∨ m = 11 then 30 else 31

theorem dim_eq (y m : Int) : dim y m = dimL (isLeap y) m := by
  unfold dim dimL; cases isLeap y <;> simp

theorem monthDay_spec (leap : Bool) (n : Int) (h0 : 0 ≤ n) (h1 : n < (if leap then 366 else 365)) :
    1 ≤ (monthDay leap n).1 ∧ (monthDay leap n).1 ≤ 12 ∧ 1 ≤ (monthDay leap n).2 ∧
    (monthDay leap n).2 ≤ dimL leap (monthDay leap n).1 ∧
    dbm leap (monthDay leap n).1 + (monthDay leap n).2 = n + 1 := by
  generalize hmd : monthDay leap n = md
  have hlo : ¬ n < 0 := Int.not_lt.2 h0
  cases leap <;> simp only [monthDay, Bool.false_eq_true, if_false, if_true, Int.add_zero] at hmd h1
  -- branch by branch: `md` is explicit, `n` lies between the bound just refused (`hlo`) and the one accepted
  all_goals
    iterate 11
      rcases of_ite_eq hmd with ⟨hc, rfl⟩ | ⟨hc, hmd⟩
      · simp [dbm, dimL]; omega
      clear hlo; have hlo := hc; clear hc
    subst hmd
    simp [dbm, dimL]; omega

theorem year_lin (a b c d : Int) (hb : 0 ≤ b ∧ b ≤ 3) (hc : 0 ≤ c ∧ c ≤ 24) (hd : 0 ≤ d ∧ d ≤ 3) :
    dby (400*a + 100*b + 4*c + d + 1) = 146097*a + 36524*b + 1461*c + 365*d := by
  unfold dby; omega

theorem ofOrd_eq (o : Int) : ∃ y r, 0 ≤ r ∧ r < (if isLeap y then 366 else 365) ∧
    dby y + r + 1 = o ∧ ofOrd o = ⟨y, (monthDay (isLeap y) r).1, (monthDay (isLeap y) r).2⟩ := by
  -- the Euclidean divisions `ofOrd` performs, as linear facts about names
  obtain ⟨a, r1, ha, e1, b1⟩ : ∃ a r1, a = (o - 1) / 146097 ∧ r1 = (o - 1) % 146097 ∧
      (o - 1 = 146097 * a + r1 ∧ 0 ≤ r1 ∧ r1 < 146097) := ⟨_, _, rfl, rfl, by omega⟩
  obtain ⟨b, r2, hb, e2, b2⟩ : ∃ b r2, b = r1 / 36524 ∧ r2 = r1 % 36524 ∧
      (r1 = 36524 * b + r2 ∧ 0 ≤ r2 ∧ r2 < 36524) := ⟨_, _, rfl, rfl, by omega⟩
  obtain ⟨c, r3, hc, e3, b3⟩ : ∃ c r3, c = r2 / 1461 ∧ r3 = r2 % 1461 ∧
      (r2 = 1461 * c + r3 ∧ 0 ≤ r3 ∧ r3 < 1461) := ⟨_, _, rfl, rfl, by omega⟩
  obtain ⟨d, r4, hd, e4, b4⟩ : ∃ d r4, d = r3 / 365 ∧ r4 = r3 % 365 ∧
      (r3 = 365 * d + r4 ∧ 0 ≤ r4 ∧ r4 < 365) := ⟨_, _, rfl, rfl, by omega⟩
  have hofOrd : ofOrd o = if d = 4 ∨ b = 4 then ⟨400*a + 100*b + 4*c + d + 1 - 1, 12, 31⟩ else
      ⟨400*a + 100*b + 4*c + d + 1, (monthDay (isLeap (400*a + 100*b + 4*c + d + 1)) r4).1,
        (monthDay (isLeap (400*a + 100*b + 4*c + d + 1)) r4).2⟩ := by
    subst e1 ha e2 hb e3 hc e4 hd; rfl
  clear ha e1 hb e2 hc e3 hd e4
  rw [hofOrd]
  by_cases hb4 : b = 4
  · -- the last day of a 400-year cycle: day 365 of the leap year `400 (a + 1)`
    obtain ⟨rfl, rfl, rfl, rfl⟩ : r2 = 0 ∧ c = 0 ∧ d = 0 ∧ r4 = 0 := by omega
    subst hb4
    rw [if_pos (Or.inr rfl)]
    have hd := year_lin a 3 24 3 (by decide) (by decide) (by decide)
    have hy : 400*a + 100*4 + 4*0 + 0 + 1 - 1 = 400*a + 100*3 + 4*24 + 3 + 1 := by omega
    have hl : isLeap (400*a + 100*3 + 4*24 + 3 + 1) = true := by rw [isLeap_iff]; right; omega
    rw [hy]
    exact ⟨_, 365, by decide, by rw [hl]; decide, by omega, by rw [hl]; rfl⟩
  by_cases hd4 : d = 4
  · -- the last day of a 4-year cycle: day 365 of its fourth year, a leap year
    obtain rfl : r4 = 0 := by omega
    subst hd4
    rw [if_pos (Or.inl rfl)]
    have hd := year_lin a b c 3 (by omega) (by omega) (by decide)
    have hy : 400*a + 100*b + 4*c + 4 + 1 - 1 = 400*a + 100*b + 4*c + 3 + 1 := by omega
    have hl : isLeap (400*a + 100*b + 4*c + 3 + 1) = true := by rw [isLeap_iff]; left; omega
    rw [hy]
    exact ⟨_, 365, by decide, by rw [hl]; decide, by omega, by rw [hl]; rfl⟩
  · rw [if_neg (by omega)]
    have hd := year_lin a b c d (by omega) (by omega) (by omega)
    exact ⟨400*a + 100*b + 4*c + d + 1, r4, by omega, by split <;> omega, by omega, rfl⟩

theorem ofOrd_year_pos (o : Int) : 1 ≤ (ofOrd o).y ↔ 1 ≤ o := by
  obtain ⟨y, r, h0, h1, ho, e⟩ := ofOrd_eq o
  rw [e]
  simp only
  constructor
  · intro hy; have := dby_nonneg y hy; omega
  · intro h
    apply Int.not_lt.1
    intro hy
    have := dby_le y 0 (by omega)
    have : dby 0 = -366 := by decide
    split at h1 <;> omega

theorem ord_ofOrd_any (o : Int) : ord (ofOrd o) = o := by
  obtain ⟨y, r, h0, h1, ho, e⟩ := ofOrd_eq o
  have := (monthDay_spec (isLeap y) r h0 h1).2.2.2.2
  rw [e]; simp only [ord]; omega

theorem ord_ofOrd (o : Int) (h : 1 ≤ o) : ord (ofOrd o) = o := ord_ofOrd_any o

theorem ofOrd_valid (o : Int) (h : 1 ≤ o) : (ofOrd o).Valid := by
  have hy := (ofOrd_year_pos o).2 h
  obtain ⟨y, r, h0, h1, _, e⟩ := ofOrd_eq o
  obtain ⟨m1, m12, d1, dd, _⟩ := monthDay_spec (isLeap y) r h0 h1
  rw [e] at hy ⊢; exact ⟨hy, m1, m12, d1, by rw [dim_eq]; exact dd⟩

theorem month_facts (leap : Bool) (m : Int) (h1 : 1 ≤ m) (h12 : m ≤ 12) :
    0 ≤ dbm leap m ∧ 28 ≤ dimL leap m ∧ dbm leap m + dimL leap m ≤ (if leap then 366 else 365) ∧
    dbm leap m + dimL leap m = (if m = 12 then (if leap then 366 else 365) else dbm leap (m + 1)) := by
  have tbl : ∀ leap : Bool, ∀ m : Fin 13, 1 ≤ m.val →
      0 ≤ dbm leap m.val ∧ 28 ≤ dimL leap m.val ∧
      dbm leap m.val + dimL leap m.val ≤ (if leap then 366 else 365) ∧
      dbm leap m.val + dimL leap m.val =
        (if m.val = 12 then (if leap then 366 else 365) else dbm leap ((m.val : Int) + 1)) := by
    decide +kernel
  have := tbl leap ⟨m.toNat, by omega⟩ (by simp; omega)
  have e : ((m.toNat : Nat) : Int) = m := by omega
  have e' : m.toNat = 12 ↔ m = 12 := by omega
  simpa [e, e'] using this

theorem month_end (leap : Bool) (m : Int) (h1 : 1 ≤ m) (h12 : m ≤ 12) : dbm leap m + dimL leap m =
    (if m = 12 then (if leap then 366 else 365) else dbm leap (m + 1)) :=
  (month_facts leap m h1 h12).2.2.2

theorem month_order (leap : Bool) (m1 m2 : Int) (h1 : 1 ≤ m1) (h : m1 < m2) (h12 : m2 ≤ 12) :
    dbm leap m1 + dimL leap m1 ≤ dbm leap m2 := by
  have tbl : ∀ leap : Bool, ∀ m1 m2 : Fin 13, 1 ≤ m1.val → m1.val < m2.val →
      dbm leap m1.val + dimL leap m1.val ≤ dbm leap m2.val := by decide +kernel
  have := tbl leap ⟨m1.toNat, by omega⟩ ⟨m2.toNat, by omega⟩ (by simp; omega) (by simp; omega)
  have e1 : ((m1.toNat : Nat) : Int) = m1 := by omega
  have e2 : ((m2.toNat : Nat) : Int) = m2 := by omega
  simpa [e1, e2] using this

theorem ord_bounds (c : Date) (hv : c.Valid) :
    dby c.y + 1 ≤ ord c ∧ ord c ≤ dby c.y + (if isLeap c.y then 366 else 365) := by
  obtain ⟨hy, hm1, hm12, hd1, hdd⟩ := hv
  rw [dim_eq] at hdd
  have := month_facts (isLeap c.y) c.m hm1 hm12
  unfold ord
  constructor <;> omega

theorem ord_le_dby_succ (c : Date) (hv : c.Valid) : ord c ≤ dby (c.y + 1) := by
  rw [dby_succ]; exact (ord_bounds c hv).2

theorem ord_pos (c : Date) (hv : c.Valid) : 1 ≤ ord c := by
  have := (ord_bounds c hv).1
  have := dby_nonneg c.y hv.1
  omega

theorem ord_jan (y d : Int) : ord ⟨y, 1, d⟩ = dby y + d := by
  have : dbm (isLeap y) 1 = 0 := by cases isLeap y <;> rfl
  simp only [ord, this, Int.add_zero]

theorem ord_dec31 (y : Int) : ord ⟨y, 12, 31⟩ = dby (y + 1) := by
  have h := month_end (isLeap y) 12 (by decide) (by decide)
  have : dimL (isLeap y) 12 = 31 := by cases isLeap y <;> rfl
  simp only [ord, dby_succ]
  rw [if_pos rfl] at h; omega

theorem ord_lt_of_lex (c1 c2 : Date) (h1 : c1.Valid) (h2 : c2.Valid)
    (hlt : c1.y < c2.y ∨ (c1.y = c2.y ∧ (c1.m < c2.m ∨ (c1.m = c2.m ∧ c1.d < c2.d)))) : ord c1 < ord c2 := by
  rcases hlt with hy | ⟨hy, hm | ⟨hm, hd⟩⟩
  · have b1 := ord_le_dby_succ c1 h1
    have b2 := (ord_bounds c2 h2).1
    have := dby_le (c1.y + 1) c2.y (by omega)
    omega
  · obtain ⟨_, hm1, _, _, hdd⟩ := h1
    obtain ⟨_, _, hm12, hd1, _⟩ := h2
    rw [dim_eq] at hdd
    have := month_order (isLeap c1.y) c1.m c2.m hm1 hm hm12
    unfold ord; rw [← hy]; omega
  · unfold ord; rw [hy, hm]; omega

theorem Date.eq_mk (c : Date) (y m d : Int) (hy : c.y = y) (hm : c.m = m) (hd : c.d = d) : c = ⟨y, m, d⟩ := by
  cases c; simp only at hy hm hd; rw [hy, hm, hd]

theorem Date.lt_trichotomy (a b : Date) : a.lt b ∨ a = b ∨ b.lt a := by
  obtain ⟨ay, am, ad⟩ := a
  obtain ⟨yb, mb, db⟩ := b
  simp only [Date.lt, Date.mk.injEq]; omega

theorem ord_inj (c1 c2 : Date) (h1 : c1.Valid) (h2 : c2.Valid) (h : ord c1 = ord c2) : c1 = c2 := by
  rcases Date.lt_trichotomy c1 c2 with hl | he | hl
  · have := ord_lt_of_lex c1 c2 h1 h2 hl; omega
  · exact he
  · have := ord_lt_of_lex c2 c1 h2 h1 hl; omega

theorem ofOrd_ord (c : Date) (hv : c.Valid) : ofOrd (ord c) = c :=
  ord_inj _ _ (ofOrd_valid _ (ord_pos c hv)) hv (ord_ofOrd_any _)

end OFCore
