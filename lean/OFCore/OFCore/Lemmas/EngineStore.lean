import OFCore.Lemmas.EngineRanked
/-!
# What the machine marks, deletes and stores

`Shield`: the slots a request cannot write, which after a failure include its own.
-/
namespace OFCore.Engine

variable {P : Type}

theorem markSpiral_all (v : Nat) : ∀ (stack : List (Node P)) (cnt : Nat), stack.length < cnt →
    markSpiral v cnt stack = stack
  | [], _, _ => rfl
  | k :: r, cnt, h => by
    simp only [List.length_cons] at h
    unfold markSpiral
    by_cases hk : k.1 = v
    · have h1 : ¬ cnt ≤ 1 := by omega
      simp only [hk, if_true, h1, if_false]
      rw [markSpiral_all v r (cnt - 1) (by omega)]
    · simp only [hk, if_false]
      rw [markSpiral_all v r cnt (by omega)]

/-- what the code's marking rule (`markAll = false`, F-C02b) marks: a prefix of the stack, the most recent frames… -/
theorem markSpiral_prefix (v : Nat) : ∀ (st : List (Node P)) (cnt : Nat), markSpiral v cnt st <+: st := by
  intro st
  induction st with
  | nil => intro cnt; simp [markSpiral]
  | cons k r ih =>
    intro cnt
    simp only [markSpiral]
    split
    · split
      · exact ⟨r, rfl⟩
      · exact (List.prefix_cons_inj k).2 (ih _)
    · exact (List.prefix_cons_inj k).2 (ih _)

/-- … which stops at the `cnt`-th frame of the spiralling variable: it holds exactly `cnt` frames of that variable and
    ends with one -/
theorem markSpiral_count (v : Nat) : ∀ (st : List (Node P)) (cnt : Nat), 1 ≤ cnt →
    cnt ≤ (st.filter (fun k => k.1 = v)).length →
    ((markSpiral v cnt st).filter (fun k => k.1 = v)).length = cnt ∧
    ∃ k, (markSpiral v cnt st).getLast? = some k ∧ k.1 = v := by
  intro st
  induction st with
  | nil => intro cnt h1 h2; simp at h2; omega
  | cons k r ih =>
    intro cnt h1 h2
    simp only [markSpiral]
    by_cases hk : k.1 = v
    · simp only [hk, if_true]
      by_cases hc : cnt ≤ 1
      · simp only [hc, if_true]
        have : cnt = 1 := by omega
        subst this
        exact ⟨by simp [hk], k, by simp, hk⟩
      · simp only [hc, if_false]
        have h2' : cnt - 1 ≤ (r.filter (fun k => k.1 = v)).length := by
          simp [hk] at h2; omega
        obtain ⟨i1, j, i2, i3⟩ := ih (cnt - 1) (by omega) h2'
        exact ⟨by simp [hk, i1]; omega, j, by rw [List.getLast?_cons, i2]; rfl, i3⟩
    · simp only [hk, if_false]
      have h2' : cnt ≤ (r.filter (fun k => k.1 = v)).length := by
        simpa [List.filter_cons, hk] using h2
      obtain ⟨i1, j, i2, i3⟩ := ih cnt h1 h2'
      exact ⟨by simp [hk, i1], j, by rw [List.getLast?_cons, i2]; rfl, i3⟩

variable [DecidableEq P]

theorem lookup_filter_key (c : Cache P) (f : Node P → Bool) (k : Node P) :
    lookup (c.filter (fun e => f e.1)) k = if f k then lookup c k else none := by
  induction c with
  | nil => simp [lookup]
  | cons e r ih =>
    obtain ⟨k', x⟩ := e
    by_cases hf : f k' = true
    · rw [List.filter_cons_of_pos (by exact hf)]
      simp only [lookup]
      rw [ih]
      by_cases hk : k' = k
      · rw [if_pos hk, if_pos hk, if_pos (hk ▸ hf)]
      · rw [if_neg hk, if_neg hk]
    · -- a dropped head matters only to its own key, on which `f` fails
      rw [List.filter_cons_of_neg (by exact hf), ih]
      simp only [lookup]
      by_cases hk : k' = k
      · rw [if_neg (hk ▸ hf), if_neg (hk ▸ hf)]
      · rw [if_neg hk]

theorem lookup_filter_some {c : Cache P} {f : Node P → Bool} {k : Node P} {e : Val × Bool}
    (h : lookup (c.filter (fun e => f e.1)) k = some e) : lookup c k = some e := by
  rw [lookup_filter_key] at h
  split at h
  · exact h
  · cases h

theorem gclean_filter (sys : Sys P) {c : Cache P} (f : Node P → Bool) (hc : GClean sys c) :
    GClean sys (c.filter (fun e => f e.1)) :=
  fun v p x h => hc v p x (lookup_filter_some h)

theorem cons_filter (sys : Sys P) {c : Cache P} (f : Node P → Bool) (hc : Cons sys c) :
    Cons sys (c.filter (fun e => f e.1)) :=
  fun v p x g h => hc v p x g (lookup_filter_some h)

theorem lookup_purge (sys : Sys P) (s : St P) (k : Node P) :
    lookup (purge sys s).cache k = if k ∈ s.inval.map sys.slot then none else lookup s.cache k := by
  unfold purge
  simp only
  rw [lookup_filter_key s.cache (fun k => !((s.inval.map sys.slot).contains k)) k]
  by_cases h : k ∈ s.inval.map sys.slot
  · simp [h]
  · simp [h]

theorem purge_of_inval_nil (sys : Sys P) (s : St P) (h : s.inval = []) : purge sys s = s := by
  unfold purge
  rw [h]
  cases s
  simp_all

theorem request_of_stack_nil {sys : Sys P} {n s k r g s'} (hs : s.stack = []) :
    request sys n s k = some (r, g, s') ↔ ∃ s1, run sys n s k.1 k.2 = some (r, g, s1) ∧ s' = purge sys s1 := by
  rw [request_some]
  refine exists_congr fun s1 => and_congr_right fun h => ?_
  rw [if_pos ((run_stack sys n s k.1 k.2 r g s1 h).trans hs)]

theorem request_clean (sys : Sys P) (hk : SlotCoherent sys) (n : Nat) (s : St P) (hc : GClean sys s.cache) (k : Node P)
    (r : Res) (g : Bool) (s' : St P) (h : request sys n s k = some (r, g, s')) :
    GClean sys s'.cache ∧ (g = false → ∀ x, r = .ok x → ∃ m, den sys m k.1 k.2 = some (.ok x)) := by
  obtain ⟨s1, hrun, rfl⟩ := request_some.1 h
  obtain ⟨hcl, hv⟩ := run_clean sys hk n s k.1 k.2 r g s1 hc hrun
  refine ⟨?_, hv⟩
  split
  · exact gclean_filter sys (fun k => !((s1.inval.map sys.slot).contains k)) hcl
  · exact hcl

theorem gclean_requests (sys : Sys P) (hk : SlotCoherent sys) (n : Nat) : ∀ (ks : List (Node P)) (s : St P) (rs : List Res) (s' : St P),
    GClean sys s.cache → requests sys n s ks = some (rs, s') → GClean sys s'.cache :=
  requests_invariant sys n (fun s => GClean sys s.cache) fun s k r g s1 hc h => (request_clean sys hk n s hc k r g s1 h).1

/-- `Sh stack v k`: a request for variable `v` made on `stack` cannot store under slot `k` -/
structure Shield (sys : Sys P) (Sh : List (Node P) → Nat → Node P → Prop) : Prop where
  own : ∀ {s : St P} {v p k}, Fresh sys s v p → Sh s.stack v k → sys.slot (v, p) ≠ k
  push : ∀ {st : List (Node P)} {v p e k}, sys.formula v p = some e → Sh st v k → ∀ j ∈ refs e, Sh ((v, p) :: st) j.1 k
  self : ∀ {s : St P} {v p e}, Fresh sys s v p → sys.formula v p = some e →
    ∀ j ∈ refs e, Sh ((v, p) :: s.stack) j.1 (sys.slot (v, p))

theorem run_shield (sys : Sys P) {Sh : List (Node P) → Nat → Node P → Prop} (hS : Shield sys Sh) :
    ∀ n s v p r g s', run sys n s v p = some (r, g, s') →
    (∀ k, Sh s.stack v k → lookup s'.cache k = lookup s.cache k) ∧
    ∀ er, r = .error er → lookup s'.cache (sys.slot (v, p)) = lookup s.cache (sys.slot (v, p)) :=
  (run_ind sys
    (M := fun _ s v p r _ s' => (∀ k, Sh s.stack v k → lookup s'.cache k = lookup s.cache k) ∧
      ∀ er, r = .error er → lookup s'.cache (sys.slot (v, p)) = lookup s.cache (sys.slot (v, p)))
    (ME := fun _ s e _ _ s' => ∀ k, (∀ j ∈ refs e, Sh s.stack j.1 k) → lookup s'.cache k = lookup s.cache k)
    (hit := fun _ => ⟨fun _ _ => by split <;> rfl, nofun⟩)
    (input := fun _ _ => ⟨fun _ _ => rfl, nofun⟩)
    (cycle := fun _ _ _ => ⟨fun _ _ => rfl, fun _ _ => rfl⟩)
    (spiral := fun _ _ _ _ => ⟨fun _ _ => rfl, nofun⟩)
    (default := fun hfr _ => ⟨fun k hk => lookup_store_ne (hS.own hfr hk), nofun⟩)
    -- the only frame a failed request pushed was popped: its reads were shielded from its own slot
    (formulaErr := fun hfr hf _ ih => ⟨fun k hk => ih k (hS.push hf hk), fun _ _ => ih _ (hS.self hfr hf)⟩)
    (formulaOk := fun hfr hf _ ih =>
      ⟨fun k hk => (lookup_store_ne (hS.own hfr hk)).trans (ih k (hS.push hf hk)), nofun⟩)
    (const := fun _ _ => rfl)
    (bad := fun _ _ => rfl)
    (ref := fun _ ih k hk => ih.1 k (hk _ List.mem_cons_self))
    (failArmed := fun _ _ _ => rfl)
    (failPass := fun _ _ ih => ih)
    (op1 := fun _ ih => ih)
    (op2Err := fun _ ih k hk => ih k fun j hj => hk j (List.mem_append_left _ hj))
    (op2 := fun ha _ iha ihb k hk =>
      (ihb k fun j hj => runE_stack sys _ _ _ _ _ _ ha ▸ hk j (List.mem_append_right _ hj)).trans
        (iha k fun j hj => hk j (List.mem_append_left _ hj)))).1

theorem shield_stack (sys : Sys P) (hid : ∀ v p, sys.ckey v p = p) : Shield sys fun st _ k => k ∈ st where
  own := fun hfr hk e => hfr.offStack (by rw [slot_of_id hid] at e; exact e ▸ hk)
  push := fun _ hk _ _ => List.mem_cons_of_mem _ hk
  self := fun _ _ _ _ => slot_of_id hid _ ▸ List.mem_cons_self

theorem shield_rank (sys : Sys P) (rk : Nat → Nat) (hr : VarRanked sys rk) : Shield sys fun _ v k => rk v < rk k.1 where
  own := fun _ hk e => Nat.lt_irrefl _ (by rw [← e] at hk; exact hk)
  push := fun hf hk j hj => Nat.lt_trans (hr _ _ _ hf j hj) hk
  self := fun _ hf j hj => hr _ _ _ hf j hj

theorem request_failed (sys : Sys P) {Sh : List (Node P) → Nat → Node P → Prop} (hS : Shield sys Sh) (n : Nat) (s : St P)
    (hs : s.stack = []) (k : Node P) (hl : lookup s.cache (sys.slot k) = none) (er : Err) (g : Bool) (s' : St P)
    (h : request sys n s k = some (.error er, g, s')) :
    s'.stack = [] ∧ s'.inval = [] ∧ lookup s'.cache (sys.slot k) = none := by
  obtain ⟨s1, hrun, rfl⟩ := (request_of_stack_nil hs).1 h
  refine ⟨(run_stack sys n s k.1 k.2 _ g s1 hrun).trans hs, rfl, ?_⟩
  rw [lookup_purge]
  split
  · rfl
  · rw [(run_shield sys hS n s k.1 k.2 _ g s1 hrun).2 er rfl]; exact hl

end OFCore.Engine
