import OFCore.Lemmas.ApiTrace
import OFCore.Lemmas.ApiListings
import OFCore.Lemmas.ApiLayouts
/-!
# C20 — the web API and YAML tests report exactly what the engine computes

Theorems about the model `OFCore/Api.lean` of `openfisca_web_api/handlers.py` (`calculate`,
`trace`), the listings of `loader/parameters.py` / `loader/variables.py`, and the YAML test runner
(`tools/test_runner.py`, `tools.assert_near`) — repaired tree (fixes C20a, C20b, C20c). They hold
for every JSON document (any width, any depth), every engine (`Sim`, what a built simulation answers)
and every test.
Vocabulary (model file and `Lemmas/ApiSpec.lean`): `System = J → Except String Sim` is builder + engine; `getPath p j` the
sub-tree of `j` under the keys `p`, `J.shape` the tree with every leaf erased (keys, their order, array lengths kept),
`Slot.path s = [plural, id, variable, period]`; `engineAt w s` the engine's value for that entity instance, variable and
period, `render t v` that value as the handler writes it for a variable of value type `t`; `Holds w t x`: expectation `x`
of test `t` holds of the engine `w` — a named instance exists and either the runner's options leave the variable out
(`shouldIgnore`) or `HoldsValue`; `InMargins abs rel e a` the statement's "within the stated absolute or relative margin".
-/
namespace OFCore
open Api

private def exSim : Sim where
  vtype v := if v = "salary" then some .float else if v = "status" then some .enum
    else if v = "birth" then some .date else none
  calcv v p :=
    if v = "salary" then (if p = "2018-01" ∨ p = "month:2018-01" then .ok [.num (3/2), .num 0] else .error "period")
    else if v = "status" then .ok [.enum "owner", .enum "tenant"]
    else if v = "birth" then .ok [.date ⟨1980, 5, 6⟩, .date ⟨1970, 1, 1⟩]
    else .error "no such variable"
  index pl id := if pl = "persons" then (if id = "a" then some 0 else if id = "b" then some 1 else none) else none
  canon p := if p = "month:2018-01" then "2018-01" else p
  entities := [("persons", ["a", "b"])]
  singular k := k == "person"
  plural k := k == "persons"

private def exSys : System := fun _ => .ok exSim

private def exReq : J :=
  .obj [("persons", .obj [
    ("a", .obj [("salary", .obj [("2018-01", .null), ("2018-02", .num 7)]), ("birth", .obj [("ETERNITY", .null)])]),
    ("b", .obj [("status", .obj [("2018-01", .null)]), ("salary", .obj [("month:2018-01", .null)])])]),
   ("households", .obj [("h", .obj [("adults", .arr [.str "a", .str "b"])])])]

private def exOut : J :=
  .obj [("persons", .obj [
    ("a", .obj [("salary", .obj [("2018-01", .num (3/2)), ("2018-02", .num 7)]), ("birth", .obj [("ETERNITY", .str "1980-05-06")])]),
    ("b", .obj [("status", .obj [("2018-01", .str "tenant")]), ("salary", .obj [("month:2018-01", .num 0)])])]),
   ("households", .obj [("h", .obj [("adults", .arr [.str "a", .str "b"])])])]

/-- **The answer of `/calculate`.** Whenever the handler answers: (1) every slot left `null` (four
keys deep: entity plural / instance / variable / period) holds the engine's value for that
instance, variable and period, rendered in the variable's declared type; (2) every other leaf —
every supplied input, at any depth, and a `null` anywhere else — is read back unchanged;
(3) the key structure of the answer is that of the request: no key is added, removed or moved
(`shape`), and no path exists in the answer that did not exist in the request.
By recursion on the path (`Lemmas/Api.lean`: `fillAt_get_slot`, `fillAt_get_leaf`, `fillAt_get_none`) and by
induction over the JSON tree (`fillAt_shape`). -/
theorem C20_fill_spec (w : Sim) (req out : J) (h : fill w req = .ok out) :
    (∀ s : Slot, getPath s.path req = some .null →
      ∃ t v, w.vtype s.var = some t ∧ engineAt w s = .ok v ∧ render t v = .ok (renderVal v) ∧
        getPath s.path out = some (renderVal v)) ∧
    (∀ p v, getPath p req = some v → v.isLeaf = true → (v.isNull = true → p.length ≠ 4) →
      getPath p out = some v) ∧
    out.shape = req.shape ∧
    (∀ p, getPath p req = none → getPath p out = none) := by
  have hf := pathValue_leafValued w
  refine ⟨fun s hs => ?_, fun p v => fillAt_get_leaf h, fillAt_shape hf h, fun p => fillAt_get_none hf h⟩
  obtain ⟨r, hr, hg⟩ := fill_get_slot h hs
  obtain ⟨t, vec, i, v, ht, _, _, _, he, hrd⟩ := slotValue_ok hr
  obtain ⟨_, rfl⟩ := render_ok hrd
  exact ⟨t, v, ht, he, hrd, hg⟩

private theorem exFill : fill exSim exReq = .ok exOut := by rfl

example : fill exSim exReq = .ok exOut := exFill
example : getPath ["persons", "b", "status", "2018-01"] exReq = some .null ∧
    engineAt exSim ⟨"persons", "b", "status", "2018-01"⟩ = .ok (.enum "tenant") := by
  constructor <;> rfl

/-- **The handler answers exactly when the engine has a value for every requested slot** (and
otherwise errs: it never invents a value). -/
theorem C20_fill_ok_iff (w : Sim) (req : J) :
    (∃ out, fill w req = .ok out) ↔ ∀ s ∈ nullSlots req, ∃ j, slotValue w s = .ok j := by
  unfold fill
  simp only [fillAt_ok_iff, nullPaths_eq_map_path, List.forall_mem_map, pathValue, slotOfPath_path]

example : (∃ out, fill exSim exReq = .ok out) ∧
    ¬ ∃ out, fill exSim (.obj [("persons", .obj [("a", .obj [("salary", .obj [("2018", .null)])])])]) = .ok out := by
  refine ⟨⟨_, exFill⟩, ?_⟩
  rintro ⟨out, h⟩
  cases h

/-- **Supplied inputs are returned unchanged.** (1) Every non-null leaf of the request is read
back identically from the answer; (2) a request without null slot is answered by itself,
whatever the engine; (3) an answer is a fixed point of the filling step (`fill`) on every
simulation: filled again, on any engine, it comes back as it is (all of it is supplied input, no
null slot is left).  The statement is about `fill`; building a simulation from the posted answer,
the first step of `calculateH`, is outside it. -/
theorem C20_fill_idempotent_on_inputs (w : Sim) (req out : J) (h : fill w req = .ok out) :
    (∀ p v, getPath p req = some v → v.isLeaf = true → v.isNull = false → getPath p out = some v) ∧
    (nullSlots req = [] → out = req) ∧
    (nullSlots out = [] ∧ ∀ w' : Sim, fill w' out = .ok out) := by
  have hleft := fillAt_no_slots_left (pathValue_leafValued w) [] h
  refine ⟨fun p v hg hl hn => fillAt_get_leaf h hg hl (fun hv => by rw [hn] at hv; cases hv), fun hns => ?_,
    nullSlots_eq_nil_iff.mpr hleft, fun w' => fillAt_of_no_slots hleft⟩
  have := fillAt_of_no_slots (f := pathValue w) (nullSlots_eq_nil_iff.mp hns)
  unfold fill at h
  rw [this] at h; cases h; rfl

example : fill exSim exOut = .ok exOut ∧
    getPath ["persons", "a", "salary", "2018-02"] exReq = some (.num 7) ∧
    getPath ["persons", "a", "salary", "2018-02"] exOut = some (.num 7) := by
  exact ⟨(C20_fill_idempotent_on_inputs exSim exReq exOut exFill).2.2.2 exSim, by rfl, by rfl⟩

/-- **`render` preserves the declared type family**: a value of the variable's family is rendered
(never refused) as a non-null JSON leaf of the kind of that family — Enum: the member's *name* as
a string; int: an integer literal; float: a number; bool: a boolean; date and str: a string — and
a value of another family is refused. -/
theorem C20_render_type (t : VType) (v : Val) :
    (v.family = t → ∃ j, render t v = .ok j ∧ j = renderVal v ∧ jsonKind t j = true ∧
      j.isLeaf = true ∧ j.isNull = false) ∧
    (v.family ≠ t → ∃ e, render t v = .error e) ∧
    (∀ name, renderVal (.enum name) = .str name) ∧ (∀ d, renderVal (.date d) = .str d.iso) := by
  refine ⟨?_, ?_, fun _ => rfl, fun _ => rfl⟩
  · rintro rfl
    exact ⟨renderVal v, render_of_family v, rfl, jsonKind_renderVal v, renderVal_isLeaf v, renderVal_not_null v⟩
  · intro h
    exact ⟨"value of another type family", by simp only [render, if_neg h]⟩

example : render .enum (.enum "owner") = .ok (.str "owner") ∧ render .float (.num (3/2)) = .ok (.num (3/2)) ∧
    render .date (.date ⟨1980, 5, 6⟩) = .ok (.str "1980-05-06") ∧ render .str (.str "") = .ok (.str "") ∧
    (∃ e, render .int (.bool true) = .error e) := by
  refine ⟨by rfl, by rfl, by rfl, by rfl, ⟨_, by rfl⟩⟩

/-- **`/trace` reports the values `/calculate` fills in.** For one request and one engine (which
reads a period through its canonical form, `Coherent`, and returns vectors of the declared type,
`Typed`): whenever `/calculate` answers, `/trace` answers too; its `entitiesDescription` is the
simulation's, its `requestedCalculations` are the null slots in document order with the caller's
spelling of the period, and for every null slot the trace entry `variable<canonical period>` holds
a vector whose element at the instance's index *is* the value `/calculate` wrote in that slot. -/
theorem C20_trace_equals_calculate (sys : System) (req out : J) (w : Sim) (hw : sys req = .ok w)
    (hc : Coherent w) (hty : Typed w) (h : calculateH sys req = .ok out) :
    ∃ tr, traceH sys req = .ok tr ∧ tr.entitiesDescription = w.entities ∧
      tr.requestedCalculations = (nullSlots req).map (fun s => (s.var, s.period)) ∧
      ∀ s : Slot, getPath s.path req = some .null →
        ∃ js i j, lookupT (s.var, w.canon s.period) tr.trace = some js ∧ w.index s.plural s.id = some i ∧
          js[i]? = some j ∧ getPath s.path out = some j := by
  simp only [calculateH, hw] at h
  obtain ⟨tr, htr, hslot⟩ := traceEntries_slots hc hty ((C20_fill_ok_iff w req).mp ⟨out, h⟩)
  refine ⟨⟨tr, w.entities, (nullSlots req).map fun s => (s.var, s.period)⟩, by simp only [traceH, hw, htr], rfl, rfl,
    fun s hs => ?_⟩
  obtain ⟨r, hr, hg⟩ := fill_get_slot h hs
  obtain ⟨js, i, hjs, hi, hji⟩ := hslot s (mem_nullSlots_of_get hs) r hr
  exact ⟨js, i, r, hjs, hi, hji, hg⟩

private theorem exSim_coherent : Coherent exSim := by
  have hcanon : ∀ v p, exSim.calcv v p = exSim.calcv v (exSim.canon p) := by
    intro v p
    by_cases hp : p = "month:2018-01"
    · subst hp; rfl
    · rw [show exSim.canon p = p from if_neg hp]
  intro v p p' h
  rw [hcanon v p, hcanon v p', h]

private theorem exSim_typed : Typed exSim := by
  intro v p vec t hv ht x hx
  simp only [exSim] at hv ht
  by_cases h1 : v = "salary"
  · rw [if_pos h1] at ht hv; cases ht
    by_cases hp : p = "2018-01" ∨ p = "month:2018-01"
    · rw [if_pos hp] at hv; cases hv
      simp at hx; rcases hx with rfl | rfl <;> rfl
    · rw [if_neg hp] at hv; cases hv
  · rw [if_neg h1] at ht hv
    by_cases h2 : v = "status"
    · rw [if_pos h2] at ht hv; cases ht; cases hv
      simp at hx; rcases hx with rfl | rfl <;> rfl
    · rw [if_neg h2] at ht hv
      by_cases h3 : v = "birth"
      · rw [if_pos h3] at ht hv; cases ht; cases hv
        simp at hx; rcases hx with rfl | rfl <;> rfl
      · rw [if_neg h3] at ht; cases ht

example : exSys exReq = .ok exSim ∧ Coherent exSim ∧ Typed exSim ∧ calculateH exSys exReq = .ok exOut ∧
    (∃ tr, traceH exSys exReq = .ok tr ∧
      lookupT ("salary", "2018-01") tr.trace = some [.num (3/2), .num 0] ∧
      tr.requestedCalculations = [("salary", "2018-01"), ("birth", "ETERNITY"), ("status", "2018-01"), ("salary", "month:2018-01")]) := by
  refine ⟨rfl, exSim_coherent, exSim_typed, exFill, ⟨_, by rfl, by rfl, by rfl⟩⟩

/-- **The answer to a request does not depend on any request served before it.** In the model a
route is a function of the system and of the request alone (`respond`), the application carries no
state, so serving a sequence is a map: the `i`-th answer is `respond sys rᵢ`, and the answer to `r`
after any two histories is the same. This theorem is about the *model*: that the real handler is
stateless too (a fresh `Simulation` per request on a shared read-only system, no module-level
cache leaking from one request into the next) is **carried by the correspondence**, which replays
request sequences in several orders against one application and against a fresh application per
request. -/
theorem C20_handler_pure (sys : System) (h₁ h₂ : List Req) (r : Req) :
    (serveAll sys (h₁ ++ [r])).getLast? = some (respond sys r) ∧
    (serveAll sys (h₁ ++ [r])).getLast? = (serveAll sys (h₂ ++ [r])).getLast? ∧
    (∀ (rs : List Req) (i : Nat), (serveAll sys rs)[i]? = rs[i]?.map (respond sys)) := by
  have key : ∀ h : List Req, (serveAll sys (h ++ [r])).getLast? = some (respond sys r) := by
    intro h; simp [serveAll]
  exact ⟨key h₁, by rw [key h₁, key h₂], fun rs i => by simp [serveAll]⟩

example : (serveAll exSys [.calculate exOut, .trace exReq, .calculate exReq]).length = 3 := by rfl

/-- **Listings** (what is modelled). `/parameter/<id>`: the served `values` map holds exactly the
dated values of the parameter, and reading it the way the API documents (latest start date on or
before the day) gives the value the engine uses on every day, `null`s included. `/variable/<id>`:
the served `formulas` map holds the formulas by start date plus `end + 1 day ↦ null`, and reading
it the same way gives the formula `Variable.get_formula` selects on every day — for a variable
whose formulas start on or before its `end` (which `Variable.set_formulas` enforces).
Scales (`build_api_scale`) are the subject of `C20_listing_scale`, with the deviations recorded there.
**Left to the correspondence**: descriptions, metadata, units, source links, `/spec`. -/
theorem C20_listings_partial {V F : Type} :
    (∀ (l : List (Param.Entry V)), Param.Sorted l →
      (∀ d v, (d, v) ∈ servedHistory l ↔ ∃ e ∈ l, e.date = d ∧ e.val = v) ∧
      ∀ d, apiGetValue d (servedHistory l) = Param.pget l d) ∧
    (∀ (formulas : List (Int × F)) (stop : Option Int), formulas.Pairwise (fun a b => a.1 < b.1) →
      (∀ e, stop = some e → ∀ x ∈ formulas, x.1 ≤ e) →
      ∀ d, apiFormulaAt d (servedFormulas formulas stop) = engineFormulaAt formulas stop d) := by
  exact ⟨fun l hl => ⟨fun _ _ => mem_servedHistory, apiGetValue_servedHistory l hl⟩,
    fun formulas stop hp hs d => apiFormulaAt_served formulas hp stop hs d⟩

example : Param.Sorted ([⟨20, some 5⟩, ⟨10, none⟩, ⟨1, some 3⟩] : List (Param.Entry Nat)) ∧
    apiGetValue 15 (servedHistory ([⟨20, some 5⟩, ⟨10, none⟩, ⟨1, some 3⟩] : List (Param.Entry Nat))) = none ∧
    apiGetValue 9 (servedHistory ([⟨20, some 5⟩, ⟨10, none⟩, ⟨1, some 3⟩] : List (Param.Entry Nat))) = some 3 ∧
    servedFormulas [(1, "f"), (100, "g")] (some 200) = [(1, some "f"), (100, some "g"), (201, none)] ∧
    apiFormulaAt 150 (servedFormulas [(1, "f"), (100, "g")] (some 200)) = some "g" ∧
    engineFormulaAt [(1, "f"), (100, "g")] (some 200) 201 = none := by decide +kernel

/-- **Listings: scales.**  `/parameter/<scale>` serves one row `{threshold: value}` per date at which
something changes in the scale (`buildApiScale`).  For every day `d`: let `D` be the latest such date
on or before `d`; if some bracket has a threshold at `D` then reading the listing the way the API
documents (the row of the latest date on or before `d`) gives exactly the brackets in force on day
`d` — for every bracket whose threshold is not null on day `d`, its threshold and value on day `d`,
read from the histories the way the engine reads them (`apiGetValue` = `Param.pget`,
`C20_listings_partial`) — and before the first date of the scale the listing shows nothing and no
bracket is in force.  When the first bracket is not stopped the served document is these rows.
**Not covered** (the deviation recorded in DESIGN §7, outside the statement's quantifier): a date at
which EVERY threshold is null gets no row (the reader goes on seeing the previous one), and a scale
whose FIRST bracket's latest threshold is null is shown as stopped (`null`) from that date on whatever
the other brackets say. -/
theorem C20_listing_scale (brs : List ApiBracket) (d : Int) :
    (∀ D, D ∈ bracketDates brs → D ≤ d → (∀ k ∈ bracketDates brs, k ≤ d → k ≤ D) → scaleRow D brs ≠ [] →
      apiGetValue d (servedScale brs) = some (scaleRow d brs)) ∧
    ((∀ k ∈ bracketDates brs, ¬ k ≤ d) → apiGetValue d (servedScale brs) = none ∧ scaleRow d brs = []) ∧
    (∀ b0 r, brs = b0 :: r → (∀ dd, latestEntry b0.thresholds ≠ some (dd, none)) → buildApiScale brs = servedScale brs) := by
  exact ⟨(servedScale_read brs d).1, (servedScale_read brs d).2, fun b0 r hb hns => hb ▸ buildApiScale_cons r hns⟩

private def exScale : List ApiBracket :=
  [⟨[(10, some 0)], [(10, some (1/10)), (30, some (1/5))]⟩, ⟨[(20, some 1000)], [(20, some (3/10))]⟩]

example : bracketDates exScale = [10, 10, 30, 20, 20] ∧
    buildApiScale exScale = [(10, some [(0, some (1/10))]), (30, some [(0, some (1/5)), (1000, some (3/10))]),
      (20, some [(0, some (1/10)), (1000, some (3/10))])] ∧
    apiScaleAt 25 (buildApiScale exScale) = some [(0, 1/10), (1000, 3/10)] ∧
    apiScaleAt 9 (buildApiScale exScale) = none ∧ scaleRow 25 exScale = scaleRow 20 exScale := by decide +kernel

/-- **A YAML test passes exactly when every expected output lies within the margins of the
engine's value.** `verdict = pass` iff the simulation is built, the `output` section is a
well-formed set of expectations (`expectations`: the three layouts normalised) and every one of
them `Holds` of the engine; in every other case — a value beyond a margin, an engine error, an
unknown key or instance, an undefined margin, a shape that does not broadcast — it fails. -/
theorem C20_verdict_iff (built : Except String Sim) (t : YTest) :
    (verdict built t = true ↔
      ∃ w xs, built = .ok w ∧ expectations w t = .ok xs ∧ ∀ x ∈ xs, Holds w t x) ∧
    (verdict built t = false ↔
      ¬ ∃ w xs, built = .ok w ∧ expectations w t = .ok xs ∧ ∀ x ∈ xs, Holds w t x) := by
  refine ⟨verdict_iff built t, ?_⟩
  rw [← verdict_iff]
  cases verdict built t <;> simp

/-- **The margins, exactly.** With no margin stated the values must be equal; a stated absolute
margin `m` accepts a distance of exactly `m` and refuses anything beyond (`<=`, not `<`); a
stated relative margin `r` accepts a distance of exactly `|r · expected|` and refuses anything
beyond; with both stated both must hold. `near` is the decision of `assert_near`, `InMargins` the
statement's wording. -/
theorem C20_verdict_margins (abs rel : Option Rat) (e a : Rat) :
    (near abs rel e a = true ↔ InMargins abs rel e a) ∧
    (near none none e a = true ↔ e = a) ∧
    (∀ m : Rat, 0 ≤ m → near (some m) none e (e + m) = true ∧ near (some m) none e (e - m) = true ∧
      ∀ δ : Rat, 0 < δ → near (some m) none e (e + m + δ) = false ∧ near (some m) none e (e - m - δ) = false) ∧
    (∀ r : Rat, near none (some r) e (e + absQ (r * e)) = true ∧ near none (some r) e (e - absQ (r * e)) = true ∧
      ∀ δ : Rat, 0 < δ → near none (some r) e (e + absQ (r * e) + δ) = false ∧
        near none (some r) e (e - absQ (r * e) - δ) = false) := by
  have habs : ∀ m : Rat, 0 ≤ m → near (some m) none e (e + m) = true ∧ near (some m) none e (e - m) = true ∧
      ∀ δ : Rat, 0 < δ → near (some m) none e (e + m + δ) = false ∧ near (some m) none e (e - m - δ) = false := by
    intro m hm
    refine ⟨?_, ?_, fun δ hδ => ⟨?_, ?_⟩⟩
    · rw [near_some_none, decide_eq_true_eq, absQ_le_iff]; grind
    · rw [near_some_none, decide_eq_true_eq, absQ_le_iff]; grind
    · rw [near_some_none, decide_eq_false_iff_not, absQ_le_iff]; grind
    · rw [near_some_none, decide_eq_false_iff_not, absQ_le_iff]; grind
  refine ⟨near_iff abs rel e a, near_none_none_iff e a, habs, fun r => ?_⟩
  · -- a relative margin `r` is the absolute margin `|r · expected|`
    simpa only [near_none_some, near_some_none] using habs (absQ (r * e)) (absQ_nonneg _)

private def exTest (out : List (String × Y)) (abs : Option Rat) : YTest :=
  { period := some "2018-01", absM := ⟨some abs, []⟩, relM := ⟨some none, []⟩, output := some out }

example : verdict (.ok exSim) (exTest [("salary", .list [.num 2, .int 0])] (some (1/2))) = true ∧          -- at the margin
    verdict (.ok exSim) (exTest [("salary", .list [.num (33/16), .int 0])] (some (1/2))) = false ∧           -- just beyond
    verdict (.ok exSim) (exTest [("salary", .list [.num (3/2), .int 0])] none) = true ∧                      -- equal, no margin
    verdict (.ok exSim) (exTest [("persons", .map [("b", .map [("status", .leaf (.str "tenant"))])])] none) = true ∧
    verdict (.ok exSim) (exTest [("person", .map [("birth", .list [.date ⟨1980, 5, 6⟩, .str "1970-01-01"])])] none) = true ∧
    verdict (.ok exSim) (exTest [("nope", .leaf (.int 1))] none) = false ∧
    verdict (.error "refused") (exTest [] none) = false ∧
    -- a value beyond the margin of a variable the runner is told to ignore does not fail the test …
    verdict (.ok exSim) { exTest [("salary", .list [.num 9, .int 0])] none with ignore := some ["salary"] } = true ∧
    verdict (.ok exSim) { exTest [("salary", .list [.num 9, .int 0])] none with only := some ["status"] } = true ∧
    verdict (.ok exSim) { exTest [("salary", .list [.num 9, .int 0])] none with only := some ["salary"] } = false ∧
    -- … but an unknown instance still does
    verdict (.ok exSim) { exTest [("persons", .map [("zz", .map [("salary", .leaf (.int 0))])])] none with
      ignore := some ["salary"] } = false := by decide +kernel

/-- **The three layouts of the same expectations give the same verdict.** For a variable `var` of
an entity with singular key `sg` and plural key `pl` (neither is a variable name), a population
`ids` (the instance `ids[k]` has index `k`, calculated vectors have one element per instance) and
one expected value per instance `es` (classified alike by `_is_number`: all numbers or none),
optionally under an explicit period `pw`: the test written by variable
(`{var: [e₀, e₁, …]}`), by entity (`{sg: {var: [e₀, e₁, …]}}`) and by entity instance
(`{pl: {id₀: {var: e₀}, id₁: {var: e₁}, …}}`) pass or fail together. -/
theorem C20_layouts_agree (w : Sim) (t : YTest) (var sg pl : String) (ty : VType) (pw : Option String)
    (ids : List String) (es : List Exp)
    (hvar : w.vtype var = some ty)
    (hsg : w.vtype sg = none ∧ w.singular sg = true)
    (hpl : w.vtype pl = none ∧ w.singular pl = false ∧ w.plural pl = true)
    (hne : ids ≠ []) (hlen : es.length = ids.length)
    (hidx : ∀ k (h : k < ids.length), w.index pl ids[k] = some k)
    (hvec : ∀ per vec, w.calcv var per = .ok vec → vec.length = ids.length)
    (hhom : Homogeneous es) :
    verdictSim w { t with output := some (outByEntity sg var pw es) } =
      verdictSim w { t with output := some (outByVariable var pw es) } ∧
    verdictSim w { t with output := some (outByInstance pl var pw ids es) } =
      verdictSim w { t with output := some (outByVariable var pw es) } := by
  rw [verdictSim_of_expectations (expectations_byVariable t pw es (by rw [hvar]; rfl)),
    verdictSim_of_expectations (expectations_byEntity t var pw es hsg),
    verdictSim_of_expectations (expectations_byInstance t var pw ids es hpl),
    instExps_all_checkExpectation t none _ hne hlen hidx hvec hhom]
  -- without an instance the entity key is not read
  exact ⟨rfl, by simp only [List.all_cons, List.all_nil, Bool.and_true]⟩

example : verdictSim exSim (exTest (outByVariable "status" none [.str "owner", .str "tenant"]) none) = true ∧
    verdictSim exSim (exTest (outByEntity "person" "status" none [.str "owner", .str "tenant"]) none) = true ∧
    verdictSim exSim (exTest (outByInstance "persons" "status" none ["a", "b"] [.str "owner", .str "tenant"]) none) = true ∧
    verdictSim exSim (exTest (outByInstance "persons" "salary" (some "month:2018-01") ["a", "b"] [.num 1, .int 0]) (some (1/4))) = false ∧
    verdictSim exSim (exTest (outByVariable "salary" (some "month:2018-01") [.num 1, .int 0]) (some (1/4))) = false := by decide +kernel

/-- **The verdict is monotone in the margins.**  If test `t'` differs from test `t` only in its
margins and states, for every variable, margins at least as wide (`MarginsWider`: whatever the
margins of `t` accept, those of `t'` accept), then `t'` passes whenever `t` passes — widening a
margin never turns a pass into a fail, narrowing one never turns a fail into a pass.  The other
conjuncts are instances of `Wider`: a larger absolute margin; a relative margin larger in absolute
value; any non-negative absolute margin, with any relative margin, against a test that stated no
margin (and therefore demanded equality); one of two stated margins dropped. -/
theorem C20_verdict_monotone (w : Sim) (t t' : YTest)
    (hp : t'.period = t.period) (ho : t'.output = t.output) (hon : t'.only = t.only) (hig : t'.ignore = t.ignore)
    (hm : MarginsWider t t') :
    ((verdictSim w t = true → verdictSim w t' = true) ∧ (verdictSim w t' = false → verdictSim w t = false)) ∧
    (∀ (m m' : Rat) (r : Option Rat), m ≤ m' → Wider (some m) r (some m') r) ∧
    (∀ (a : Option Rat) (r r' : Rat), absQ r ≤ absQ r' → Wider a (some r) a (some r')) ∧
    (∀ (m : Rat) (r : Option Rat), 0 ≤ m → Wider none none (some m) r) ∧
    (∀ (m r : Rat), Wider (some m) (some r) (some m) none ∧ Wider (some m) (some r) none (some r)) := by
  have hmono := verdictSim_mono (w := w) hp ho hon hig hm
  refine ⟨⟨hmono, fun h => ?_⟩, fun _ _ r => .of_abs_le r, fun a _ _ => .of_rel_le a, fun _ r => .of_exact r,
    fun m r => ⟨.drop_rel m r, .drop_abs m r⟩⟩
  cases hv : verdictSim w t with
  | false => rfl
  | true => rw [hmono hv] at h; cases h

example : MarginsWider (exTest [("salary", .list [.num 2, .int 0])] (some (1/2))) (exTest [("salary", .list [.num 2, .int 0])] (some 3)) ∧
    verdictSim exSim (exTest [("salary", .list [.num 2, .int 0])] (some (1/2))) = true ∧
    verdictSim exSim (exTest [("salary", .list [.num 2, .int 0])] (some 3)) = true ∧
    verdictSim exSim (exTest [("salary", .list [.num 2, .int 0])] (some (1/4))) = false := by
  refine ⟨?_, by decide +kernel, by decide +kernel, by decide +kernel⟩
  intro var a r ha hr
  simp only [exTest, marginFor, lookupM, optE, Except.ok.injEq] at ha hr
  subst ha; subst hr
  refine ⟨some 3, none, rfl, rfl, ?_⟩
  exact .of_abs_le none (by decide +kernel)

/-- **The three layouts denote the same elementary assertions.**  Under the hypotheses of
`C20_layouts_agree` (instance `ids[k]` has index `k`, one expected value per instance), the test
written by variable, by entity and by entity instance are normalised to expectations that stand for
exactly the same list of assertions "(variable, period, index of the instance, expected value)"
(`atomsOf`): `(var, period, k, es[k])` for every `k`. -/
theorem C20_layouts_denote (w : Sim) (t : YTest) (var sg pl : String) (pw : Option String)
    (ids : List String) (es : List Exp)
    (hvar : (w.vtype var).isSome = true)
    (hsg : w.vtype sg = none ∧ w.singular sg = true)
    (hpl : w.vtype pl = none ∧ w.singular pl = false ∧ w.plural pl = true)
    (hlen : es.length = ids.length)
    (hidx : ∀ k (h : k < ids.length), w.index pl ids[k] = some k) :
    ∃ xv xe xi,
      expectations w { t with output := some (outByVariable var pw es) } = .ok xv ∧
      expectations w { t with output := some (outByEntity sg var pw es) } = .ok xe ∧
      expectations w { t with output := some (outByInstance pl var pw ids es) } = .ok xi ∧
      xv.flatMap (atomsOf w ids.length) = (List.zipIdx es).map (fun p => ⟨var, orPeriod pw t.period, p.2, p.1⟩) ∧
      xe.flatMap (atomsOf w ids.length) = xv.flatMap (atomsOf w ids.length) ∧
      xi.flatMap (atomsOf w ids.length) = xv.flatMap (atomsOf w ids.length) := by
  refine ⟨_, _, _, expectations_byVariable t pw es hvar, expectations_byEntity t var pw es hsg,
    expectations_byInstance t var pw ids es hpl, ?_, ?_, ?_⟩
  · simp [atomsOf]
  · simp [atomsOf]
  · rw [atoms_instExps ids.length var (orPeriod pw t.period) hlen hidx]
    simp [atomsOf]

example : (instExps "persons" "status" (some "2018-01") ["a", "b"] [.str "owner", .str "tenant"]).flatMap (atomsOf exSim 2) =
    [⟨"status", some "2018-01", 0, .str "owner"⟩, ⟨"status", some "2018-01", 1, .str "tenant"⟩] ∧
    ([⟨none, none, "status", some "2018-01", .list [.str "owner", .str "tenant"]⟩] : List Expectation).flatMap (atomsOf exSim 2) =
    [⟨"status", some "2018-01", 0, .str "owner"⟩, ⟨"status", some "2018-01", 1, .str "tenant"⟩] := by decide +kernel

end OFCore
