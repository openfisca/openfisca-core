import OFCore.Lemmas.Dump
/-!
# C19 — a dumped simulation restores to the same values and entity structure

Model: `OFCore/Dump.lean` (`dump`, `restore`, the repaired code: F-C19a group count = `len(ids)`,
F-C17/F-C19b `allow_pickle`, F-C19c person count from the persons' own ids, F-C19d role-less
entity). The keys of a dumped store are *period texts*: their round trip is C05
(`parse_text` of `Lemmas/TextRound.lean`, imported, not re-proved).

Hypotheses of the round trip, `Dumpable sys s` (`Lemmas/Dump.lean`): the simulation belongs to
the system (same entities, person first; every holder's variable is the system's variable of
that name); entity keys and holder names are unique; `count = len(ids)`; role keys are
injective and every member's role is a role of its entity; every known key of every holder is
`ETERNITY` (eternal variable) or one definition period, unit-aligned, starting on a valid date,
inside C05's text domain (four-digit years); every array has the population's length and the
variable's type. All of them are invariants of `SimulationBuilder` / `Holder._set`. They are
required of *every* key of the simulation, not only of the `(v, p)` looked at: the file name of
a key outside C05's domain does not parse back and `restore_simulation` raises as a whole,
and an unaligned key prints like the aligned one and overwrites its file.

All statements are for arbitrary populations, stores and numbers of variables (no bound).
-/
namespace OFCore.Dump
open OFCore

def exCol : EnumT := ⟨"Col", ["red", "green", "blue"]⟩
def exPerson : EntityDecl := ⟨"person", true, []⟩
def exHousehold : EntityDecl := ⟨"household", false, [⟨"parent", 0⟩, ⟨"child", 1⟩]⟩
def exF : VarDecl := ⟨"f_m", "person", .float, .month, false, .float 0⟩
def exE : VarDecl := ⟨"e_et", "person", .enum exCol, .eternity, false, .enum exCol 1⟩
def exH : VarDecl := ⟨"hy", "household", .int, .year, false, .int 0⟩
def exW : VarDecl := ⟨"w", "person", .bool, .week, false, .bool false⟩
def exN : VarDecl := ⟨"n", "person", .str, .month, true, .str ""⟩
def exSys : System := ⟨exPerson, [exHousehold], [exF, exE, exH, exW, exN]⟩

/-- households `h1` (both persons, with explicitly assigned positions `[1, 0]`: the reference person
    is listed second, so the positions are *not* the order of appearance `[0, 1]`) and `h2` (a
    trailing empty group) -/
def exHouseholdPop : Pop :=
  { entity := exHousehold, ids := ["h1", "h2"], count := 2, membersEntityId := [0, 0],
    membersRole := [.role ⟨"parent", 0⟩, .role ⟨"child", 1⟩], membersPosition := [1, 0] }

/-- two persons and the households above; a monthly float, an eternal enum, a rolling-year group
    variable kept on disk, a weekly boolean -/
def exSim : Sim :=
  { pops := [{ entity := exPerson, ids := ["a", "b"], count := 2 }, exHouseholdPop],
    holders := [
      { var := exF, mem := [(⟨.month, ⟨2018, 1, 1⟩, 1⟩, .plain (.floats [3, 1/4]))] },
      { var := exE, mem := [(Period.eternity, .enum exCol [2, 0])] },
      { var := exH, disk := some [(⟨.year, ⟨2018, 3, 1⟩, 1⟩, .plain (.ints [5, 7]))] },
      { var := exW, mem := [(⟨.week, ⟨2018, 1, 1⟩, 1⟩, .plain (.bools [true, false]))] }] }

theorem exSim_dumpable : Dumpable exSys exSim where
  same_system := rfl
  keys_nodup := by decide +kernel
  names_nodup := by decide +kernel
  pop_ok := by
    have hall : ∀ pop ∈ exSim.pops, pop.count = pop.ids.length ∧
        (∀ r ∈ pop.entity.roles, ∀ r' ∈ pop.entity.roles, r.key = r'.key → r = r') ∧
        ∀ rv ∈ pop.membersRole, ∃ r ∈ pop.entity.roles, rv = .role r := by decide +kernel
    exact fun pop hp => ⟨(hall pop hp).1, (hall pop hp).2.1, (hall pop hp).2.2⟩
  holder_ok := by
    have hside : ∀ h ∈ exSim.holders, h.var.name ≠ "__entities__" ∧ exSys.var? h.var.name = some h.var ∧
        (exSim.pop? h.var.entity).isSome := by decide +kernel
    intro h hh
    obtain ⟨h1, h2, h3⟩ := hside h hh
    refine ⟨h1, h2, h3, ?_⟩
    simp only [exSim, List.mem_cons, List.not_mem_nil, or_false] at hh
    rcases hh with rfl | rfl | rfl | rfl
    -- `KeyOk`: unit, size 1, valid start, aligned, four-digit year (two bounds), four-digit ISO year for a week
    · exact .of_single rfl rfl
        ⟨rfl, rfl, by decide, rfl, by decide, by decide, by intro h; rcases h with h | h <;> cases h⟩
        rfl rfl rfl
    · exact .of_single rfl rfl rfl rfl rfl rfl
    · exact .of_single rfl rfl
        ⟨rfl, rfl, by decide, rfl, by decide, by decide, by intro h; rcases h with h | h <;> cases h⟩
        rfl rfl rfl
    · exact .of_single rfl rfl
        ⟨rfl, rfl, by decide, (by show weekday0 (ord ⟨2018, 1, 1⟩) = 0; decide +kernel), by decide, by decide,
          fun _ => by decide +kernel⟩
        rfl rfl rfl

end OFCore.Dump

namespace OFCore
open Dump

/-- **Master statement.** A dumpable simulation can be dumped, the dump can be restored under
    the same system, and the restored simulation is observationally the original: same entity
    structure (`PopView`: key, ids, count, members_entity_id, members_role, members_position),
    same variables with a holder, same known periods, same `get_array` for every variable and
    every period. -/
theorem C19_restore_dump (sys : System) (s : Sim) (hd : Dumpable sys s) :
    ∃ fs r, dump s = .ok fs ∧ restore sys fs = .ok r ∧ r.view = s.view :=
  ⟨_, s.reloaded, hd.dump_eq, hd.restore_dumped, hd.view_reloaded⟩

example : ∃ fs r, dump exSim = .ok fs ∧ restore exSys fs = .ok r ∧ r.view = exSim.view :=
  C19_restore_dump exSys exSim exSim_dumpable

/-- `restore (dump s)` holds, for every `(v, p)` known in `s`, an equal vector of the same type
    (a `Vec` carries its dtype family and, for an enum, its enumeration: equality of vectors is
    equality of both), and knows it; the populations have equal ids, counts, memberships, role
    objects and positions. Uses C05 for the store keys (`KeyOk.parse`: `parse_text`;
    `KeyOk.text_inj`: a key is read back from its text — two distinct keys of one holder never share a
    file), role-key injectivity (`decode_encode_role`) and the enum re-wrap
    (`decodeFile_strip`). -/
theorem C19_roundtrip (sys : System) (s : Sim) (hd : Dumpable sys s) (fs : FS)
    (hfs : dump s = .ok fs) :
    ∃ r, restore sys fs = .ok r ∧
      r.pops.map Pop.view = s.pops.map Pop.view ∧
      ∀ v p, s.knows v p = true →
        r.knows v p = true ∧ ∃ a, s.read v p = some a ∧ r.read v p = some a := by
  refine ⟨s.reloaded, hd.restore_eq fs hfs, congrArg View.pops hd.view_reloaded, fun v p hk => ?_⟩
  obtain ⟨a, ha⟩ := hd.read_of_knows hk
  rw [hd.knows_reloaded, hd.read_reloaded]
  exact ⟨hk, a, ha, ha⟩

example : exSim.knows "hy" ⟨.year, ⟨2018, 3, 1⟩, 1⟩ = true ∧
    exSim.read "hy" ⟨.year, ⟨2018, 3, 1⟩, 1⟩ = some (.plain (.ints [5, 7])) := by decide

/-- **Structure, field by field.** Every group population comes back with the same entity,
    identifiers, count, `members_entity_id`, role objects and `members_position`. Positions are
    a component of their own: the statement holds for *arbitrary* positions (no relation to the
    memberships is assumed — `Dumpable` does not mention them), in particular for positions
    assigned from a survey's own ranking that differ from the order of appearance
    (`defaultPositions`), which the engine's `value_from_first_person` / `value_nth_person`
    read. -/
theorem C19_structure_fields (sys : System) (s : Sim) (hd : Dumpable sys s) (fs : FS)
    (hfs : dump s = .ok fs) :
    ∃ r, restore sys fs = .ok r ∧
      ∀ pop ∈ s.pops, pop.entity.isPerson = false →
        ∃ pop' ∈ r.pops, pop'.entity = pop.entity ∧ pop'.ids = pop.ids ∧ pop'.count = pop.count ∧
          pop'.membersEntityId = pop.membersEntityId ∧ pop'.membersRole = pop.membersRole ∧
          pop'.membersPosition = pop.membersPosition := by
  refine ⟨s.reloaded, hd.restore_eq fs hfs, ?_⟩
  intro pop hp hg
  exact ⟨pop, List.mem_map.2 ⟨pop, hp, (hd.pop_ok pop hp).normal_of_group hg⟩, rfl, rfl, rfl, rfl, rfl, rfl⟩

/-- the example's positions are not the order of appearance, and they come back unchanged -/
example : (∀ pop ∈ exSim.pops, pop.entity.key = "household" →
      pop.membersPosition = [1, 0] ∧ defaultPositions pop.membersEntityId = [0, 1]) ∧
    (∀ pop ∈ exSim.reloaded.pops, pop.entity.key = "household" → pop.membersPosition = [1, 0]) := by
  decide

/-- For *every* directory: the positions and the memberships of a restored group population
    are the contents of `members_position.npy` and `members_entity_id.npy`, each read from its
    own file — neither is recomputed from the other (an implementation that re-derived the
    positions from the memberships in order of appearance would lose assigned positions). -/
theorem C19_positions_from_file (fs : FS) (e : EntityDecl) (pop : Pop) (hg : e.isPerson = false)
    (h : restoreEntity fs e = .ok pop) :
    ∃ d, alookup e.key fs.ents = some d ∧
      readInts d "members_position.npy" = .ok pop.membersPosition ∧
      readInts d "members_entity_id.npy" = .ok pop.membersEntityId := by
  obtain ⟨_, _, d, h1, _, hfiles⟩ := restoreEntity_ok h
  exact ⟨d, h1, hfiles hg⟩

example : ∃ fs pop, dump exSim = .ok fs ∧ restoreEntity fs exHousehold = .ok pop ∧
    pop.membersPosition = [1, 0] ∧ pop.membersPosition ≠ defaultPositions pop.membersEntityId := by
  refine ⟨_, exHouseholdPop.normal, exSim_dumpable.dump_eq, ?_, ?_⟩
  · exact restoreEntity_entityFiles _ exHouseholdPop rfl
  · decide +kernel

/-- The restored simulation knows no `(variable, period)` the original did not. -/
theorem C19_no_extra (sys : System) (s : Sim) (hd : Dumpable sys s) (fs : FS) (r : Sim)
    (hfs : dump s = .ok fs) (hr : restore sys fs = .ok r) :
    ∀ v p, r.knows v p = true → s.knows v p = true := by
  intro v p hk
  rw [hd.eq_reloaded hfs hr, hd.knows_reloaded] at hk
  exact hk

/-- Calculations on the restored simulation return what they return on the original: *any*
    deterministic function of the observable state (entity structure, holders, known periods,
    `get_array`) — in particular any sequence of requests evaluated by an engine that reads the
    simulation only through these — gives the same result on both. That the real engine is
    such a function of the state and of the rule system alone is C01's theorem
    (`C01_calculate_eq_den`: a calculated value is the meaning `den` of the rule system on the
    inputs and the cache); here it is exercised by the correspondence check, which runs further
    calculations on both real simulations. -/
theorem C19_calculations_agree {α : Type} (sys : System) (s : Sim) (hd : Dumpable sys s)
    (fs : FS) (r : Sim) (hfs : dump s = .ok fs) (hr : restore sys fs = .ok r)
    (engine : View → α) : engine r.view = engine s.view := by
  rw [hd.eq_reloaded hfs hr, hd.view_reloaded]

example : ∀ engine : View → Nat, ∀ fs r, dump exSim = .ok fs → restore exSys fs = .ok r →
    engine r.view = engine exSim.view :=
  fun engine fs r h1 h2 => C19_calculations_agree exSys exSim exSim_dumpable fs r h1 h2 engine

/-- The restored simulation is itself dumpable, and *dump, restore, dump the restored
    simulation, restore that* ends on a simulation observationally equal to the original.
    (Restoring the same directory twice is the same function applied to the same argument:
    `restore` does not change the directory — in the model by construction; on the real code the
    correspondence check restores every second dump twice.) -/
theorem C19_redump (sys : System) (s : Sim) (hd : Dumpable sys s) :
    ∃ fs r fs2 r2, dump s = .ok fs ∧ restore sys fs = .ok r ∧ Dumpable sys r ∧
      dump r = .ok fs2 ∧ restore sys fs2 = .ok r2 ∧ r2.view = s.view :=
  ⟨_, s.reloaded, _, s.reloaded.reloaded, hd.dump_eq, hd.restore_dumped, hd.reloaded,
    hd.reloaded.dump_eq, hd.reloaded.restore_dumped, hd.reloaded.view_reloaded.trans hd.view_reloaded⟩

example : ∃ fs r fs2 r2, dump exSim = .ok fs ∧ restore exSys fs = .ok r ∧ Dumpable exSys r ∧
    dump r = .ok fs2 ∧ restore exSys fs2 = .ok r2 ∧ r2.view = exSim.view :=
  C19_redump exSys exSim exSim_dumpable

/-- Files and sub-directories whose name does not end with `.npy` (notes, hidden files,
    back-ups), put into the variable directories of *any* dump directory, change nothing of
    what `restore_simulation` returns — success or error. -/
theorem C19_restore_ignores_other_files (sys : System) (fs : FS)
    (extras : String → List (List Char × Arr))
    (hex : ∀ n, ∀ e ∈ extras n, stripNpy e.1 = none) :
    restore sys (addExtras extras fs) = restore sys fs := by
  have hH : restoreHolder sys (addExtras extras fs) = restoreHolder sys fs := by
    funext s n
    unfold restoreHolder
    cases sys.var? n with
    | none => rfl
    | some var =>
      simp only
      cases s.pop? var.entity with
      | none => rfl
      | some pop =>
        simp only [addExtras, alookup_map_val (fun n d => d ++ extras n)]
        cases alookup n fs.vars with
        | none => rfl
        | some d => simp only [Option.map_some, Option.getD_some, loadStore_append var pop.count d (extras n) _ (hex n)]
  have hE : restoreEntity (addExtras extras fs) = restoreEntity fs := funext fun _ => rfl
  have hK : keys (addExtras extras fs).vars = keys fs.vars := keys_map _ _
  unfold restore
  rw [hH, hK, hE]

example : stripNpy "notes.txt".toList = none ∧ stripNpy ".hidden".toList = none ∧
    stripNpy "2018-01.npy.bak".toList = none ∧ stripNpy "npy".toList = none ∧
    stripNpy ".npy".toList = some [] := by decide +kernel

/-- A variable directory without any file (a holder that knew nothing, or a directory made by
    hand) restores to a holder whose store is unchanged: nothing becomes known. -/
theorem C19_empty_directory (sys : System) (fs : FS) (s : Sim) (n : String) (var : VarDecl)
    (pop : Pop) (hv : sys.var? n = some var) (hp : s.pop? var.entity = some pop)
    (hd : alookup n fs.vars = some []) :
    restoreHolder sys fs s n = .ok (s.setHolder ((s.holder? n).getD { var := var })) := by
  unfold restoreHolder
  rw [hv]
  simp only [hp, hd, Option.getD_some, loadStore_nil]

example : exSys.var? "n" = some exN ∧ exSim.reloaded.pop? exN.entity ≠ none := by decide

/-- A twelve-month key and the one-year key with the same start write **the same file**
    (`Period.__str__` prints both as a year, C05's `canon`); the file name reads back as the
    one-year period, which covers the same days. Restored into a *year* variable the value is
    known under the one-year key; restored into a *month* variable `_set` refuses it
    (`PeriodMismatchError`): the statement says that the holder's loop (`loadStore`) fails, and
    nothing in `restore_simulation` catches it. No public call stores under a
    twelve-month key (`Holder._set` refuses sizes > 1), which is why `Dumpable` excludes it. -/
theorem C19_twelve_months_key (d : Date) (hv : d.Valid) (hd1 : d.d = 1)
    (hy : 1000 ≤ d.y ∧ d.y ≤ 9999) :
    fileName ⟨.month, d, 12⟩ = fileName ⟨.year, d, 1⟩ ∧
    parseName (fileName ⟨.month, d, 12⟩) = .ok (some (⟨.year, d, 1⟩, fileName ⟨.year, d, 1⟩)) ∧
    (Period.mk .year d 1).lo = (Period.mk .month d 12).lo ∧
    (Period.mk .year d 1).hi = (Period.mk .month d 12).hi ∧
    ∀ (var : VarDecl) (v : Vec) (c : Nat), v.length = c → v.vtype = var.vtype →
      var.neutralized = false →
      (var.defUnit = .year →
        loadStore var c (Holder.files { var := var, mem := [(⟨.month, d, 12⟩, v)] } c []) []
          = .ok [(⟨.year, d, 1⟩, v)]) ∧
      (var.defUnit = .month →
        loadStore var c (Holder.files { var := var, mem := [(⟨.month, d, 12⟩, v)] } c []) []
          = .error "PeriodMismatchError") := by
  -- twelve months and one year pass the same test of `Period.__str__`: the two texts are one branch
  have htext : (Period.mk .month d 12).text = (Period.mk .year d 1).text := rfl
  have hname : fileName ⟨.month, d, 12⟩ = fileName ⟨.year, d, 1⟩ := by
    unfold fileName; rw [htext]
  have hparse : parsePeriod (Period.mk .month d 12).text = .ok ⟨.year, d, 1⟩ := by
    rw [parse_text ⟨.month, d, 12⟩ ⟨fun h => (by cases h), hv, (by show (1 : Int) ≤ 12; omega)⟩ hd1
      ⟨hy.1, hy.2, fun h => by rcases h with h | h <;> cases h⟩]
    simp [canon]
  refine ⟨hname, hname ▸ parseName_fileName hparse, rfl, by simp [Period.hi], ?_⟩
  intro var v c hlen hty hneu
  have hload := fun hne : var.defUnit ≠ .eternity =>
    loadStore_files_single (p := ⟨.month, d, 12⟩) hneu (if_neg hne) (if_neg hne) hparse hlen hty
  constructor
  · intro hu
    rw [hload (by rw [hu]; decide), hu]; rfl
  · intro hu
    rw [hload (by rw [hu]; decide), hu]; rfl

example : (⟨2018, 3, 1⟩ : Date).Valid ∧ fileName ⟨.month, ⟨2018, 3, 1⟩, 12⟩ = "year:2018-03.npy".toList := by
  decide +kernel

/-- Enum arrays are saved as their plain index array and re-wrapped on restore with the
    enumeration of the *system's* variable; every array decodes, under its own type, to
    itself. -/
theorem C19_enum_rewrap (e : EnumT) (idx : List Int) :
    (Vec.enum e idx).strip = .ints idx ∧
    decodeFile (.enum e) (.ints idx) = .ok (.enum e idx) ∧
    ∀ v : Vec, decodeFile v.vtype v.strip = .ok v :=
  ⟨rfl, rfl, decodeFile_strip⟩

/-- Roles travel as their keys and come back as the same role objects when the keys of the
    entity's roles are pairwise distinct … -/
theorem C19_role_keys (roles : List Role) (hinj : RoleKeysInjective roles) (r : Role)
    (hr : r ∈ roles) : decodeRole roles (encodeRole roles (.role r)) = .role r :=
  decode_encode_role roles hinj r hr

/-- … and the hypothesis is needed: with two roles under one key the second comes back as
    the first. -/
theorem C19_role_keys_needed :
    decodeRole [⟨"a", 0⟩, ⟨"a", 1⟩] (encodeRole [⟨"a", 0⟩, ⟨"a", 1⟩] (.role ⟨"a", 1⟩))
      = .role ⟨"a", 0⟩ := by decide

example : RoleKeysInjective exHousehold.roles ∧ (⟨"child", 1⟩ : Role) ∈ exHousehold.roles := by
  unfold RoleKeysInjective; decide

/-- Repaired F-C19a / F-C19c, for *every* directory: whenever `restore_simulation` succeeds,
    the count of each population is the number of its identifiers (not
    `max(members_entity_id) + 1`, which forgets a trailing empty group; not the member count of
    the last group entity, which does not exist in a person-only system), and the populations
    are those of the system's entities. -/
theorem C19_restored_count (sys : System) (fs : FS) (r : Sim) (h : restore sys fs = .ok r) :
    (∀ pop ∈ r.pops, pop.count = pop.ids.length) ∧
    r.pops.map (fun p => p.entity) = sys.person :: sys.groups := by
  have hE := restore_pops h
  exact ⟨fun b hb => by obtain ⟨a, _, hab⟩ := mapE_mem hE b hb; exact (restoreEntity_ok hab).2.1,
    mapE_map_eq (fun p => p.entity) (fun a b hab => (restoreEntity_ok hab).1) hE⟩

/-- the trailing empty household `h2` of the example survives (count 2 = two identifiers) -/
example : (dump exSim).bind (restore exSys) = .ok exSim.reloaded ∧
    (exSim.reloaded.pops.map (fun p => (p.entity.key, p.count))) = [("person", 2), ("household", 2)] := by
  refine ⟨?_, by decide⟩
  rw [exSim_dumpable.dump_eq, Except.bind]
  exact exSim_dumpable.restore_dumped

/-- `dump_simulation` refuses a directory that is not empty. -/
theorem C19_dump_refuses_nonempty (target : FS) (s : Sim) (h : target.isEmpty = false) :
    dumpInto target s = .error "ValueError: directory is not empty" := by
  unfold dumpInto; rw [h]; rfl

example : dumpInto { vars := [("x", [])] } exSim = .error "ValueError: directory is not empty" :=
  C19_dump_refuses_nonempty _ _ rfl

/-- A top-level directory that is not a variable of the system makes `restore_simulation`
    raise (`VariableNotFoundError`). -/
theorem C19_restore_unknown_variable (sys : System) (fs : FS) (n : String)
    (hn : n ∈ keys fs.vars) (hv : sys.var? n = none) : ∃ e, restore sys fs = .error e := by
  apply restore_error_of_holder sys fs n hn
  intro s
  unfold restoreHolder
  rw [hv]
  exact ⟨_, rfl⟩

example : ("zz" : String) ∈ keys ({ vars := [("zz", [])] } : FS).vars ∧ exSys.var? "zz" = none := by
  decide

/-- A `*.npy` file whose name is not a period makes `restore_simulation` raise. -/
theorem C19_restore_bad_file_name (sys : System) (fs : FS) (n : String)
    (dir : List (List Char × Arr)) (f core : List Char) (e : String)
    (hn : n ∈ keys fs.vars) (hdir : alookup n fs.vars = some dir) (hf : f ∈ keys dir)
    (hs : stripNpy f = some core) (hp : parsePeriod core = .error e) :
    ∃ e', restore sys fs = .error e' := by
  apply restore_error_of_holder sys fs n hn
  apply restoreHolder_error_of_loadStore
  rw [hdir]
  exact loadStore_error_of_name (e := e) hf (by unfold parseName; rw [hs]; simp only [hp])

example : stripNpy "2018-13.npy".toList = some "2018-13".toList ∧
    parsePeriod "2018-13".toList = .error "period" := by decide +kernel

/-- a back-up of a dumped file made inside the dump, `2018-01.copy.npy`: what precedes the `.npy` suffix is cut at
    the LAST dot, and `2018-01.copy` is not a period — the restore raises rather than read the back-up as `2018-01` -/
example : stripNpy "2018-01.copy.npy".toList = some "2018-01.copy".toList ∧
    parsePeriod "2018-01.copy".toList = .error "period" ∧ parsePeriod "2018.01".toList = .error "period" := by
  decide +kernel

/-- A file whose period does not have the variable's definition unit makes the step of the loop of
    `_restore_holder` that reads it fail (`PeriodMismatchError` of `Holder._set`, which nothing in
    `restore_simulation` catches), for every directory and file table.  The statement is about
    that step (`loadOne`); it is not lifted to `restore`. -/
theorem C19_restore_period_mismatch (var : VarDecl) (c : Nat) (dir : List (List Char × Arr))
    (files : List (Period × List Char)) (p : Period) (hne : var.defUnit ≠ .eternity)
    (hu : var.defUnit ≠ p.unit ∨ p.size > 1) : ∃ e, loadOne var c dir files p = .error e := by
  unfold loadOne
  -- the unit test is positive: whatever the earlier tests say, the iteration ends on an error
  simp only [if_pos (And.intro hne hu)]
  cases alookup (var.key p) files with
  | none => exact ⟨_, rfl⟩
  | some f =>
  simp only
  cases alookup f dir with
  | none => exact ⟨_, rfl⟩
  | some a =>
  simp only
  cases decodeFile var.vtype a with
  | error e => exact ⟨e, rfl⟩
  | ok v =>
  simp only
  by_cases h1 : v.length ≠ c
  · exact ⟨_, if_pos h1⟩
  · rw [if_neg h1]
    by_cases h2 : v.vtype ≠ var.vtype
    · exact ⟨_, if_pos h2⟩
    · exact ⟨_, if_neg h2⟩

example : exF.defUnit ≠ .eternity ∧ (exF.defUnit ≠ (Period.mk .year ⟨2018, 1, 1⟩ 1).unit ∨
    (Period.mk .year ⟨2018, 1, 1⟩ 1).size > 1) := by decide

end OFCore
