import OFCore.HolderStore
import OFCore.GeneratedEngine
import OFCore.Lemmas.HolderStore
/-!
# C17 — the two-tier store model reads and writes exactly as the code's source says (translator tie)

`Generated.Engine.holder_get_array` and `holder_set_to_disk` are regenerated on every run from the source of
`Holder.get_array` and of the tail of `Holder._set` (`harness/ofverif/translate.py`, kinds `holderlookup` /
`holderstore`).  `HolderStore.Holder.get` / `.set` are the functions the refinement theorems of C17
(`Lemmas/HolderStore.lean`: the two-tier store refines a plain map) are about.  `diskable` of the model stands for both
`_on_disk_storable` and the presence of `_disk_storage`: the disk store of a holder that may not store on disk stays
empty (only `_set` writes to it, and only under `_on_disk_storable`).
-/
namespace OFCore.HolderStore
open OFCore.Generated
variable {P K V : Type} [DecidableEq K]

/-- **tie**: a read of the model is the lookup the current source of `Holder.get_array` performs on what the
    two stores hold for the period -/
theorem C17_tie_get_array (key : P → K) (h : Holder K V) (p : P) :
    h.get key p = Engine.holder_get_array (tget h.mem (key p)) (tget h.disk (key p)) h.diskable := by
  unfold Holder.get Engine.holder_get_array
  cases tget h.mem (key p) <;> simp

/-- **tie**: a write of the model goes to the store the current source of `Holder._set` chooses -/
theorem C17_tie_set_store (key : P → K) (h : Holder K V) (p : P) (x : V) (pressure : Bool) :
    h.set key p x pressure =
      if Engine.holder_set_to_disk h.diskable (tget h.mem (key p)) pressure
      then { h with disk := tput h.disk (key p) x }
      else { h with mem := tput h.mem (key p) x } := by
  unfold Holder.set Engine.holder_set_to_disk
  cases hd : h.diskable <;> cases hm : tget h.mem (key p) <;> cases pressure <;> simp

/-- the lookup the current source of `Holder.get_array` performs, applied to the two stores as ANY history of
    writes and deletions under ANY pressure schedule left them, returns what a plain finite map holds after the
    same history — the refinement theorem restated with the translated code as the reader -/
theorem C17_code_lookup_refines_map (key : P → K) (ops : List (Op P V)) (h : Holder K V) (p : P) :
    Engine.holder_get_array (tget (h.run key ops).mem (key p)) (tget (h.run key ops).disk (key p)) (h.run key ops).diskable
      = specRun key h.view ops (key p) := by
  rw [← C17_tie_get_array, get_eq_view, view_run]

/-- **tie**: the model uses ONE key function for reads, writes and deletions; the current source of
    `InMemoryStorage.get`, `put` and `delete` touches the dictionary under the same key in all three, that key is the
    normalised period for a dated store and does not depend on the period for an eternal one -/
theorem C17_tie_storage_keys {K : Type} (norm : K → K) (eternity : K) (eternal : Bool) (p q : K) :
    Engine.memory_storage_key_get norm eternity eternal p = Engine.memory_storage_key_put norm eternity eternal p ∧
    Engine.memory_storage_key_delete norm eternity eternal p = Engine.memory_storage_key_put norm eternity eternal p ∧
    (eternal = false → Engine.memory_storage_key_put norm eternity eternal p = norm p) ∧
    (eternal = true → Engine.memory_storage_key_put norm eternity eternal p =
        Engine.memory_storage_key_put norm eternity eternal q) := by
  unfold Engine.memory_storage_key_get Engine.memory_storage_key_put Engine.memory_storage_key_delete
  cases eternal <;> simp

/-- the code's lookup on concrete contents: memory wins, the disk answers only when memory is silent and a disk
    store exists -/
example : Engine.holder_get_array (some 1) (some 2) true = some 1 ∧ Engine.holder_get_array none (some 2) true = some 2 ∧
    Engine.holder_get_array (none : Option Nat) (some 2) false = none := by decide
example : Engine.holder_set_to_disk true (none : Option Nat) true = true ∧
    Engine.holder_set_to_disk true (some 1) true = false ∧ Engine.holder_set_to_disk false (none : Option Nat) true = false := by decide
end OFCore.HolderStore
