import OFCore.Lemmas.TextForms
import OFCore.Lemmas.Subperiods
/-!
# C04 — period arithmetic agrees with the calendar

Every dated period denotes the closed interval of proleptic ordinals `[p.lo, p.hi]`
(`hi = ord (start + size units) − 1`).  All theorems quantify over *all* valid start dates
(every year ≥ 1), all positive sizes, all units: no bound.  Where the Python code can raise
(year outside 1..9999 in pendulum) the statement is "if it returns a value, the value is …";
totality inside the representable range is stated separately (`Lemmas/PeriodTotal.lean`).
-/
namespace OFCore

/-- The last day of a period is the day before `start + size units`, and it is a real date. -/
theorem C04_stop_is_last_day (p : Period) (h : p.WF) (s : Date) (hs : p.stop = .ok s) :
    s.Valid ∧ ord s = p.hi ∧ p.lo ≤ p.hi :=
  ⟨(stop_spec p h s hs).1, (stop_spec p h s hs).2, lo_le_hi p h⟩

example : (Period.mk .year ⟨2012, 2, 29⟩ 1).WF ∧ (Period.mk .year ⟨2012, 2, 29⟩ 1).stop = .ok ⟨2013, 2, 27⟩ := by
  decide +kernel

/-- `days` and `size_in_days` count exactly the days of the period, for every dated unit. -/
theorem C04_days_count (p : Period) (h : p.WF) (k : Int) :
    (p.days = .ok k → k = p.hi - p.lo + 1) ∧ (p.sizeInDays = .ok k → k = p.hi - p.lo + 1) :=
  ⟨days_count p k, sizeInDays_count p k⟩

example : (Period.mk .month ⟨2020, 2, 1⟩ 1).days = .ok 29 ∧ (Period.mk .year ⟨2021, 10, 1⟩ 3).sizeInDays = .ok 1096 := by
  decide +kernel

/-- Sizes expressed in a smaller unit of the same family. -/
theorem C04_size_in_smaller_unit (p : Period) (h : p.WF) :
    (p.unit = .year → p.sizeInMonths = .ok (12 * p.size)) ∧
    (p.unit = .month → p.sizeInMonths = .ok p.size) ∧
    (p.unit = .week → p.sizeInDays = .ok (7 * p.size) ∧ p.sizeInWeekdays = .ok (7 * p.size) ∧
        7 * p.size = p.hi - p.lo + 1) ∧
    (p.unit = .weekday → p.sizeInWeekdays = .ok p.size ∧ p.size = p.hi - p.lo + 1) ∧
    (∀ k, (p.unit = .year ∨ p.unit = .month) → p.sizeInDays = .ok k → k = p.hi - p.lo + 1) := by
  refine ⟨?_, ?_, ?_, ?_, ?_⟩
  · intro hu; simp only [Period.sizeInMonths, hu, if_true]; congr 1; omega
  · intro hu; simp [Period.sizeInMonths, hu]
  · intro hu
    refine ⟨?_, ?_, ?_⟩
    · simp only [Period.sizeInDays, hu]; congr 1; omega
    · simp only [Period.sizeInWeekdays, hu]; congr 1; omega
    · have := span_week p hu; omega
  · intro hu
    exact ⟨by simp only [Period.sizeInWeekdays, hu], (span_daylike p (.inl hu)).symm⟩
  · exact fun k _ hk => sizeInDays_count p k hk

/-- `contains` is inclusion of the day sets. -/
theorem C04_contains_iff_subset (p q : Period) (hp : p.WF) (hq : q.WF) (b : Bool)
    (h : p.contains q = .ok b) : (b = true ↔ p.lo ≤ q.lo ∧ q.hi ≤ p.hi) := by
  unfold Period.contains at h
  have hle := le_iff_ord_le _ _ hp.2.1 hq.2.1
  split at h
  · rename_i hst
    obtain ⟨ps, hps, h⟩ := bind_ok h
    obtain ⟨qs, hqs, h⟩ := bind_ok h
    cases h
    obtain ⟨hpv, hpo⟩ := stop_spec p hp ps hps
    obtain ⟨hqv, hqo⟩ := stop_spec q hq qs hqs
    have := hle.1 hst
    rw [decide_eq_true_iff, le_iff_ord_le _ _ hqv hpv]
    unfold Period.lo; omega
  · rename_i hst
    cases h
    simp only [Bool.false_eq_true, false_iff, Period.lo]
    exact fun hc => hst (hle.2 hc.1)

example : (Period.mk .year ⟨2015, 1, 1⟩ 1).contains (Period.mk .month ⟨2015, 12, 1⟩ 1) = .ok true ∧
    (Period.mk .year ⟨2015, 1, 1⟩ 1).contains (Period.mk .week ⟨2015, 12, 28⟩ 1) = .ok false := by
  decide +kernel

/-- `intersection` returns `None` exactly when the day sets are disjoint, and otherwise a period
    (of whatever unit is re-derived) whose days are exactly the common days. -/
theorem C04_intersection_days (p : Period) (hp : p.WF) (a b : Option Date)
    (ha : ∀ x, a = some x → x.Valid) (hb : ∀ x, b = some x → x.Valid)
    (hab : rangeLo p a ≤ rangeHi p b) (r : Option Period)
    (h : p.intersection a b = .ok r) :
    (r = none ↔ min p.hi (rangeHi p b) < max p.lo (rangeLo p a)) ∧
    (∀ q, r = some q → q.lo = max p.lo (rangeLo p a) ∧ q.hi = min p.hi (rangeHi p b)) := by
  have hlh := lo_le_hi p hp
  have hsv := hp.2.1
  unfold Period.intersection at h
  rcases of_ite_eq h with ⟨hnn, h⟩ | ⟨-, h⟩
  · cases h
    obtain ⟨rfl, rfl⟩ : a = none ∧ b = none := by simpa using hnn
    simp only [rangeLo, rangeHi, Option.map, Option.getD] at hab ⊢
    refine ⟨by simp; omega, ?_⟩
    intro q hq; cases hq; omega
  · obtain ⟨ps, hps, h⟩ := bind_ok h
    obtain ⟨hpsv, hpso⟩ := stop_spec p hp ps hps
    have hav := getD_valid ha hsv
    have hbv := getD_valid hb hpsv
    have hao : ord (a.getD p.start) = rangeLo p a := (Option.getD_map ord _ a).symm
    have hbo : ord (b.getD ps) = rangeHi p b := by rw [← Option.getD_map ord, hpso]; rfl
    have hlt1 := lt_iff_ord_lt (b.getD ps) p.start hbv hsv
    have hlt2 := lt_iff_ord_lt ps (a.getD p.start) hpsv hav
    obtain ⟨hisv, hiso⟩ := ord_max' p.start (a.getD p.start) hsv hav
    obtain ⟨hiev, hieo⟩ := ord_min' ps (b.getD ps) hpsv hbv
    rw [hao] at hiso hlt2
    rw [hbo] at hieo hlt1
    rw [hpso] at hieo hlt2
    rw [Period.lo] at hlh ⊢
    dsimp only at h
    generalize Date.max' p.start (a.getD p.start) = is at h hisv hiso
    generalize Date.min' ps (b.getD ps) = ie at h hiev hieo
    rcases of_ite_eq h with ⟨hdis, h⟩ | ⟨hdis, h⟩
    · cases h
      rw [hlt1, hlt2] at hdis
      exact ⟨by simp only [true_iff]; omega, fun q hq => nomatch hq⟩
    · rw [hlt1, hlt2] at hdis
      -- every remaining branch answers a period from `is` to `ie`
      have fin : ∀ q : Period, q.lo = ord is → q.hi = ord ie → .ok (some q) = Except.ok (ε := String) r →
          (r = none ↔ min p.hi (rangeHi p b) < max (ord p.start) (rangeLo p a)) ∧
          (∀ q', r = some q' → q'.lo = max (ord p.start) (rangeLo p a) ∧ q'.hi = min p.hi (rangeHi p b)) := by
        intro q h1 h2 hr
        cases hr
        refine ⟨by simp; omega, ?_⟩
        intro q' hq'; cases hq'; omega
      rcases of_ite_eq h with ⟨hsame, h⟩ | ⟨-, h⟩
      · exact fin p (by rw [hsame.1]; rfl) (by rw [hsame.2]; exact hpso.symm) h
      rcases of_ite_eq h with ⟨⟨h1, h2, h3, h4⟩, h⟩ | ⟨-, h⟩
      · refine fin ⟨.year, is, ie.y - is.y + 1⟩ rfl ?_ h
        have e : is = ⟨is.y, 1, 1⟩ := Date.eq_mk _ _ _ _ rfl h2 h1
        have e2 : ie = ⟨ie.y, 12, 31⟩ := Date.eq_mk _ _ _ _ rfl h4 h3
        rw [e, hi_year_jan, e2]
        simp only
        congr 2
        omega
      rcases of_ite_eq h with ⟨-, h⟩ | ⟨-, h⟩
      · cases h
      rcases of_ite_eq h with ⟨hm, h⟩ | ⟨-, h⟩
      · refine fin ⟨.month, is, (ie.y - is.y) * 12 + ie.m - is.m + 1⟩ rfl ?_ h
        have e : is = ⟨is.y, is.m, 1⟩ := Date.eq_mk _ _ _ _ rfl rfl hm.1
        have e2 : ie = ⟨ie.y, ie.m, dim ie.y ie.m⟩ := Date.eq_mk _ _ _ _ rfl rfl hm.2
        rw [e]
        simp only
        rw [hi_month_first is.y is.m ie.y ie.m ⟨hiev.2.1, hiev.2.2.1⟩ hiev.1, ← e2]
      rcases of_ite_eq h with ⟨-, h⟩ | ⟨-, h⟩
      · exact fin ⟨.day, is, ord ie - ord is + 1⟩ rfl (by simp only [Period.hi]; omega) h
      · cases h

example : (Period.mk .year ⟨2015, 1, 1⟩ 2).intersection (some ⟨2015, 3, 1⟩) (some ⟨2016, 2, 29⟩)
    = .ok (some ⟨.month, ⟨2015, 3, 1⟩, 12⟩) := by decide +kernel

/-- Splitting into sub-periods of an equal or smaller unit of the same family, from a start
    aligned to that unit, yields consecutive, non-overlapping periods of size one whose union
    is exactly the period. -/
theorem C04_subperiods_tile (p : Period) (u : DUnit) (hp : p.WF)
    (hfam : u.family = p.unit.family) (hle : u.rank ≤ p.unit.rank) (hal : AlignedTo p.start u)
    (qs : List Period) (h : p.subperiods u = .ok qs) :
    Tiles qs p.lo p.hi ∧ ∀ q ∈ qs, q.unit = u ∧ q.size = 1 :=
  subperiods_tiles p u hp (.inr (.inr ⟨hfam, hle⟩)) hal qs h

example : ∃ qs, (Period.mk .month ⟨2020, 2, 1⟩ 1).subperiods .day = .ok qs ∧ qs.length = 29 :=
  ⟨((Period.mk .month ⟨2020, 2, 1⟩ 1).subperiods .day).toOption.getD [], by decide +kernel⟩

/-- `get_subperiods` refuses to split a unit into a heavier one (weights from the generated
    table), in particular into any larger unit of its own family. -/
theorem C04_unit_weight_guard (p : Period) (u : DUnit) :
    (unitWeight p.unit < unitWeight u → ∃ e, p.subperiods u = .error e) ∧
    (u.family = p.unit.family → p.unit.rank < u.rank → ∃ e, p.subperiods u = .error e) := by
  have key : unitWeight p.unit < unitWeight u → ∃ e, p.subperiods u = .error e :=
    fun h => error_of_not_ok fun _ hq => (subperiods_eq_ok.1 hq).1 h
  refine ⟨key, ?_⟩
  intro hf hr
  apply key
  have tbl : ∀ a b : DUnit, b.family = a.family → a.rank < b.rank → unitWeight a < unitWeight b := by
    decide +kernel
  exact tbl p.unit u hf hr

/-- Shifting by `k` units and back returns the original period: always for day, week and
    weekday shifts, and for month and year shifts whenever no end-of-month clipping can occur
    (start day ≤ 28). -/
theorem C04_offset_roundtrip (p : Period) (hv : p.start.Valid) (k : Int) (u : DUnit)
    (hclip : (u = .month ∨ u = .year) → p.start.d ≤ 28) (q r : Period)
    (h1 : p.offset (.n k) (some u) = .ok q) (h2 : q.offset (.n (-k)) (some u) = .ok r) : r = p := by
  obtain ⟨_, hq⟩ := offset_n_ok _ _ _ _ h1
  obtain ⟨_, hr⟩ := offset_n_ok _ _ _ _ h2
  rw [hq] at hr
  simp only [Option.getD_some] at hr
  rw [hr, shiftDate_add _ u hclip k (-k), Int.add_right_neg, shiftDate_zero _ hv]

/-- the hypothesis on clipping is needed: 31 January + 1 month − 1 month = 29 January (2020) -/
theorem C04_offset_clip_counterexample :
    ((Period.mk .month ⟨2020, 1, 31⟩ 1).offset (.n 1) none >>= fun q => q.offset (.n (-1)) none)
      = .ok ⟨.month, ⟨2020, 1, 29⟩, 1⟩ := by decide +kernel

/-- Named reference periods, characterised from the start date. -/
theorem C04_named_periods (p : Period) (hv : p.start.Valid) :
    p.thisYear = .ok ⟨.year, ⟨p.start.y, 1, 1⟩, 1⟩ ∧
    p.firstMonth = .ok ⟨.month, ⟨p.start.y, p.start.m, 1⟩, 1⟩ ∧
    p.firstDay = ⟨.day, p.start, 1⟩ ∧ p.firstWeekday = ⟨.weekday, p.start, 1⟩ ∧
    (∀ q, p.firstWeek = .ok q → q.unit = .week ∧ q.size = 1 ∧ q.start.Valid ∧
        weekday0 (ord q.start) = 0 ∧ ord q.start ≤ ord p.start ∧ ord p.start < ord q.start + 7) ∧
    (∀ q, p.lastMonth = .ok q → q = ⟨.month, addMonths ⟨p.start.y, p.start.m, 1⟩ (-1), 1⟩) ∧
    (∀ q, p.last3Months = .ok q → q = ⟨.month, addMonths ⟨p.start.y, p.start.m, 1⟩ (-3), 3⟩) ∧
    (∀ q, p.lastYear = .ok q → q = ⟨.year, ⟨p.start.y - 1, 1, 1⟩, 1⟩) ∧
    (∀ q, p.n2 = .ok q → q = ⟨.year, ⟨p.start.y - 2, 1, 1⟩, 1⟩) := by
  refine ⟨thisYear_eq p, firstMonth_eq p, rfl, rfl, ?_, ?_, ?_, ?_, ?_⟩
  · intro q hq
    obtain ⟨_, d, hd, rfl⟩ := firstWeek_eq_ok.1 hq
    obtain ⟨hdv, hdo, hmon⟩ := startOfWeek_ok hd
    have hw := weekday0_range (ord p.start)
    exact ⟨rfl, rfl, hdv, hmon, by simp only; omega, by simp only; omega⟩
  · intro q hq
    exact (offset_n_ok ⟨.month, ⟨p.start.y, p.start.m, 1⟩, 1⟩ (-1) none q hq).2
  · intro q hq
    exact (offset_n_ok ⟨.month, ⟨p.start.y, p.start.m, 1⟩, 3⟩ (-3) none q hq).2
  · intro q hq
    rw [(offset_n_ok ⟨.year, ⟨p.start.y, 1, 1⟩, 1⟩ (-1) none q hq).2]
    simp only [shiftDate, Option.getD_none, addMonths_jan1]
    rfl
  · intro q hq
    rw [(offset_n_ok ⟨.year, ⟨p.start.y, 1, 1⟩, 1⟩ (-2) none q hq).2]
    simp only [shiftDate, Option.getD_none, addMonths_jan1]
    rfl

/-- `offset("first-of", unit)` lands on the first day of the year / month / ISO week that contains the
    date: an aligned start, not after the date, the date lies inside the one-unit period beginning
    there, and asking again changes nothing (idempotent).  For `day` and `weekday` the code answers
    `None` (second statement). -/
theorem C04_first_of (c : Date) (hv : c.Valid) (u : DUnit) (s : Date)
    (h : instOffset c .firstOf u = .ok (some s)) :
    (u = .year ∨ u = .month ∨ u = .week) ∧ s.Valid ∧ AlignedTo s u ∧
    ord s ≤ ord c ∧ ord c ≤ (Period.mk u s 1).hi ∧
    (s.y ≤ 9999 → instOffset s .firstOf u = .ok (some s)) :=
  firstOf_spec c hv u s h

example : instOffset ⟨2021, 1, 3⟩ .firstOf .week = .ok (some ⟨2020, 12, 28⟩) ∧
    instOffset ⟨2021, 1, 3⟩ .firstOf .day = .ok none := by decide +kernel

/-- `offset("last-of", unit)` lands on the last day of the year / month / ISO week that contains the
    date: the last day of the one-unit period that begins at the `first-of` date; it is not before the
    date, and asking again changes nothing. -/
theorem C04_last_of (c : Date) (hv : c.Valid) (u : DUnit) (s e : Date)
    (hs : instOffset c .firstOf u = .ok (some s)) (he : instOffset c .lastOf u = .ok (some e)) :
    e.Valid ∧ ord e = (Period.mk u s 1).hi ∧ ord c ≤ ord e ∧
    instOffset e .lastOf u = .ok (some e) := by
  have hy := hv.1
  cases u
  case weekday | day | eternity => cases he
  case week =>
    obtain ⟨_, hcs⟩ := instOffset_firstOf_week_eq_ok.1 hs
    obtain ⟨_, hce⟩ := instOffset_lastOf_week_eq_ok.1 he
    obtain ⟨hsv, ho, _⟩ := startOfWeek_ok hcs
    obtain ⟨rfl, _, hy2⟩ := chk_ok hce
    have hw := weekday0_range (ord c)
    have hpos := ord_pos _ hsv
    have hoe := ord_endOfWeek c
    have hev : (endOfWeek c).Valid := ofOrd_valid _ (by omega)
    refine ⟨hev, by simp only [Period.hi]; omega, by omega, ?_⟩
    exact instOffset_lastOf_week_eq_ok.2 ⟨⟨hev, hy2⟩, by rw [endOfWeek_idem c (by omega)]; exact hce⟩
  case month =>
    cases hs
    obtain ⟨hok, rfl⟩ := instOffset_lastOf_month_eq_ok.1 he
    have hsv := valid_first c.y c.m hy hv.2.1 hv.2.2.1
    have hev := endOfMonth_valid c hv
    have hoe := ord_endOfMonth c
    have := hv.2.2.2
    refine ⟨hev, ?_, by rw [hoe, ord_month_day c]; omega, ?_⟩
    · simp only [Period.hi]
      rw [ord_addMonths_one _ hsv rfl, hoe]
    · exact instOffset_lastOf_month_eq_ok.2 ⟨⟨hev, hok.2⟩, rfl⟩
  case year =>
    cases hs
    cases he
    exact ⟨valid_dec31 c.y hy, (hi_one_year c.y).symm, (ord_year_bounds c hv).2, rfl⟩

example : instOffset ⟨2020, 2, 10⟩ .lastOf .month = .ok (some ⟨2020, 2, 29⟩) ∧
    instOffset ⟨2020, 12, 30⟩ .lastOf .week = .ok (some ⟨2021, 1, 3⟩) := by decide +kernel

/-- `Period.date` is the start date, defined for periods of size one only. -/
theorem C04_period_date (p : Period) :
    (p.size ≠ 1 → ∃ e, p.date = .error e) ∧
    (p.size = 1 → p.start.Valid → p.start.y ≤ 9999 → p.date = .ok p.start) ∧
    (∀ d, p.date = .ok d → d = p.start ∧ p.size = 1 ∧ d.Valid) :=
  ⟨fun h => error_of_not_ok fun _ hd => h (date_eq_ok.1 hd).1,
    fun h hv hy => date_eq_ok.2 ⟨h, ⟨hv, hy⟩, rfl⟩,
    fun _ h => let ⟨hs, hok, hd⟩ := date_eq_ok.1 h; ⟨hd, hs, hd ▸ hok.1⟩⟩

example : (Period.mk .year ⟨2021, 10, 1⟩ 3).date = .error "value" ∧ (Period.mk .month ⟨2021, 10, 1⟩ 1).date = .ok ⟨2021, 10, 1⟩ := by
  decide +kernel

/-- Sub-periods of sub-periods are the sub-periods: splitting a year (or several months) into months
    and every month into days gives consecutive, non-overlapping one-day periods whose union is exactly
    the period — and they are, in order, the very days `get_subperiods(DAY)` returns for the period
    itself. -/
theorem C04_subperiods_transitive (p : Period) (hp : p.WF) (hu : p.unit = .year ∨ p.unit = .month)
    (hal : p.start.d = 1) (ms : List Period) (hm : p.subperiods .month = .ok ms)
    (dss : List (List Period)) (hd : Piecewise (fun m ds => m.subperiods .day = .ok ds) ms dss) :
    Tiles dss.flatten p.lo p.hi ∧ (∀ q ∈ dss.flatten, q.unit = .day ∧ q.size = 1) ∧
    (∀ ds, p.subperiods .day = .ok ds → ds = dss.flatten) := by
  have hv := hp.2.1
  have hdm : Divides .month p.unit := by rcases hu with hu | hu <;> rw [hu] <;> decide
  obtain ⟨hTm, _⟩ := subperiods_tiles p .month hp hdm hal ms hm
  have hwf := subperiods_wf hv hm
  have hT : Piecewise (fun m ds => Tiles ds m.lo m.hi) ms dss :=
    Piecewise.imp ms dss (fun m hmm ds hds => (subperiods_tiles m .day (hwf m hmm) (.inl rfl) trivial ds hds).1) hd
  have hAll : ∀ q ∈ dss.flatten, IsDayPiece q :=
    Piecewise.flatten_all ms dss (fun m hmm ds hds => subperiods_day_pieces m (hwf m hmm).2.1 ds hds) hd
  have hTiles := tiles_flatten ms dss p.lo p.hi hTm hT
  refine ⟨hTiles, fun q hq => ⟨(hAll q hq).1, (hAll q hq).2.1⟩, ?_⟩
  intro ds hds
  obtain ⟨hTd, _⟩ := subperiods_tiles p .day hp (.inl rfl) trivial ds hds
  exact tiles_days_unique ds dss.flatten p.lo p.hi hTd hTiles (subperiods_day_pieces p hv ds hds) hAll

example : ∃ ms dss, (Period.mk .month ⟨2020, 2, 1⟩ 2).subperiods .month = .ok ms ∧
    Piecewise (fun m ds => m.subperiods .day = .ok ds) ms dss ∧ dss.flatten.length = 60 := by
  -- the day lists are named by the computation itself, so that the kernel evaluates everything
  refine ⟨[⟨.month, ⟨2020, 2, 1⟩, 1⟩, ⟨.month, ⟨2020, 3, 1⟩, 1⟩],
    [((Period.mk .month ⟨2020, 2, 1⟩ 1).subperiods .day).toOption.getD [],
     ((Period.mk .month ⟨2020, 3, 1⟩ 1).subperiods .day).toOption.getD []],
    by decide +kernel, ⟨by decide +kernel, by decide +kernel, trivial⟩, by decide +kernel⟩

/-- `key_period_size` is a faithful name of the pair (unit weight, size): two periods get the same key
    exactly when their units weigh the same and their sizes are equal. -/
theorem C04_key_period_size_faithful (p q : Period) :
    keyPeriodSize p = keyPeriodSize q ↔ unitWeight p.unit = unitWeight q.unit ∧ p.size = q.size := by
  unfold keyPeriodSize
  constructor
  · intro h
    simp only [List.append_assoc, List.cons_append, List.nil_append] at h
    obtain ⟨h1, h2⟩ := append_sep_inj '_' _ _ _ _ (intText_no_us _) (intText_no_us _) h
    exact ⟨intText_inj _ _ h1, intText_inj _ _ h2⟩
  · intro ⟨h1, h2⟩; rw [h1, h2]

example : keyPeriodSize ⟨.year, ⟨2021, 9, 14⟩, 3⟩ = "300_3".toList := by decide +kernel

/-- the key is a text: compared as text, ten days sort before two days (the decimal size is not padded) -/
example : keyPeriodSize ⟨.day, ⟨2021, 9, 14⟩, 10⟩ < keyPeriodSize ⟨.day, ⟨2021, 9, 14⟩, 2⟩ := by decide +kernel

/-- Every dated period, whatever its unit, splits into its days: `get_subperiods(DAY)` of a year, month,
    week, weekday or day period of any start date yields consecutive one-day periods whose union is
    exactly the period (days tile weeks as well as months: no alignment is needed).  The same holds for
    one-`weekday` pieces of month, week, day and weekday periods (for a year period the code counts whole
    weeks only, see the example below). -/
theorem C04_subperiods_days_any_unit (p : Period) (u : DUnit) (hp : p.WF)
    (hu : u = .day ∨ (u = .weekday ∧ p.unit ≠ .year))
    (qs : List Period) (h : p.subperiods u = .ok qs) :
    Tiles qs p.lo p.hi ∧ ∀ q ∈ qs, q.unit = u ∧ q.size = 1 :=
  subperiods_tiles p u hp (hu.imp_right .inl) (by rcases hu with rfl | ⟨rfl, -⟩ <;> trivial) qs h

example : ∃ qs, (Period.mk .week ⟨2020, 12, 28⟩ 2).subperiods .day = .ok qs ∧ qs.length = 14 :=
  ⟨((Period.mk .week ⟨2020, 12, 28⟩ 2).subperiods .day).toOption.getD [], by decide +kernel⟩

/-- the exception: the `weekday` pieces of a year period are counted in whole weeks (`size_in_weeks * 7`),
    364 for the 365 days of 2019 -/
example : (Period.mk .year ⟨2019, 1, 1⟩ 1).sizeInWeekdays = .ok 364 ∧ (Period.mk .year ⟨2019, 1, 1⟩ 1).days = .ok 365 := by
  decide +kernel

/-- `size_in_weeks` of a year or month period counts the WHOLE weeks in its days (pendulum's
    `in_weeks`): the day count divided by seven, rounded down — 52 for every calendar year.  (This is why
    the `weekday` pieces of a year period, `size_in_weeks * 7` of them, stop short of its last day or two.) -/
theorem C04_size_in_weeks_whole (p : Period) (hp : p.WF) (hu : p.unit = .year ∨ p.unit = .month) (k : Int)
    (h : p.sizeInWeeks = .ok k) : k = (p.hi - p.lo + 1) / 7 ∧ 7 * k ≤ p.hi - p.lo + 1 ∧ p.hi - p.lo + 1 < 7 * k + 7 := by
  have := sizeInWeeks_count p hp hu k h
  refine ⟨this, ?_, ?_⟩ <;> omega

example : (Period.mk .year ⟨2019, 1, 1⟩ 1).sizeInWeeks = .ok 52 ∧ (Period.mk .month ⟨2019, 2, 1⟩ 1).sizeInWeeks = .ok 4 := by
  decide +kernel

/-- Shifting an instant by `k` days (weekdays) or weeks moves it by exactly `k` or `7k` days; by `k` months or
    years it lands in the month `k` (12`k`) months later, on the same day of the month unless that month is
    shorter, in which case on its last day. -/
theorem C04_instant_shift (c : Date) (k : Int) (u : DUnit) (d : Date)
    (h : instOffset c (.n k) u = .ok (some d)) :
    c.Valid ∧ d.Valid ∧
    ((u = .day ∨ u = .weekday) → ord d = ord c + k) ∧
    (u = .week → ord d = ord c + 7 * k) ∧
    (u = .month → d = addMonths c k ∧ d.y * 12 + (d.m - 1) = c.y * 12 + (c.m - 1) + k ∧ d.d = min c.d (dim d.y d.m)) ∧
    (u = .year → d = addMonths c (12 * k) ∧ d.y = c.y + k ∧ d.m = c.m ∧ d.d = min c.d (dim d.y d.m)) := by
  obtain ⟨_, hc, ⟨hy1, _⟩, hd⟩ := instOffset_n_eq_ok.1 h
  cases hd
  have hv := hc.1
  have hdays := addDays_of_year_pos c
  have hm := hv.2.1; have hm2 := hv.2.2.1
  refine ⟨hv, ?_, ?_, ?_, ?_, ?_⟩
  · cases u
    case month | year => exact addMonths_valid c _ hv hy1
    all_goals exact (hdays _ hy1).1
  · intro hu; rcases hu with rfl | rfl <;> exact (hdays _ hy1).2
  · rintro rfl; exact (hdays _ hy1).2
  · rintro rfl; exact ⟨rfl, by simp only [shiftDate, addMonths]; omega, rfl⟩
  · rintro rfl
    exact ⟨rfl, by simp only [shiftDate, addMonths]; omega, by simp only [shiftDate, addMonths]; omega, rfl⟩

example : instOffset ⟨2020, 1, 31⟩ (.n 1) .month = .ok (some ⟨2020, 2, 29⟩) ∧
    instOffset ⟨2020, 2, 29⟩ (.n 1) .year = .ok (some ⟨2021, 2, 28⟩) ∧
    instOffset ⟨2020, 12, 28⟩ (.n 1) .week = .ok (some ⟨2021, 1, 4⟩) := by decide +kernel

end OFCore
