import OFCore.Lemmas.TaxScaleCombine
import OFCore.Lemmas.TaxScaleConvert
/-!
# C09 — tax-scale transformations preserve the amounts they are meant to preserve

Model: `OFCore/TaxScale.lean` (repaired tree: F-C09a, F-C09b, F-C09c).  `calcMR ε f none s x` is
`MarginalRateTaxScale.calc` with the threshold perturbation `ε` and factor `f`
(`0 < f + ε` is all the theorems ask of them); `ε = 0`, `f = 1` is the textbook reading.  Scales are strictly sorted, as
`add_bracket` builds them (`C08_built_sorted`).  All statements are for scales of any length,
all bases, all factors named.

**Non-mutation of the operands** ("none of the non-in-place operations alters the scale it was
applied to") is trivially true of a pure model: that clause is carried by the correspondence
only (`harness/ofverif/props/c09.py` snapshots thresholds and rates of every operand before and
after each operation), and is labelled so in the evidence.
-/
namespace OFCore
open OFCore.Sca

/-- `a.add_tax_scale(b)`: the tax of the combined scale is the sum of the taxes, for every base,
every receiver `a` and every operand `b` whose thresholds are `≥ 0` (the operand may start below
the receiver, the receiver may be empty); the result is again sorted -/
theorem C09_combine_sum (ε f : Rat) (hf : 0 < f + ε) (a b : Scale) (ha : StrictSorted a) (hb : StrictSorted b)
    (hnn : ∀ c ∈ b, 0 ≤ c.1) (x : Rat) :
    calcMR ε f none (addTaxScale a b) x = calcMR ε f none a x + calcMR ε f none b x ∧
    StrictSorted (addTaxScale a b) := by
  obtain ⟨e1, _, e3⟩ := addTaxScaleGo_spec b hb (tailNZ_of_nonneg hb hnn) a ha
  refine ⟨?_, e1⟩
  unfold addTaxScale
  rw [calc_eq_incr ε f hf _ e1, calc_eq_incr ε f hf a ha, calc_eq_incr ε f hf b hb, e3]

/-- F-C09a's input: operand starting below the receiver -/
example : calcMR 0 1 none (addTaxScale [(100, 1/8)] [(0, 1/4)]) 50
    = calcMR 0 1 none [(100, 1/8)] 50 + calcMR 0 1 none [(0, 1/4)] 50 :=
  (C09_combine_sum 0 1 (by decide +kernel) _ _ (by decide +kernel) (by decide +kernel)
    (by intro c hc; simp at hc; subst hc; decide +kernel) 50).1
example : addTaxScale [(100, 1/8)] [(0, 1/4)] = [(0, 1/4), (100, 3/8)] ∧
    calcMR 0 1 none (addTaxScale [(100, 1/8)] [(0, 1/4)]) 50 = 25/2 ∧
    addTaxScale [] [(0, 1/4)] = [(0, 1/4)] := by decide +kernel

/-- sequences: adding the scales `bs` one after the other -/
theorem C09_combine_sequence (ε f : Rat) (hf : 0 < f + ε) (bs : List Scale)
    (hbs : ∀ b ∈ bs, StrictSorted b ∧ ∀ c ∈ b, 0 ≤ c.1) (x : Rat) :
    ∀ a, StrictSorted a →
      calcMR ε f none (bs.foldl addTaxScale a) x = calcMR ε f none a x + (bs.map (fun b => calcMR ε f none b x)).sum ∧
      StrictSorted (bs.foldl addTaxScale a) := by
  induction bs with
  | nil => intro a ha; simp [ha]
  | cons b bs ih =>
    intro a ha
    obtain ⟨hb, hnn⟩ := hbs b List.mem_cons_self
    obtain ⟨e1, e2⟩ := C09_combine_sum ε f hf a b ha hb hnn x
    obtain ⟨f1, f2⟩ := ih (fun c hc => hbs c (List.mem_cons_of_mem _ hc)) (addTaxScale a b) e2
    refine ⟨?_, f2⟩
    simp only [List.foldl_cons, List.map_cons, List.sum_cons]
    rw [f1, e1]; ring

example : calcMR 0 1 none ([[(0, 1/4)], [(50, 1/8), (200, 1/2)]].foldl addTaxScale [(100, 1/8)]) 300
    = calcMR 0 1 none [(100, 1/8)] 300 + ([[(0, 1/4)], [(50, 1/8), (200, 1/2)]].map (fun b => calcMR 0 1 none b 300)).sum := by
  decide +kernel

/-- `combine_tax_scales(node, combined)`: the marginal-rate children are added, in order, to the
accumulator — `[(0, 0)]` when none is given —, other children are skipped -/
theorem C09_combine_tax_scales (ε f : Rat) (hf : 0 < f + ε) (children : List (Option Scale)) (combined : Option Scale)
    (hch : ∀ b, some b ∈ children → StrictSorted b ∧ ∀ c ∈ b, 0 ≤ c.1) (hne : children ≠ [])
    (hc : ∀ c ∈ combined, StrictSorted c) (x : Rat) :
    ∃ r, combineTaxScales children combined = some r ∧
      calcMR ε f none r x = (match combined with | some c => calcMR ε f none c x | none => 0)
        + ((children.filterMap id).map (fun b => calcMR ε f none b x)).sum := by
  have hall : ∀ b ∈ children.filterMap id, StrictSorted b ∧ ∀ c ∈ b, 0 ≤ c.1 := by
    intro b hb
    obtain ⟨o, ho, rfl⟩ := List.mem_filterMap.mp hb
    exact hch b ho
  have hs0 : StrictSorted (combined.getD [(0, 0)]) := by
    cases combined with
    | none => exact List.pairwise_singleton _ _
    | some a => exact hc a rfl
  refine ⟨_, combineTaxScales_eq hne combined, ?_⟩
  rw [(C09_combine_sequence ε f hf _ hall x _ hs0).1]
  cases combined with
  | none => exact congrArg (· + _) (clipSum_zero_head none _ _ [] x)
  | some a => rfl

theorem C09_combine_tax_scales_empty (combined : Option Scale) : combineTaxScales [] combined = combined := rfl

example : combineTaxScales [some [(0, 1/4)], none, some [(50, 1/8)]] none = some [(0, 1/4), (50, 3/8)] := by
  decide +kernel
example : ∃ r, combineTaxScales [some [(0, 1/4)], none, some [(50, 1/8)]] (some [(100, 1/2)]) = some r ∧
    calcMR 0 1 none r 200 = (match (some [(100, 1/2)] : Option Scale) with | some c => calcMR 0 1 none c 200 | none => 0)
      + (([some [(0, 1/4)], none, some [(50, 1/8)]].filterMap id).map (fun b => calcMR 0 1 none b 200)).sum :=
  ⟨_, rfl, by decide +kernel⟩

/-- `inverse()` of a scale starting at threshold 0 with all rates below one exists and maps
every net amount back to the gross amount it came from (`x ≥ 0`) -/
theorem C09_inverse (r0 : Rat) (rest : Scale) (hs : StrictSorted ((0, r0) :: rest))
    (hr : ∀ c ∈ (0, r0) :: rest, c.2 < 1) (x : Rat) (hx : 0 ≤ x) :
    ∃ inv, inverse ((0, r0) :: rest) = .ok inv ∧
      calcMR 0 1 none inv (x - calcMR 0 1 none ((0, r0) :: rest) x) = x :=
  ⟨_, inverse_eq r0 rest hs hr, inverse_calc r0 rest hs hr x hx⟩

example : ∃ inv, inverse ((0, 1/4) :: [(100, 1/2)]) = .ok inv ∧
    calcMR 0 1 none inv (200 - calcMR 0 1 none ((0, 1/4) :: [(100, 1/2)]) 200) = 200 :=
  C09_inverse _ _ (by decide +kernel) (by
    intro c hc; simp at hc; rcases hc with e | e <;> subst e <;> decide +kernel) 200 (by decide +kernel)
example : inverse [(0, 1/4), (100, 1/2)] = .ok [(0, 4/3), (75, 2)] := by decide +kernel

/-- where `inverse` raises: a non-empty scale whose first threshold is not 0 (unbound
`previous_rate`), or a rate equal to one in the first bracket (division by zero) -/
theorem C09_inverse_errors (t r : Rat) (rest : Scale) :
    (t ≠ 0 → ∃ e, inverse ((t, r) :: rest) = .error e) ∧ (t = 0 → r = 1 → ∃ e, inverse ((t, r) :: rest) = .error e) := by
  constructor
  · intro h; simp [inverse, inverseGo, h]
  · intro h1 h2; simp [inverse, inverseGo, h1, h2]

/-- multiplying all thresholds by `k > 0`: the tax on the scaled base is the scaled tax -/
theorem C09_mul_thresholds (ε f : Rat) (k : Rat) (hk : 0 < k) (s : Scale) (x : Rat) :
    calcMR ε f none (multiplyThresholds s k none) (k * x) = k * calcMR ε f none s x := by
  unfold calcMR
  rw [← clipSum_scaleT k hk, multiplyThresholds_eq, mapT_mapT, mapT_mapT]
  congr 3
  funext t
  show (f + ε) * (t * k) = k * ((f + ε) * t)
  ring

example : calcMR 0 1 none (multiplyThresholds [(0, 1/4), (10, 1/2)] (3/2) none) (3/2 * 20) = 3/2 * calcMR 0 1 none [(0, 1/4), (10, 1/2)] 20 :=
  C09_mul_thresholds 0 1 (3/2) (by decide +kernel) _ 20

/-- `scale_tax_scales(k)` is `copy().multiply_thresholds(k)` -/
theorem C09_scale_tax_scales (ε f : Rat) (k : Rat) (hk : 0 < k) (s : Scale) (x : Rat) :
    calcMR ε f none (scaleTaxScales s k) (k * x) = k * calcMR ε f none s x :=
  C09_mul_thresholds ε f k hk s x

/-- multiplying all rates by any factor multiplies every tax by that factor -/
theorem C09_mul_rates (ε f : Rat) (k : Rat) (s : Scale) (x : Rat) :
    calcMR ε f none (multiplyRates s k) x = k * calcMR ε f none s x := by
  unfold calcMR
  rw [← clipSum_scaleR]
  congr 1
  simp [multiplyRates, mapT, List.map_map, Function.comp]

example : calcMR 0 1 none (multiplyRates [(0, 1/4), (10, 1/2)] (-3)) 20 = -3 * calcMR 0 1 none [(0, 1/4), (10, 1/2)] 20 :=
  C09_mul_rates 0 1 (-3) _ 20

/-- `to_average().to_marginal()` on a sorted scale whose first threshold is `≥ 0` (repaired
`to_average`): both conversions succeed, the result is the same scale — preceded by a bracket
`(0, 0)` when the first threshold is positive — and it taxes every base identically, with any
factor and rounding -/
theorem C09_average_marginal_roundtrip (t0 r0 : Rat) (rest : Scale) (hs : StrictSorted ((t0, r0) :: rest))
    (h0 : 0 ≤ t0) :
    ∃ a m, toAverage ((t0, r0) :: rest) = .ok a ∧ toMarginal a = .ok m ∧
      m = (if 0 < t0 then (0, 0) :: (t0, r0) :: rest else (t0, r0) :: rest) ∧
      ∀ (ε f : Rat) (rd : Option Nat) (x : Rat), calcMR ε f rd m x = calcMR ε f rd ((t0, r0) :: rest) x := by
  obtain ⟨a, h1, h2⟩ := avg_roundtrip t0 r0 rest hs h0
  refine ⟨a, _, h1, h2, rfl, ?_⟩
  intro ε f rd x
  by_cases hp : 0 < t0
  · simp only [hp, if_true]
    exact clipSum_zero_head rd _ _ _ x
  · simp only [hp, if_false]

/-- F-C09b's and F-C09c's inputs -/
example : (toAverage [(50, 1/8), (100, 1/4)] >>= toMarginal) = .ok [(0, 0), (50, 1/8), (100, 1/4)] ∧
    (toAverage [(0, 1/8)] >>= toMarginal) = .ok [(0, 1/8)] ∧
    toAverage [(7, 1/8)] = .ok ⟨[(0, 0), (7, 0)], some (1/8)⟩ := by decide +kernel
example : ∃ a m, toAverage ((50, 1/8) :: [(100, 1/4)]) = .ok a ∧ toMarginal a = .ok m ∧
    m = (if (0 : Rat) < 50 then (0, 0) :: (50, 1/8) :: [(100, 1/4)] else (50, 1/8) :: [(100, 1/4)]) ∧
    ∀ (ε f : Rat) (rd : Option Nat) (x : Rat), calcMR ε f rd m x = calcMR ε f rd ((50, 1/8) :: [(100, 1/4)]) x :=
  C09_average_marginal_roundtrip 50 (1/8) _ (by decide +kernel) (by decide +kernel)

/-- a copy taxes every base identically (it *is* the same bracket list; independence of the
copy from later changes of the original is an aliasing fact, carried by the correspondence) -/
theorem C09_copy (s : Scale) : copy s = s ∧ ∀ (ε f : Rat) (rd : Option Nat) (x : Rat), calcMR ε f rd (copy s) x = calcMR ε f rd s x :=
  ⟨rfl, fun _ _ _ _ => rfl⟩

example : copy [(0, 1/4), (10, 1/2)] = [(0, 1/4), (10, 1/2)] := (C09_copy _).1

/-- `combine_bracket(rate, lo, hi)` — the step `add_tax_scale` is made of, also callable directly, `lo` defaulting
to 0 and `hi` to "none" — adds `rate` on `[lo, hi)` (on `[lo, ∞)` without `hi`) to the tax of every base, for every
sorted receiver (empty, or starting above `lo`, included) -/
theorem C09_combine_bracket (ε f : Rat) (hf : 0 < f + ε) (s : Scale) (hs : StrictSorted s) (rate lo : Rat) (hi : Option Rat)
    (hlh : ∀ h ∈ hi, lo < h ∧ h ≠ 0) (x : Rat) :
    calcMR ε f none (combineBracket s rate lo hi) x
      = calcMR ε f none s x + rate * interLen ((f + ε) * lo) (hi.map (fun h => (f + ε) * h)) x ∧
    StrictSorted (combineBracket s rate lo hi) := by
  obtain ⟨e1, _, e3⟩ := combineBracket_spec s hs rate lo hi hlh
  refine ⟨?_, e1⟩
  rw [calc_eq_incr ε f hf _ e1, calc_eq_incr ε f hf s hs, e3]
  congr 2
  cases hi with
  | none => exact (sub_zero _).trans (clip_eq_interLen_none _ x)
  | some h =>
    have := mul_lt_mul_of_pos_left (hlh h rfl).1 hf
    exact (pp_clip x _ _ this.le).symm.trans (clip_eq_interLen_some _ _ x this.le)

example : calcMR 0 1 none (combineBracket [(50, 1/4), (100, 1/2)] (1/8) 25 (some 75)) 60
    = calcMR 0 1 none [(50, 1/4), (100, 1/2)] 60 + 1/8 * interLen ((1 + 0) * 25) ((some (75 : Rat)).map (fun h => (1 + 0) * h)) 60 :=
  (C09_combine_bracket 0 1 (by decide +kernel) _ (by decide +kernel) _ _ _
    (by intro h hh; simp at hh; subst hh; decide +kernel) 60).1
example : combineBracketD [(0, 1/4), (100, 1/2)] (1/8) none none = [(0, 3/8), (100, 5/8)] ∧
    combineBracket [] (1/8) 25 none = [(25, 1/8)] := by decide +kernel

/-- as tax functions, combination is commutative … -/
theorem C09_combine_comm (ε f : Rat) (hf : 0 < f + ε) (a b : Scale) (ha : StrictSorted a) (hb : StrictSorted b)
    (hna : ∀ c ∈ a, 0 ≤ c.1) (hnb : ∀ c ∈ b, 0 ≤ c.1) (x : Rat) :
    calcMR ε f none (addTaxScale a b) x = calcMR ε f none (addTaxScale b a) x := by
  rw [(C09_combine_sum ε f hf a b ha hb hnb x).1, (C09_combine_sum ε f hf b a hb ha hna x).1]; ring

/-- bracket splitting keeps exactly the thresholds of the two scales -/
theorem C09_combine_thresholds (a b : Scale) (ha : StrictSorted a) (hb : StrictSorted b) (hnn : ∀ c ∈ b, 0 ≤ c.1) (u : Rat) :
    hasT (addTaxScale a b) u = (hasT a u || hasT b u) :=
  (addTaxScaleGo_spec b hb (tailNZ_of_nonneg hb hnn) a ha).2.1 u

example : thresholds (addTaxScale [(0, 1/4), (100, 1/2)] [(50, 1/8), (100, 1/8), (300, 1)]) = [0, 50, 100, 300] := by decide +kernel

theorem addTaxScale_nonneg {a b : Scale} (ha : StrictSorted a) (hb : StrictSorted b) (hna : ∀ c ∈ a, 0 ≤ c.1)
    (hnb : ∀ c ∈ b, 0 ≤ c.1) : ∀ d ∈ addTaxScale a b, 0 ≤ d.1 := by
  intro d hd
  have h : hasT (addTaxScale a b) d.1 = true := hasT_iff.mpr ⟨d, hd, rfl⟩
  rw [C09_combine_thresholds a b ha hb hnb, Bool.or_eq_true] at h
  rcases h with h | h
  · obtain ⟨e, he, ee⟩ := hasT_iff.mp h; exact ee ▸ hna e he
  · obtain ⟨e, he, ee⟩ := hasT_iff.mp h; exact ee ▸ hnb e he

/-- … and associative -/
theorem C09_combine_assoc (ε f : Rat) (hf : 0 < f + ε) (a b c : Scale) (ha : StrictSorted a) (hb : StrictSorted b)
    (hc : StrictSorted c) (hnb : ∀ d ∈ b, 0 ≤ d.1) (hnc : ∀ d ∈ c, 0 ≤ d.1) (x : Rat) :
    calcMR ε f none (addTaxScale (addTaxScale a b) c) x = calcMR ε f none (addTaxScale a (addTaxScale b c)) x := by
  obtain ⟨e1, s1⟩ := C09_combine_sum ε f hf a b ha hb hnb x
  obtain ⟨e2, s2⟩ := C09_combine_sum ε f hf b c hb hc hnc x
  rw [(C09_combine_sum ε f hf _ c s1 hc hnc x).1, e1, (C09_combine_sum ε f hf a _ ha s2 (addTaxScale_nonneg hb hc hnb hnc) x).1, e2]; ring

example : calcMR 0 1 none (addTaxScale (addTaxScale [(0, 1/4)] [(50, 1/8)]) [(20, 1/2), (70, 0)]) 100
    = calcMR 0 1 none (addTaxScale [(0, 1/4)] (addTaxScale [(50, 1/8)] [(20, 1/2), (70, 0)])) 100 :=
  C09_combine_assoc 0 1 (by decide +kernel) _ _ _ (by decide +kernel) (by decide +kernel) (by decide +kernel)
    (by decide +kernel) (by decide +kernel) 100
example : calcMR 0 1 none (addTaxScale [(100, 1/8)] [(0, 1/4), (30, 1/2)]) 50 = calcMR 0 1 none (addTaxScale [(0, 1/4), (30, 1/2)] [(100, 1/8)]) 50 :=
  C09_combine_comm 0 1 (by decide +kernel) _ _ (by decide +kernel) (by decide +kernel) (by decide +kernel) (by decide +kernel) 50

/-- `multiply_thresholds(k, decimals=d)`: every threshold is the rounded product, the rates are untouched, the
brackets stay in (weak) order for `k > 0` — so the result still computes its textbook definition (`C08_marginal_rate_def`) -/
theorem C09_mul_thresholds_rounded (k : Rat) (hk : 0 < k) (d : Nat) (s : Scale) (hs : StrictSorted s) :
    thresholds (multiplyThresholds s k (some d)) = (thresholds s).map (fun t => roundDec d (t * k)) ∧
    rates (multiplyThresholds s k (some d)) = rates s ∧
    WSorted (multiplyThresholds s k (some d)) ∧
    ∀ (ε f : Rat), 0 < f + ε → ∀ x, calcMR ε f none (multiplyThresholds s k (some d)) x
      = specMR none (mapT (fun t => (f + ε) * t) (multiplyThresholds s k (some d))) x := by
  have hw : WSorted (multiplyThresholds s k (some d)) := by
    rw [multiplyThresholds_eq]
    exact mapT_wsorted (fun a b hab => roundDec_mono d (mul_le_mul_of_nonneg_right hab hk.le)) hs.wsorted
  refine ⟨by simp [thresholds, multiplyThresholds, rnd], by simp [rates, multiplyThresholds], hw, ?_⟩
  intro ε f hf x
  rw [calcMR_pos hf]
  exact clipSum_eq_specMR none _ (mapT_wsorted (thrMap_mono ε f none hf) hw) x

example : multiplyThresholds [(0, 1/16), (1, 1/4), (3, 1/2), (17, 1)] (1/8) (some 2) = [(0, 1/16), (3/25, 1/4), (19/50, 1/2), (53/25, 1)] := by
  decide +kernel

/-- the inverse on a vector of gross amounts: element by element back to the gross amount -/
theorem C09_inverse_vector (r0 : Rat) (rest : Scale) (hs : StrictSorted ((0, r0) :: rest))
    (hr : ∀ c ∈ (0, r0) :: rest, c.2 < 1) (xs : List Rat) (hx : ∀ x ∈ xs, 0 ≤ x) :
    ∃ inv, inverse ((0, r0) :: rest) = .ok inv ∧
      calcMRVec 0 1 none inv (List.zipWith (· - ·) xs (calcMRVec 0 1 none ((0, r0) :: rest) xs)) = xs := by
  refine ⟨_, inverse_eq r0 rest hs hr, ?_⟩
  rw [calcMRVec_eq_map, calcMRVec_eq_map, List.zipWith_map_right, List.zipWith_self, List.map_map]
  exact (List.map_congr_left fun x hxs => inverse_calc r0 rest hs hr x (hx x hxs)).trans (List.map_id xs)

example : ∃ inv, inverse ((0, 1/4) :: [(100, 1/2)]) = .ok inv ∧
    calcMRVec 0 1 none inv (List.zipWith (· - ·) [0, 40, 200] (calcMRVec 0 1 none ((0, 1/4) :: [(100, 1/2)]) [0, 40, 200])) = [0, 40, 200] :=
  C09_inverse_vector _ _ (by decide +kernel) (by
    intro c hc; simp at hc; rcases hc with e | e <;> subst e <;> decide +kernel) _ (by decide +kernel)

/-- descriptive attributes: every operation that returns a new scale carries `option` and `unit` over; the name is
kept by `copy`, `scale_tax_scales`, `to_average`, `to_marginal` (a scale's name is never empty) and by the multiplications
without a `new_name`, replaced by a non-empty `new_name`, and `inverse` appends a prime; in place a `new_name` is refused -/
theorem C09_meta (m : Meta) (hname : m.name ≠ "") :
    metaCopy m = m ∧ metaScaleTaxScales m = .ok m ∧ metaConvert m = m ∧
    (metaInverse m).option = m.option ∧ (metaInverse m).unit = m.unit ∧ (metaInverse m).name = m.name ++ "'" ∧
    metaMultiply m false none = .ok m ∧ metaMultiply m false (some "") = .ok m ∧
    (∀ n, n ≠ "" → metaMultiply m false (some n) = .ok ⟨n, m.option, m.unit⟩) ∧
    metaMultiply m true none = .ok m ∧ (∀ n, ∃ e, metaMultiply m true (some n) = .error e) := by
  obtain ⟨name, option, unit⟩ := m
  simp only at hname
  have hq : (name ++ "'") ≠ "" := by
    intro h
    have := congrArg String.length h
    simp at this
  refine ⟨rfl, rfl, ?_, rfl, rfl, ?_, ?_, ?_, ?_, rfl, fun n => ⟨_, rfl⟩⟩
  · simp [metaConvert, metaInit, strOr, hname]
  · simp [metaInverse, metaInit, strOr, hq]
  · simp [metaMultiply, metaInit, strOr, hname]
  · simp [metaMultiply, metaInit, strOr, hname]
  · intro n hn
    simp [metaMultiply, metaInit, strOr, hn]

example : metaMultiply ⟨"scale", some "main-option", some "currency"⟩ false (some "renamed") = .ok ⟨"renamed", some "main-option", some "currency"⟩ ∧
    metaInverse ⟨"scale", none, some "currency"⟩ = ⟨"scale'", none, some "currency"⟩ ∧
    metaCombine (some "first-child") none = some ⟨"first-child", none, none⟩ ∧ metaInit none none none = ⟨"Untitled TaxScale", none, none⟩ := by
  decide +kernel

/-- `calc` with the threshold factor `k = f + ε > 0` is the textbook `calc` seen through the change of unit `x ↦ k·x` -/
theorem C09_calc_factor_scaling (ε f : Rat) (hf : 0 < f + ε) (s : Scale) (x : Rat) :
    calcMR ε f none s x = (f + ε) * calcMR 0 1 none s (x / (f + ε)) := by
  rw [calcMR_textbook, calcMR_pos hf, ← clipSum_scaleT (f + ε) hf true s, mul_div_cancel₀ x hf.ne']
  rfl

/-- the inverse law holds with the code's perturbation too: for every `ε`, `f` with `f + ε > 0` (the same factor on both
scales), `inverse()` of a scale starting at 0 with rates below one maps the net of every gross amount `x ≥ 0` back to `x` -/
theorem C09_inverse_any_factor (ε f : Rat) (hf : 0 < f + ε) (r0 : Rat) (rest : Scale) (hs : StrictSorted ((0, r0) :: rest))
    (hr : ∀ c ∈ (0, r0) :: rest, c.2 < 1) (x : Rat) (hx : 0 ≤ x) :
    ∃ inv, inverse ((0, r0) :: rest) = .ok inv ∧
      calcMR ε f none inv (x - calcMR ε f none ((0, r0) :: rest) x) = x := by
  obtain ⟨inv, h1, h2⟩ := C09_inverse r0 rest hs hr (x / (f + ε)) (div_nonneg hx hf.le)
  refine ⟨inv, h1, ?_⟩
  rw [C09_calc_factor_scaling ε f hf inv, C09_calc_factor_scaling ε f hf ((0, r0) :: rest) x,
    sub_div, mul_div_cancel_left₀ _ hf.ne', h2, mul_div_cancel₀ x hf.ne']

example : ∃ inv, inverse ((0, 1/4) :: [(100, 1/2)]) = .ok inv ∧
    calcMR (1/4503599627370496) 1 none inv (200 - calcMR (1/4503599627370496) 1 none ((0, 1/4) :: [(100, 1/2)]) 200) = 200 :=
  C09_inverse_any_factor _ 1 (by decide +kernel) _ _ (by decide +kernel) (by
    intro c hc; simp at hc; rcases hc with e | e <;> subst e <;> decide +kernel) 200 (by decide +kernel)

/-- what `to_average()` produces (sorted scale, first threshold `≥ 0`, repaired code): its finite thresholds are 0 and the
thresholds of the scale; each average rate times its threshold is the tax of the scale at that threshold (the AVERAGE rate
up to there; rate 0 at 0 and at a positive first threshold); the `Inf` bracket carries the rate of the last bracket -/
theorem C09_to_average_def (t0 r0 : Rat) (rest : Scale) (hs : StrictSorted ((t0, r0) :: rest)) (h0 : 0 ≤ t0) :
    ∃ a, toAverage ((t0, r0) :: rest) = .ok a ∧
      (∀ c ∈ a.fin, c.2 * c.1 = calcMR 0 1 none ((t0, r0) :: rest) c.1) ∧
      (∀ u, hasT a.fin u = (decide (u = 0) || hasT ((t0, r0) :: rest) u)) ∧
      a.top = some (lastRate r0 rest) := by
  refine ⟨_, toAverage_eq t0 r0 rest hs h0, fun c hc => ?_, fun u => ?_, rfl⟩
  · rw [calcMR_textbook]
    rcases List.mem_append.mp hc with hc | hc
    · -- the leading brackets have rate 0 and a threshold `≤ t0`, where no tax is due yet
      have : c.2 = 0 ∧ c.1 ≤ t0 := by
        split_ifs at hc
        · rcases List.mem_pair.mp hc with e | e <;> rw [e] <;> simp [h0]
        · rw [List.mem_singleton.mp hc]; exact ⟨rfl, h0⟩
      rw [this.1, zero_mul, clipSum_zero_below_head hs.wsorted this.2]
    · rw [avgL_spec rest 0 t0 r0 hs h0 c hc, zero_add]
  · show hasT (_ ++ _) u = _
    rw [hasT_append, hasT_of_thresholds (thresholds_avgL rest 0 t0 r0), hasT_cons]
    have e0 : decide ((0 : Rat) = u) = decide (u = 0) := decide_eq_decide.mpr eq_comm
    split_ifs with hpos
    · rw [hasT_cons, hasT_cons, hasT_nil, e0, Bool.or_false, Bool.or_assoc]
    · obtain rfl : t0 = 0 := le_antisymm (not_lt.mp hpos) h0
      rw [hasT_cons, hasT_nil, e0, Bool.or_false, ← Bool.or_assoc, Bool.or_self]

example : toAverage [(50, 1/8), (100, 1/4), (300, 1/2)] = .ok ⟨[(0, 0), (50, 0), (100, 1/16), (300, 3/16)], some (1/2)⟩ ∧
    calcMR 0 1 none [(50, 1/8), (100, 1/4), (300, 1/2)] 300 = 3/16 * 300 := by decide +kernel

end OFCore
