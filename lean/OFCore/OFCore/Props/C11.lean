import OFCore.Lemmas.Equivariance
import OFCore.Lemmas.EquivariancePop
import OFCore.Lemmas.DeclPop
import OFCore.Lemmas.DenEval
import OFCore.Props.C01
/-!
# C11 — each entity's result is independent of the other entities simulated with it

Vocabulary (`Equivariance.lean`): a declaration `d` is one population (persons, groups, the group
of each person, variables, input vectors).  A *closed selection* `(sel, gsel)` of `d` keeps some
persons and some groups such that a person is kept iff its group is kept — one of several
unrelated situations that were written into the same population, in whatever interleaved order of
persons and of groups (`Increasing sel`: the part keeps the order the merged population has), or
the whole population listed in another order (`IsPerm`), or a reordered part.
`restrict d sel gsel` is that part **simulated alone**: its own persons and groups only, every
person attached to the position its group has among the kept groups, the same rule system, each
input vector read at the kept indices.

The theorems say: whatever is computed for the part alone — formula by formula, node by node, by
the meaning `den` and by the machine `request` (= `Simulation.calculate`) — is the merged
computation read at the kept indices (`reindex`): same values entity by entity, same error, same
non-termination; nothing of the other entities enters.

Hypotheses (all decidable, checked on the example below):
`WF d` — one group index per person, below `nG`; every formula respects the entity discipline
(`WT`: a sum over members turns a person vector into a group vector, a projection a group vector
into a person vector, everything else stays on its entity — real formulas that break it fail with
a numpy shape error); every input vector has its entity's size.
`Closed d sel gsel` — indices valid and duplicate-free, a person is kept iff its group is kept.

Domain note.  The formula language modelled here (`DExpr`) has the sum over members, the
projection onto persons and the role operations that are functions of the SET of role holders of
a group (role-filtered sum, value of the unique-role member = `value_from_person` / the role
projector, number of role holders, any, and the reductions max / min / all with or without role
filter, made total on integers: 0, 0 and 1 for a household without holder; the projection with
a role filter; role digits: a flattened role, 9 = everybody, 8 = a first role with its sub-roles).  It deliberately has no n-th-member / first-person / rank
read: their result is *defined* by storage order ("this position is arbitrary"), so the
permutation clause of the property is false of them by definition.  For the language as it is the
permutation theorems hold without restriction, like the merge theorems.  Inputs are whole vectors per (variable, period): the part
alone has an input exactly where the merged population has one.
-/
namespace OFCore
open OFCore.Engine OFCore.RuleSys OFCore.Equivariance

/-! Concrete merged population used by the non-vacuity examples: five persons, three households,
stored interleaved.  Situation A = households 0 and 2 with persons 1, 3, 4; situation B =
household 1 with persons 0 and 2.  Roles: 2 = head (unique), 1 = parent, 0 = plain member; the
heads are persons 0 (of household 1), 3 (of household 2), 4 (of household 0): listed in another
order than their households.  `v0` person input, `v1` = household sum of `v0`,
`v2` = `v0` + projection of `v1` (a person's result mentions every member of its household),
`v3` = the head's `v0` (`value_from_person`, role operation 22). -/
def c11Jan : Period := ⟨.month, ⟨2018, 1, 1⟩, 1⟩
def c11D : Decl :=
  ⟨5, 3, [1, 0, 1, 2, 0], 1,
   [⟨0, .int, .month, 7, false, none, false, []⟩,
    ⟨1, .int, .month, 0, false, none, false, [(1, .op1 1 (.var 0 .same false))]⟩,
    ⟨0, .int, .month, 0, false, none, false, [(1, .op2 0 (.var 0 .same false) (.op1 2 (.var 1 .same false)))]⟩,
    ⟨1, .int, .month, 0, false, none, false, [(1, .op1 22 (.var 0 .same false))]⟩],
   [(0, c11Jan, [10, 20, 30, 40, 50])],
   [2, 0, 1, 2, 2]⟩

/-- the hypotheses `WF`, `Closed`, `IsPerm` of the theorems below are satisfiable: the example is
    well-formed, both situations are closed order-preserving selections, and a reordering is a permutation -/
example : WF c11D ∧ Closed c11D [1, 3, 4] [0, 2] ∧ Increasing [1, 3, 4] ∧ Increasing [0, 2] ∧
    Closed c11D [0, 2] [1] ∧ IsPerm c11D [4, 2, 0, 3, 1] [2, 0, 1] ∧
    complement 5 [1, 3, 4] = [0, 2] ∧ complement 3 [0, 2] = [1] := by decide +kernel

/-- Every formula of the language, on every entity it can live on, evaluated for the part alone
    gives the merged evaluation read at the part's indices — values, errors and exhaustion alike.
    (The induction on the expression is `elabExpr_rel`: constants, reads, value-by-value operations,
    the sum over the members of each group, the role operations, the projections onto persons,
    injected faults.) -/
theorem C11_expr_equivariant (d : Decl) (armed sel gsel : List Nat) (hwf : WF d) (hcl : Closed d sel gsel)
    (e : DExpr) (ent : Nat) (hwt : WT ent e = true) (p : Period) (n : Nat) :
    denE (elabSys (restrict d sel gsel) armed) n (elabExpr (restrict d sel gsel) ent p e)
      = (denE (elabSys d armed) n (elabExpr d ent p e)).map (mapRes (reindex (idxFor sel gsel ent))) :=
  (denE_sim (sim_restrict hwf hcl) n (elabExpr_rel hwf.mem_length hcl p e ent hwt)).eq

/-- the group operations in isolation: the household sums of the part are the merged household
    sums of the kept households, the projection onto the part's persons is the merged projection
    at the kept persons, and every role operation (codes 10–79: role-filtered sum, value of the
    unique-role member, number of role holders, any, max, min, all — with or without role filter)
    of the part is the merged one at the kept households, and the projection with a role filter
    (codes 80–89) the merged one at the kept persons -/
theorem C11_group_ops_equivariant (d : Decl) (sel gsel : List Nat) (hwf : WF d) (hcl : Closed d sel gsel) :
    (∀ x : Val, x.length = d.nP →
        RuleSys.f1 (restrict d sel gsel) 1 (reindex sel x) = reindex gsel (RuleSys.f1 d 1 x)) ∧
    (∀ y : Val, y.length = d.nG →
        RuleSys.f1 (restrict d sel gsel) 2 (reindex gsel y) = reindex sel (RuleSys.f1 d 2 y)) ∧
    (∀ o : Nat, isRoleOp o = true → ∀ x : Val, x.length = d.nP →
        RuleSys.f1 (restrict d sel gsel) o (reindex sel x) = reindex gsel (RuleSys.f1 d o x)) ∧
    (∀ o : Nat, isProjOp o = true → ∀ y : Val, y.length = d.nG →
        RuleSys.f1 (restrict d sel gsel) o (reindex gsel y) = reindex sel (RuleSys.f1 d o y)) :=
  ⟨fun x hx => (f1_sim_sum hwf.mem_length hcl 1 nofun x hx).2,
   fun y _ => (f1_sim_proj hwf.mem_length hcl y).2,
   fun o ho x _ => (f1_sim_role hwf.mem_length hcl o ho 1 nofun x).2,
   fun o ho y _ => (f1_sim_rproj hwf.mem_length hcl o ho y).2⟩

example : RuleSys.f1 (restrict c11D [1, 3, 4] [0, 2]) 1 (reindex [1, 3, 4] [10, 20, 30, 40, 50]) = [70, 40] ∧
    reindex [0, 2] (RuleSys.f1 c11D 1 [10, 20, 30, 40, 50]) = [70, 40] := by decide +kernel

/-- the head's value per household: merged `[50, 10, 40]` (heads are persons 4, 0, 3); situation A
    alone `[50, 40]`; under the reordering `[4, 2, 0, 3, 1]` / `[2, 0, 1]`: `[40, 50, 10]`; number
    of parents (role 1) per household: `[0, 1, 0]` -/
example : RuleSys.f1 c11D 22 [10, 20, 30, 40, 50] = [50, 10, 40] ∧
    RuleSys.f1 (restrict c11D [1, 3, 4] [0, 2]) 22 (reindex [1, 3, 4] [10, 20, 30, 40, 50]) = [50, 40] ∧
    RuleSys.f1 (permute c11D [4, 2, 0, 3, 1] [2, 0, 1]) 22 (reindex [4, 2, 0, 3, 1] [10, 20, 30, 40, 50]) = [40, 50, 10] ∧
    RuleSys.f1 c11D 31 [0, 0, 0, 0, 0] = [0, 1, 0] ∧ isRoleOp 22 = true := by decide +kernel

/-- The reductions are functions of the multiset of the holders' values, not of the order in which
    persons are stored: `max` is attained and an upper bound, `min` attained and a lower bound,
    `all` says that no holder's value is 0; a household without holder gives 0, 0 and 1. -/
theorem C11_reductions_def (d : Decl) (r : Nat) (x : Val) (g : Nat) :
    (holderVals d r x g ≠ [] →
      (listMax (holderVals d r x g) ∈ holderVals d r x g ∧ ∀ y ∈ holderVals d r x g, y ≤ listMax (holderVals d r x g)) ∧
      (listMin (holderVals d r x g) ∈ holderVals d r x g ∧ ∀ y ∈ holderVals d r x g, listMin (holderVals d r x g) ≤ y)) ∧
    (listAll (holderVals d r x g) = 1 ↔ ∀ y ∈ holderVals d r x g, y ≠ 0) ∧
    (holderVals d r x g = [] →
      listMax (holderVals d r x g) = 0 ∧ listMin (holderVals d r x g) = 0 ∧ listAll (holderVals d r x g) = 1) :=
  ⟨fun h => ⟨listMax_spec _ h, listMin_spec _ h⟩, listAll_eq_one_iff _, fun h => by rw [h]; exact ⟨rfl, rfl, rfl⟩⟩

/-- A population whose LAST household has no member, after a household whose last-stored member is
    decisive: three persons, households 0 = {person 0}, 1 = {persons 1, 2}, 2 = {} (person 2 holds
    role 1).  max / min / all without role filter (codes 59 / 69 / 79) and with role 1 (51 / 61 / 71);
    the part made of households 1 and 2 alone; the reordering that lists the empty household first. -/
def c11E : Decl := ⟨3, 3, [0, 1, 1], 1, [], [], [0, 0, 1]⟩

example : WF c11E ∧ Closed c11E [1, 2] [1, 2] ∧ IsPerm c11E [2, 0, 1] [2, 1, 0] ∧
    RuleSys.f1 c11E 59 [5, 7, 30] = [5, 30, 0] ∧ RuleSys.f1 c11E 69 [5, 7, -3] = [5, -3, 0] ∧
    RuleSys.f1 c11E 79 [5, 7, 0] = [1, 0, 1] ∧
    RuleSys.f1 c11E 51 [5, 7, 30] = [0, 30, 0] ∧ RuleSys.f1 c11E 61 [5, 7, 30] = [0, 30, 0] ∧
    RuleSys.f1 c11E 71 [5, 0, 30] = [1, 1, 1] ∧
    RuleSys.f1 (restrict c11E [1, 2] [1, 2]) 59 (reindex [1, 2] [5, 7, 30]) = [30, 0] ∧
    RuleSys.f1 (permute c11E [2, 0, 1] [2, 1, 0]) 59 (reindex [2, 0, 1] [5, 7, 30]) = [0, 30, 5] ∧
    isRoleOp 59 = true ∧ isRoleOp 71 = true := by decide +kernel

/-- projection with a role filter (code 81: onto the holders of role 1, 0 for the others), in the
    whole population, in the part made of households 1 and 2, and reordered -/
example : RuleSys.f1 c11E 81 [100, 200, 300] = [0, 0, 200] ∧ RuleSys.f1 c11E 89 [100, 200, 300] = [100, 200, 200] ∧
    RuleSys.f1 (restrict c11E [1, 2] [1, 2]) 81 (reindex [1, 2] [100, 200, 300]) = [0, 200] ∧
    RuleSys.f1 (permute c11E [2, 0, 1] [2, 1, 0]) 81 (reindex [2, 1, 0] [100, 200, 300]) = [200, 0, 0] ∧
    isProjOp 81 = true := by decide +kernel

/-- What the unique-role operation means: in a group with exactly one holder `i` of role `r` it is
    that person's value, whatever the storage order; in a group without holder it is 0 (the
    default of `value_from_person`). -/
theorem C11_from_role_value (d : Decl) (r : Nat) (x : Val) (g : Nat) :
    (∀ i, i < d.mem.length → (d.mem.getD i 0 = g ∧ roleMatch r (d.roles.getD i 0) = true) →
      (∀ k, k < d.mem.length → d.mem.getD k 0 = g ∧ roleMatch r (d.roles.getD k 0) = true → k = i) →
      roleSum d r x g = x.getD i 0) ∧
    ((∀ k, k < d.mem.length → ¬(d.mem.getD k 0 = g ∧ roleMatch r (d.roles.getD k 0) = true)) → roleSum d r x g = 0) :=
  ⟨fun i hi hh hu => roleSum_unique d r x g i hi hh hu, roleSum_none d r x g⟩

/-- which persons a role digit selects (`has_role`): a flattened role, nobody else; digit 9:
    everybody; digit 8: the holders of the two sub-roles of the first role -/
example : roleMatch 2 2 = true ∧ roleMatch 2 0 = false ∧ roleMatch 9 5 = true ∧
    roleMatch 8 0 = true ∧ roleMatch 8 1 = true ∧ roleMatch 8 2 = false := by decide +kernel

example : roleSum c11D 2 [10, 20, 30, 40, 50] 0 = 50 ∧ roleSum c11D 1 [10, 20, 30, 40, 50] 0 = 0 := by decide +kernel

/-- The two models of the group operations agree.  The expression language states its group
    operations over index sets (`RuleSys.f1`: sum over members, projection, and the role
    operations 10–89); `Group.lean` transcribes the code of `GroupPopulation` (`numpy.bincount`,
    the position loop of `reduce`, masks) and is tied to the real code by C10's correspondence
    and to the per-group definitions by C10's theorems.  On the population of any well-formed
    declaration (`declPop`: one `(group, role)` per person, `nG` groups) they compute the same
    arrays, for every role digit (`roleOfDigit`: 9 = no role, 8 = the first role with its
    sub-roles, else a flattened role): sum, `sum(role)`, `nb_persons(role)`, `any(role)`,
    `project`, `project(role)`, and — for a population with at least one person — `max`, `min`,
    `all` (the `±inf` of a group without holder read as 0, as the formulas of the language do). -/
theorem C11_group_ops_are_the_group_model (d : Decl) (hm : d.mem.length = d.nP) (hg : ∀ g ∈ d.mem, g < d.nG)
    (hρ : ∀ ρ ∈ d.roles, ρ < 8) (r : Nat) (hr : r ≤ 9) (x : Val) (hx : x.length = d.nP)
    (y : Val) (hy : y.length = d.nG) :
    Grp.groupSum (declPop d) x none = .ok (RuleSys.f1 d 1 x) ∧
    Grp.project (declPop d) y 0 none = .ok (RuleSys.f1 d 2 y) ∧
    Grp.groupSum (declPop d) x (roleOfDigit r) = .ok (RuleSys.f1 d (10 + r) x) ∧
    Grp.nbPersons (declPop d) (roleOfDigit r) = .ok (RuleSys.f1 d (30 + r) x) ∧
    Grp.groupAnyI (declPop d) x (roleOfDigit r) = .ok ((RuleSys.f1 d (40 + r) x).map fun v => decide (v ≠ 0)) ∧
    Grp.project (declPop d) y 0 (roleOfDigit r) = .ok (RuleSys.f1 d (80 + r) y) ∧
    (d.nP ≠ 0 →
      (∃ mx, Grp.groupMax (declPop d) x (roleOfDigit r) = .ok mx ∧ mx.map eint0 = RuleSys.f1 d (50 + r) x) ∧
      (∃ mn, Grp.groupMin (declPop d) x (roleOfDigit r) = .ok mn ∧ mn.map eint0 = RuleSys.f1 d (60 + r) x) ∧
      Grp.groupAll (declPop d) (x.map fun v => decide (v ≠ 0)) (roleOfDigit r)
        = .ok ((RuleSys.f1 d (70 + r) x).map fun v => decide (v ≠ 0))) := by
  have hxm : x.length = d.mem.length := hx.trans hm.symm
  have hlen : x.length = (declPop d).ms.length := hxm.trans (declPop_len d).symm
  have hgp := declPop_group_lt d hg
  have hv := valuesOf_declPop_digit d hρ r x hxm
  have hS := groupSum_declPop d hg hρ
  refine ⟨?_, ?_, ?_, ?_, ?_, project_declPop d hg hρ r hr y hy, ?_⟩
  · rw [f1_one_eq d x hxm, f1_sum d 9 (by decide)]
    exact hS 9 x hxm
  · rw [f1_two_eq]
    exact project_declPop d hg hρ 9 (by decide) y hy
  · rw [f1_sum d r hr]
    exact hS r x hxm
  · rw [Grp.nbPersons_eq_sum_ones _ _ hgp, List.map_const', declPop_len, f1_count d r hr]
    exact hS r _ List.length_replicate
  · unfold Grp.groupAnyI
    rw [hS r x hxm, f1_any d r hr]
    simp only [List.map_map]
    exact congrArg _ (List.map_congr_left fun g _ => by
      rw [Function.comp_apply, Function.comp_apply]
      by_cases h : roleSum d r x g > 0
      · rw [if_pos h, decide_eq_true h, decide_eq_true Int.one_ne_zero]
      · rw [if_neg h, decide_eq_false h, decide_eq_false (fun h => h rfl)])
  · intro hnp
    have hne : (declPop d).ms ≠ [] := fun h => hnp (by rw [← hm, ← declPop_len, h]; rfl)
    refine ⟨⟨_, Grp.groupMax_eq _ x _ hlen hne hgp, ?_⟩, ⟨_, Grp.groupMin_eq _ x _ hlen hne hgp, ?_⟩, ?_⟩
    · rw [f1_max d r hr, List.map_map]
      exact List.map_congr_left fun g _ => by rw [Function.comp_apply, hv g, eint0_foldl_max]
    · rw [f1_min d r hr, List.map_map]
      exact List.map_congr_left fun g _ => by rw [Function.comp_apply, hv g, eint0_foldl_min]
    · rw [Grp.groupAll_eq _ _ _ (by rw [List.length_map]; exact hlen) hne hgp, f1_all d r hr, List.map_map]
      exact congrArg _ (List.map_congr_left fun g _ => by
        rw [Function.comp_apply, Grp.valuesOf_map, hv g, List.all_map, Function.id_comp]
        unfold listAll
        cases (holderVals d r x g).all (fun a => decide (a ≠ 0)) <;> rfl)

/-- `value_from_person(x, role)` (operation 20 + r) for a role held at most once per group -/
theorem C11_from_person_is_the_group_model (d : Decl) (hm : d.mem.length = d.nP) (hg : ∀ g ∈ d.mem, g < d.nG)
    (hρ : ∀ ρ ∈ d.roles, ρ < 8) (r : Nat) (hr : r < 8) (x : Val) (hx : x.length = d.nP)
    (hu : ∀ g, g < d.nG → (holderVals d r x g).length ≤ 1) :
    Grp.valueFromPerson (declPop d) x ⟨r, [], some 1⟩ 0 = .ok (RuleSys.f1 d (20 + r) x) := by
  have hxm : x.length = d.mem.length := hx.trans hm.symm
  have hr9 : r ≤ 9 := Nat.le_trans (Nat.le_of_lt hr) (by decide)
  have hrole : roleOfDigit r = some ⟨r, [], some 1⟩ := by
    unfold roleOfDigit; rw [if_neg (by omega), if_neg (by omega)]
  have hv := valuesOf_declPop_digit d hρ r x hxm
  rw [hrole] at hv
  rw [Grp.valueFromPerson_eq _ x _ 0 rfl (hxm.trans (declPop_len d).symm) (declPop_group_lt d hg)
    (fun g hgn => by rw [hv g]; exact hu g hgn), f1_from d r hr9]
  refine congrArg _ (List.map_congr_left fun g hgm => ?_)
  rw [hv g, roleSum_eq]
  -- at most one holder: its value, or the default
  have := hu g (List.mem_range.mp hgm)
  match hL : holderVals d r x g with
  | [] => rfl
  | [a] => simp
  | _ :: _ :: _ => rw [hL] at this; simp at this

/-- on the example: the hypotheses hold, and both models give the head's value per household -/
example : c11D.mem.length = c11D.nP ∧ (∀ g ∈ c11D.mem, g < c11D.nG) ∧ (∀ ρ ∈ c11D.roles, ρ < 8) ∧
    (∀ g, g < c11D.nG → (holderVals c11D 2 [10, 20, 30, 40, 50] g).length ≤ 1) ∧
    Grp.valueFromPerson (declPop c11D) [10, 20, 30, 40, 50] ⟨2, [], some 1⟩ 0 = .ok [50, 10, 40] ∧
    RuleSys.f1 c11D 22 [10, 20, 30, 40, 50] = [50, 10, 40] ∧
    Grp.groupMax (declPop c11E) [5, 7, 30] (roleOfDigit 1) = .ok [.negInf, .fin 30, .negInf] ∧
    RuleSys.f1 c11E 51 [5, 7, 30] = [0, 30, 0] := by decide +kernel

/-- Merge, for the order-dependent operations.  `value_nth_person` (and `value_from_first_person`,
    `household.first_person`) are defined by the storage order of the persons, so they are outside
    the expression language and outside the permutation clause; but a situation keeps its internal
    person order inside a merged population, whatever is interleaved with it.  For every closed
    part whose persons are listed in merged order (`ClosedPop`: any groups order), the part as a
    population of its own (`restrictPop`) has in every group the same members with the same values
    in the same order, hence the same n-th member for every n: the part's answer is the merged
    answer read at the part's groups.  (Model: `Group.lean`, the transcription of
    `GroupPopulation`, whose `members_position` is the counter loop; a position computed through
    an unstable sort of the whole population breaks exactly this.) -/
theorem C11_nth_merge {α : Type} (p : Grp.Pop) (sel gsel : List Nat) (hcl : ClosedPop p sel gsel)
    (hg : ∀ m ∈ p.ms, m.group < p.n) (a : List α) (d : α) (ha : a.length = p.ms.length) (hne : sel ≠ []) (k : Nat) :
    (∀ g', g' < gsel.length →
      Grp.valuesOf (restrictPop p sel gsel) none g' (selArr sel a d) = Grp.valuesOf p none (gsel.getD g' 0) a) ∧
    (∃ r, Grp.valueNth p k a d = .ok r ∧ r.length = p.n ∧
      Grp.valueNth (restrictPop p sel gsel) k (selArr sel a d) d = .ok (selArr gsel r d)) ∧
    (∃ r, Grp.valueFromFirst p a d = .ok r ∧
      Grp.valueFromFirst (restrictPop p sel gsel) (selArr sel a d) d = .ok (selArr gsel r d)) := by
  refine ⟨valuesOf_restrictPop hcl a d ha none, valueNth_restrictPop hcl hg a d ha hne k, ?_⟩
  obtain ⟨r, h1, _, h2⟩ := valueNth_restrictPop hcl hg a d ha hne 0
  exact ⟨r, h1, h2⟩

/-- eight persons, households 0, 2 (situation A) and 1 (situation B) interleaved, a household
    without member last: the second member of every household, merged and for each part alone -/
def c11P : Grp.Pop := ⟨4, [⟨0, 3⟩, ⟨1, 3⟩, ⟨2, 2⟩, ⟨0, 2⟩, ⟨1, 2⟩, ⟨2, 3⟩, ⟨0, 2⟩, ⟨1, 0⟩]⟩

example : ClosedPop c11P [0, 2, 3, 5, 6] [0, 2, 3] ∧ ClosedPop c11P [1, 4, 7] [1] ∧
    Grp.valueNth c11P 1 [1, 2, 3, 4, 5, 6, 7, 8] (-7 : Int) = .ok [4, 5, 6, -7] ∧
    Grp.valueNth (restrictPop c11P [0, 2, 3, 5, 6] [0, 2, 3]) 1 (selArr [0, 2, 3, 5, 6] [1, 2, 3, 4, 5, 6, 7, 8] (-7 : Int)) (-7)
      = .ok [4, 6, -7] ∧
    Grp.valueNth (restrictPop c11P [1, 4, 7] [1]) 1 (selArr [1, 4, 7] [1, 2, 3, 4, 5, 6, 7, 8] (-7 : Int)) (-7) = .ok [5] := by
  decide +kernel

/-- Merge.  For every closed selection — in particular every order-preserving one, i.e. any
    situation of a population made of any number of unrelated situations interleaved in any
    order — the part simulated alone means, for every variable, period and fuel, exactly what the
    merged simulation means for it, read at the part's persons / groups: the same value for every
    entity, the same error, the same non-termination. -/
theorem C11_den_merge (d : Decl) (armed sel gsel : List Nat) (hwf : WF d) (hcl : Closed d sel gsel)
    (n v : Nat) (p : Period) :
    den (elabSys (restrict d sel gsel) armed) n v p
      = (den (elabSys d armed) n v p).map (mapRes (selVar d sel gsel v)) :=
  den_restrict hwf hcl n v p

/-- Two situations together: when one closed part is taken out of a population, what is left (in
    population order) is a closed, order-preserving part too, and each of the two parts simulated
    alone gives what the merged simulation gives for its own entities. -/
theorem C11_den_merge_two (d : Decl) (armed sel gsel : List Nat) (hwf : WF d) (hcl : Closed d sel gsel)
    (n v : Nat) (p : Period) :
    Closed d (complement d.nP sel) (complement d.nG gsel) ∧
    Increasing (complement d.nP sel) ∧ Increasing (complement d.nG gsel) ∧
    den (elabSys (restrict d sel gsel) armed) n v p
      = (den (elabSys d armed) n v p).map (mapRes (selVar d sel gsel v)) ∧
    den (elabSys (restrict d (complement d.nP sel) (complement d.nG gsel)) armed) n v p
      = (den (elabSys d armed) n v p).map (mapRes (selVar d (complement d.nP sel) (complement d.nG gsel) v)) :=
  ⟨complement_closed hwf hcl, complement_increasing _ _, complement_increasing _ _,
   den_restrict hwf hcl n v p, den_restrict hwf (complement_closed hwf hcl) n v p⟩

/-- Entity by entity: the value the merged simulation holds for the entity stored at index `i`
    is the value the part simulated alone holds for it, at the position the entity has in the part
    (`x` is the merged result vector, `reindex l x` the part's, by the theorems above). -/
theorem C11_entity_value (l : List Nat) (x : Val) (i : Nat) (hi : i ∈ l) :
    (reindex l x).getD (posIn l i) 0 = x.getD i 0 :=
  reindex_getD_posIn l x i hi

example : (reindex [1, 3, 4] [50, 90, 70, 80, 120]).getD (posIn [1, 3, 4] 3) 0 = 80 := by decide +kernel

/-- the merged example: `v2` for everybody, for situation A alone and for situation B alone -/
example : den (elabSys c11D []) 4 2 c11Jan = some (.ok [50, 90, 70, 80, 120]) ∧
    den (elabSys (restrict c11D [1, 3, 4] [0, 2]) []) 4 2 c11Jan = some (.ok [90, 80, 120]) ∧
    den (elabSys (restrict c11D [0, 2] [1]) []) 4 2 c11Jan = some (.ok [50, 70]) ∧
    den (elabSys (restrict c11D [1, 3, 4] [0, 2]) []) 4 1 c11Jan = some (.ok [70, 40]) ∧
    den (elabSys c11D []) 4 3 c11Jan = some (.ok [50, 10, 40]) ∧
    den (elabSys (restrict c11D [0, 2] [1]) []) 4 3 c11Jan = some (.ok [10]) := by
  simp only [den_eq_denS]
  decide +kernel

/-- The part simulated alone is itself a well-formed declaration (so the theorems apply again to
    its own parts). -/
theorem C11_restrict_wf (d : Decl) (sel gsel : List Nat) (hwf : WF d) (hcl : Closed d sel gsel) :
    WF (restrict d sel gsel) ∧ (restrict d sel gsel).nP = sel.length ∧ (restrict d sel gsel).nG = gsel.length ∧
    (restrict d sel gsel).vars = d.vars :=
  ⟨wf_restrict hwf hcl, rfl, rfl, rfl⟩

/-- Permutation.  Listing the persons and the groups of a population in another order permutes
    every result accordingly (`reindex`) and changes no value: each result vector of the reordered
    simulation is a permutation of the original result vector; errors are the same. -/
theorem C11_den_permute (d : Decl) (armed sel gsel : List Nat) (hwf : WF d) (hp : IsPerm d sel gsel)
    (n v : Nat) (p : Period) :
    den (elabSys (permute d sel gsel) armed) n v p
      = (den (elabSys d armed) n v p).map (mapRes (selVar d sel gsel v)) ∧
    ∀ x, den (elabSys d armed) n v p = some (.ok x) → (selVar d sel gsel v x).Perm x :=
  ⟨den_restrict hwf (closed_of_isPerm hwf hp) n v p, fun _ hx => selVar_perm hp (den_size hwf hx)⟩

example : den (elabSys (permute c11D [4, 2, 0, 3, 1] [2, 0, 1]) []) 4 2 c11Jan = some (.ok [120, 70, 50, 80, 90]) ∧
    reindex [4, 2, 0, 3, 1] [50, 90, 70, 80, 120] = [120, 70, 50, 80, 90] := by
  simp only [den_eq_denS]
  decide +kernel

/-- the rule system of the part is ranked by the same ranks as the merged one -/
theorem C11_ranked_restrict (d : Decl) (armed sel gsel : List Nat) (hwf : WF d) (hcl : Closed d sel gsel)
    (rk : Nat → Nat) (hr : VarRanked (elabSys d armed) rk) : VarRanked (elabSys (restrict d sel gsel) armed) rk :=
  (sim_restrict (armed := armed) hwf hcl).varRanked rk hr

/-- Merge, for what `Simulation.calculate` returns.  In a variable-ranked rule system (any
    `max_spiral_loops ≥ 1`), from ANY consistent state of the merged simulation and ANY consistent
    state of the part's own simulation (whatever was requested before on either), a request on the
    part alone returns the merged simulation's answer read at the part's entities; both
    simulations stay consistent with empty stacks. -/
theorem C11_machine_merge (d : Decl) (armed sel gsel : List Nat) (hwf : WF d) (hcl : Closed d sel gsel)
    (hk : SlotCoherent (elabSys d armed)) (rk : Nat → Nat) (hr : VarRanked (elabSys d armed) rk) (hmsl : 1 ≤ d.msl)
    (n : Nat) (s s' : St Period)
    (hc : Cons (elabSys d armed) s.cache) (hs : s.stack = []) (hi : s.inval = [])
    (hc' : Cons (elabSys (restrict d sel gsel) armed) s'.cache) (hs' : s'.stack = []) (hi' : s'.inval = [])
    (v : Nat) (p : Period) (r : Res) (hd : den (elabSys d armed) n v p = some r) :
    ∃ s1 s1', request (elabSys d armed) n s (v, p) = some (r, false, s1) ∧
      request (elabSys (restrict d sel gsel) armed) n s' (v, p) = some (mapRes (selVar d sel gsel v) r, false, s1') ∧
      Cons (elabSys d armed) s1.cache ∧ s1.stack = [] ∧ s1.inval = [] ∧
      Cons (elabSys (restrict d sel gsel) armed) s1'.cache ∧ s1'.stack = [] ∧ s1'.inval = [] := by
  obtain ⟨s1, h1, k1, k2, k3⟩ := C01_calculate_eq_den (elabSys d armed) hk rk hr hmsl n s hc hs hi v p r hd
  have hd' : den (elabSys (restrict d sel gsel) armed) n v p = some (mapRes (selVar d sel gsel v) r) := by
    rw [den_restrict hwf hcl, hd]; rfl
  obtain ⟨s1', h1', k1', k2', k3'⟩ := C01_calculate_eq_den (elabSys (restrict d sel gsel) armed)
    (slotCoherent_restrict hwf hcl hk) rk
    (C11_ranked_restrict d armed sel gsel hwf hcl rk hr) hmsl n s' hc' hs' hi' v p _ hd'
  exact ⟨s1, s1', h1, h1', k1, k2, k3, k1', k2', k3'⟩

/-- Permutation, for what `Simulation.calculate` returns: the reordered simulation answers the
    original answer reordered, value for value. -/
theorem C11_machine_permute (d : Decl) (armed sel gsel : List Nat) (hwf : WF d) (hp : IsPerm d sel gsel)
    (hk : SlotCoherent (elabSys d armed)) (rk : Nat → Nat) (hr : VarRanked (elabSys d armed) rk) (hmsl : 1 ≤ d.msl)
    (n : Nat) (s s' : St Period)
    (hc : Cons (elabSys d armed) s.cache) (hs : s.stack = []) (hi : s.inval = [])
    (hc' : Cons (elabSys (permute d sel gsel) armed) s'.cache) (hs' : s'.stack = []) (hi' : s'.inval = [])
    (v : Nat) (p : Period) (r : Res) (hd : den (elabSys d armed) n v p = some r) :
    ∃ s1 s1', request (elabSys d armed) n s (v, p) = some (r, false, s1) ∧
      request (elabSys (permute d sel gsel) armed) n s' (v, p) = some (mapRes (selVar d sel gsel v) r, false, s1') ∧
      (∀ x, r = .ok x → (selVar d sel gsel v x).Perm x) ∧
      Cons (elabSys d armed) s1.cache ∧ s1.stack = [] ∧ s1.inval = [] ∧
      Cons (elabSys (permute d sel gsel) armed) s1'.cache ∧ s1'.stack = [] ∧ s1'.inval = [] := by
  have hcl := closed_of_isPerm hwf hp
  obtain ⟨s1, s1', h1, h1', k⟩ := C11_machine_merge d armed sel gsel hwf hcl hk rk hr hmsl n s s' hc hs hi hc' hs' hi' v p r hd
  refine ⟨s1, s1', h1, h1', ?_, k⟩
  intro x hx
  exact (C11_den_permute d armed sel gsel hwf hp n v p).2 x (hx ▸ hd)

/-- the example system is variable-ranked (rank = variable number), so the machine theorems apply
    to it; the initial state is consistent -/
example : VarRanked (elabSys c11D []) (fun v => v) ∧ 1 ≤ c11D.msl ∧
    Cons (elabSys c11D []) (St.init : St Period).cache :=
  ⟨elabSys_varRanked _ _ _ (by decide) (declRanked_of_test _ _ (by decide)), by decide, (C01_init_consistent _).1⟩

/-- the example system has no eternal variable: it is slot-coherent -/
example : SlotCoherent (elabSys c11D []) := by
  apply C01_elab_slotCoherent
  intro v vv hv hu
  exact absurd hu ((by decide : ∀ vv ∈ c11D.vars, vv.unit ≠ DUnit.eternity) vv
    (List.mem_of_getElem? hv))

/-- `calculate_add`: a sum of per-sub-period results of the part is the merged sum read at the
    part's indices -/
theorem C11_add_equivariant (d : Decl) (sel gsel : List Nat) (hcl : Closed d sel gsel) (ent : Nat)
    (x y : Val) (hx : x.length = d.size ent) (hy : y.length = d.size ent) :
    vecAdd (reindex (idxFor sel gsel ent) x) (reindex (idxFor sel gsel ent) y)
      = reindex (idxFor sel gsel ent) (vecAdd x y) :=
  zipWith_reindex _ (idxFor_lt hcl ent) hx hy

example : vecAdd (reindex [1, 3, 4] [1, 2, 3, 4, 5]) (reindex [1, 3, 4] [10, 20, 30, 40, 50]) = [22, 44, 55] := by decide +kernel

end OFCore
