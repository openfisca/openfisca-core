import OFCore.Lemmas.HeapFamily
import OFCore.Lemmas.HeapRead
/-!
# C13 — a cloned simulation and its original never affect each other

Model: `OFCore/Heap.lean` (objects with identity; `cloneSim` = `Simulation.clone` of the repaired code
as an allocation pattern; the public calls read and write through ids).  `h` is the heap before
`clone()`, `s` the original, `h'` the heap after, `c` the clone; `c.reg = h.length` says that the
clone lives in a region that did not exist before (all its objects are new).

A history close to the example (`exH`, `exS`, `exOps` in `Lemmas/HeapRun.lean`) is replayed against the code: the case
tagged `example` in `corpus()` of `harness/ofverif/props/c13.py`.
-/
namespace OFCore
open Heap HM

/-- Every part of the clone refers to the clone: its populations are bound to it, every *group*
population's `members` is the clone's person population, every holder is bound to the clone's
population and to the clone, and all of these — with the tracer, the set of invalidated cache entries
and the in-memory stores — are new objects (region `c.reg = h.length` did not exist in `h`). -/
theorem C13_clone_owns_itself (h : Heap) (s : Id) (tr dbg : Bool) (h' : Heap) (c : Id)
    (hcl : Closed s.reg h) (hc : cloneSim s tr dbg h = (.ok c, h')) :
    ∃ so, h'.get? c = some (.sim so) ∧ so.trace = tr ∧ so.debug = dbg ∧ c.reg = h.length
      ∧ so.tracer.reg = c.reg ∧ so.inval.reg = c.reg ∧ alGet so.pops 0 = some so.persons
      ∧ ∀ e ∈ so.pops, ∃ po, h'.get? e.2 = some (.pop po) ∧ e.2.reg = c.reg ∧ po.sim = c
          ∧ (e.1 ≠ 0 → ∀ m, po.members = some m → m = so.persons)
          ∧ ∀ e' ∈ po.holders, ∃ ho, h'.get? e'.2 = some (.holder ho) ∧ e'.2.reg = c.reg
              ∧ ho.pop = e.2 ∧ ho.sim = c ∧ ho.mem.reg = c.reg := by
  have sc := cloneSim_spec hcl hc
  obtain ⟨so, persons', groups', trc, inv, a1, a2, a3, a4, a5, a6, a7, a8, _⟩ := sc.ex
  refine ⟨_, a2, rfl, rfl, sc.reg, a3, a4, alGet_cons_self .., ?_⟩
  intro e he
  rcases List.mem_cons.mp he with rfl | hg
  · obtain ⟨po, b1, b2, b3, _, b5⟩ := a7.owned
    exact ⟨po, b1, b2, b3, fun hne => absurd rfl hne, b5⟩
  · obtain ⟨a, ha, hab⟩ := a8.exists_left e hg
    obtain ⟨po, b1, b2, b3, b4, b5⟩ := hab.owned
    exact ⟨po, b1, b2, b3, fun _ => b4, b5⟩

/-- Whatever the route — `get_population(plural)`, `populations[key]`, the `simulation.<key>` shortcut,
`simulation.persons` — asked of the clone, the population that comes back is a new object bound to the clone
(the routes are look-ups in the simulation object itself; nothing else remembers an answer). -/
theorem C13_clone_routes_return_own_populations (h : Heap) (s : Id) (tr dbg : Bool) (h' : Heap) (c : Id)
    (hcl : Closed s.reg h) (hc : cloneSim s tr dbg h = (.ok c, h')) (rt : Route) (ent : Nat) (pid : Id)
    (hr : (routePop c rt ent h').1 = .ok pid) :
    ∃ po, h'.get? pid = some (.pop po) ∧ po.sim = c ∧ pid.reg = c.reg ∧ c.reg = h.length
      ∧ (routeOwn c rt ent h').1 = .ok true := by
  obtain ⟨so, hso, _, _, hreg, _, _, hlist, hall⟩ := C13_clone_owns_itself h s tr dbg h' c hcl hc
  rw [routePop_eq hso] at hr
  obtain ⟨k, hk⟩ := routeAnswer_mem hr hlist
  obtain ⟨po, hpo, hpr, hps, _⟩ := hall (k, pid) hk
  exact ⟨po, hpo, hps, hpr, hreg, by rw [routeOwn_eq hso hr hpo, hps, decide_eq_true rfl]⟩

example : ∃ c h', cloneSim exS false false exH = (.ok c, h') ∧ Closed exS.reg exH ∧ h' = exH' ∧ c = exC :=
  ⟨exC, exH', by decide +kernel⟩

/-- Immediately after cloning: the original is untouched (every region that existed is as it was), and
the clone holds the same values (`get_array` of every variable and period), the same known periods and
the same entity structure (counts, ids, memberships, the role and the position of every member, which
variables have a holder) and the same configuration (`opt_out_cache`,
`max_spiral_loops`, `memory_config`); every role-dependent read — `nb_persons(role)` of a group population, `persons.has_role(role)`,
which goes back through the person population's own simulation — gives on the clone what it gives on the
original. -/
theorem C13_clone_equal_initially (sys : Sys) (h : Heap) (s : Id) (tr dbg : Bool) (h' : Heap) (c : Id)
    (hwf : WellFormed h s) (hc : cloneSim s tr dbg h = (.ok c, h')) :
    (∀ r, r < h.length → h'[r]? = h[r]?)
    ∧ (∀ v p, (readValue sys c v p h').1 = (readValue sys s v p h).1)
    ∧ (∀ v, (readKnown sys c v h').1 = (readKnown sys s v h).1)
    ∧ (∀ ent, (readStructure c ent h').1 = (readStructure s ent h).1)
    ∧ (∀ ent role, (roleCount c ent role h').1 = (roleCount s ent role h).1)
    ∧ (∀ ent role, (personsHaveRole c ent role h').1 = (personsHaveRole s ent role h).1)
    ∧ (readConfig c h').1 = (readConfig s h).1 := by
  have sc := cloneSim_spec hwf.closed hc
  refine ⟨fun r hr => (sc.older hr).symm, fun v p => ?_, fun v => ?_, fun ent => ?_, fun ent role => ?_,
    fun ent role => ?_, ?_⟩
  · exact sc.holder_reads_agree hwf sys v (fun ho => holderFind ho p) none fun _ _ m => m.1 p
  · exact sc.holder_reads_agree hwf sys v knownPeriods [] fun _ _ m => m.2
  · unfold readStructure
    refine sc.reads_agree hwf 0 ent _ fun po po' ag => ?_
    simp only [pure_apply, PopObj.roles, PopObj.positions, ag.count, ag.ids, ag.membersEntityId, ag.vars,
      ag.membersRole, ag.membersPosition]
  · unfold roleCount
    refine sc.reads_agree hwf 0 ent _ fun po po' ag => ?_
    simp only [pure_apply, PopObj.roles, ag.count, ag.membersEntityId, ag.membersRole]
  · unfold personsHaveRole
    -- the persons of the clone go back to the clone, the persons of the original to the original
    refine sc.persons_reads_agree hwf 0 _ fun po po' ag hb => ?_
    rw [ag.sim, hb]
    refine sc.reads_agree hwf 0 ent _ fun go go' gg => ?_
    simp only [pure_apply, PopObj.roles, gg.membersEntityId, gg.membersRole]
  · obtain ⟨so2, persons', groups', trc, inv, a1, a2, _⟩ := sc.ex
    unfold readConfig
    rw [rdSim_bind_eq a2, rdSim_bind_eq a1]
    rfl

example : WellFormed exH exS := WellFormed.ofB (by decide +kernel)
example : (readValue exSys exC 1 exM1 exH').1 = .ok (some [5, 7, 9]) := by decide +kernel
-- person 1 holds the second top-level role, person 2 the third one: the clone sees them where they are
example : (roleCount exC 1 [2] exH').1 = .ok [1, 0] ∧ (roleCount exC 1 [3] exH').1 = .ok [0, 1]
    ∧ (personsHaveRole exC 1 [2] exH').1 = .ok [false, true, false] := by decide +kernel

/-- an Enum input present when the clone is taken (member indices 2 and 5), compared with the member 2 by a formula
calculated in the CLONE: the clone reads its copy of the store, and what it reads still compares as an `EnumArray` -/
example :
    let sys : Sys := [{ entity := 0, defPeriod := .month, dflt := 0, formula := none, isEnum := true },
                      vd 0 .month 0 (some (0, [⟨1, 0, .enumIs 2, .same⟩]))]
    let h0 := runSide sys 40 exS [.setInput 0 exM1 [2, 5]] (build { persons := 2, groups := [], memConfig := none } []).2
    let h1 := (cloneSim exS false false h0).2
    (step sys 40 exC (.calculate 1 exM1) h1).1 = .ok (.vec [1, 0])
    ∧ (readValue sys exC 0 exM1 h1).1 = .ok (some [2, 5]) := by decide +kernel

/-- an input given for a quarter to a monthly variable with `set_input_dispatch_by_period`: the original knows
February when it is cloned; the CLONE deletes its February and is given the quarter — its three months take the
value — while the original, given the same quarter, only fills January and March -/
example :
    let sys : Sys := [{ entity := 0, defPeriod := .month, dflt := 0, formula := none, dispatch := true }]
    let q1 : Period := ⟨.month, ⟨2018, 1, 1⟩, 3⟩
    let h0 := runSide sys 40 exS [.setInput 0 exM2 [5]] (build { persons := 1, groups := [], memConfig := none } []).2
    let h1 := (cloneSim exS false false h0).2
    let h2 := runOps sys 40 exS exC [(.clone, .deleteArrays 0 (some exM2)), (.clone, .setInput 0 q1 [9]),
                                    (.orig, .setInput 0 q1 [7])] h1
    (readValue sys exC 0 exM2 h2).1 = .ok (some [9]) ∧ (readValue sys exS 0 exM2 h2).1 = .ok (some [5])
    ∧ (readValue sys exS 0 exM1 h2).1 = .ok (some [7]) ∧ (readKnown sys exC 0 h2).1.toOption.map List.length = some 3 := by
  decide +kernel

/-- **Restricted to memory-backed simulations**: proved about `cloneSim`, the repaired `Holder.clone` /
`Simulation.clone` without the on-disk branch, which is the whole code path when no holder has a disk storage
(for the disk-backed case see `C13_disk_clone_separate`; `cloneSim` applied to a disk-backed heap would share
the storage objects: `C13_disk_shared_counterexample`, finding F-C13-disk).
Whatever is reachable from the clone, through any number of references, is an object of the clone's
region, whatever is reachable from the original is an object of the original's region: no object —
store, holder, population, tracer, set of invalidated entries — is reachable from both. -/
theorem C13_footprints_disjoint_partial (h : Heap) (s : Id) (tr dbg : Bool) (h' : Heap) (c : Id)
    (hwf : WellFormed h s) (hmem : MemoryBacked h s) (hc : cloneSim s tr dbg h = (.ok c, h')) (n m : Nat) :
    ∀ p ∈ reach h' n [c], ∀ q ∈ reach h' m [s], p ≠ q := by
  obtain ⟨hne, cs, cc⟩ := clone_regions hwf hmem hc
  intro p hp q hq hpq
  subst hpq
  exact hne ((reach_own cs m p hq).symm.trans (reach_own cc n p hp))

example : MemoryBacked exH exS := MemoryBacked.ofB (by decide +kernel)
example : (reach exH' 3 [exC]).eraseDups.length = 9 ∧ (reach exH' 3 [exS]).eraseDups.length = 9 := by decide +kernel

/-- **Any operations, not only the listed calls** (same restriction to memory-backed simulations).  The
non-interference of the listed calls (below) uses one fact about a call: it is *local* to the region of the simulation
it is made on (`Loc`: from a heap whose region is closed it keeps the region closed, leaves every other region as it was,
opens no region, and its answer and its effect depend on that region alone — the frame rule).  So it holds for
EVERY interleaving of ARBITRARY local computations on the two sides, of any result type: compositions of calls
(`Loc.bind`), conditionals, loops over lists (`LocI.ite`, `LocI.mapMH`, with `LocI.toLoc`), `try/finally`, calls
that raise half-way, and any other public method whose transcription only navigates references of its own simulation.  What each side
observes at the end, and what each of its computations answered, are what they are when the side runs alone.
`C13_noninterference_partial` is the instance `m = step sys fuel x op` (`step_loc`). -/
theorem C13_any_local_operations_noninterfere {α : Type} (h : Heap) (s : Id) (tr dbg : Bool) (h' : Heap) (c : Id)
    (hwf : WellFormed h s) (hmem : MemoryBacked h s) (hc : cloneSim s tr dbg h = (.ok c, h'))
    (ops : List (Side × HM α)) (hloc : ∀ e ∈ ops, Loc (sideId s c e.1).reg e.2 (fun _ => True)) :
    ((observe s (runAny ops h')).1 = (observe s (runAnySide (ops.filterMap (onSideAny .orig)) h')).1
      ∧ resultsAny .orig ops h' = resultsAnySide (ops.filterMap (onSideAny .orig)) h')
    ∧ ((observe c (runAny ops h')).1 = (observe c (runAnySide (ops.filterMap (onSideAny .clone)) h')).1
      ∧ resultsAny .clone ops h' = resultsAnySide (ops.filterMap (onSideAny .clone)) h')
    ∧ Closed s.reg (runAny ops h') ∧ Closed c.reg (runAny ops h') := by
  obtain ⟨hne, cs, cc⟩ := clone_regions hwf hmem hc
  exact ⟨(run_any_agree hne ops hloc cs cc .orig).1, (run_any_agree hne ops hloc cs cc .clone).1,
    (run_any_agree hne ops hloc cs cc .orig).2⟩

/-- **Restricted to memory-backed simulations** (same restriction and same reason as above;
`C13_noninterference` of DESIGN Appendix D has no hypothesis like `hmem`, and is false of `cloneSim`).
For EVERY interleaved sequence of calls (any `Op`: `set_input`, `delete_arrays`, `calculate`, `calculate_add`,
`trace = …`, `get_holder`, reads through a route, `invalidate_cache_entry`, …) on the original and on the clone: what is observable from either simulation
at the end — every known (variable, period) with its vector, the entity structure, the trace flag and
recorded roots, what each part refers to — and what each of its calls returned, are exactly what they
are when the same simulation's own calls are run alone. -/
theorem C13_noninterference_partial (sys : Sys) (fuel : Nat) (h : Heap) (s : Id) (tr dbg : Bool) (h' : Heap) (c : Id)
    (hwf : WellFormed h s) (hmem : MemoryBacked h s) (hc : cloneSim s tr dbg h = (.ok c, h'))
    (ops : List (Side × Op)) :
    ((observe s (runOps sys fuel s c ops h')).1 = (observe s (runSide sys fuel s (ops.filterMap (onSide .orig)) h')).1
      ∧ resultsOps sys fuel s c .orig ops h' = resultsSide sys fuel s (ops.filterMap (onSide .orig)) h')
    ∧ ((observe c (runOps sys fuel s c ops h')).1 = (observe c (runSide sys fuel c (ops.filterMap (onSide .clone)) h')).1
      ∧ resultsOps sys fuel s c .clone ops h' = resultsSide sys fuel c (ops.filterMap (onSide .clone)) h') := by
  have a := C13_any_local_operations_noninterfere h s tr dbg h' c hwf hmem hc _ (ops_local sys fuel s c ops)
  rw [← filterMap_onSide, ← filterMap_onSide] at a
  simp only [runOps_eq, resultsOps_eq, runSide_eq, resultsSide_eq]
  exact ⟨a.1, a.2.1⟩

/-- computations that are no single call of `Op`: "set an input, then invalidate its cache entry, then read it
back through the `persons` route" on the clone, "delete and recalculate" on the original — local, because they
are composed of local calls -/
example : ∀ e ∈ ([(Side.clone, (do
      let _ ← step exSys 40 exC (.setInput 0 exM2 [9, 9, 9])
      let _ ← step exSys 40 exC (.invalidate 0 exM2)
      step exSys 40 exC (.readVia .persons 0 0 exM2))),
    (Side.orig, (do
      let _ ← step exSys 40 exS (.deleteArrays 1 none)
      step exSys 40 exS (.calculate 1 exM1)))] : List (Side × HM Out)),
    Loc (sideId exS exC e.1).reg e.2 (fun _ => True) := by
  intro e he
  simp only [List.mem_cons, List.not_mem_nil, or_false] at he
  rcases he with rfl | rfl
  · exact Loc.bind (step_loc exSys 40 (x := exC) rfl _) fun _ _ =>
      Loc.bind (step_loc exSys 40 (x := exC) rfl _) fun _ _ => step_loc exSys 40 (x := exC) rfl _
  · exact Loc.bind (step_loc exSys 40 (x := exS) rfl _) fun _ _ => step_loc exSys 40 (x := exS) rfl _

-- `C13_footprints_disjoint_partial` and `C13_noninterference_partial` without `hmem : MemoryBacked h s` (DESIGN section 7
-- names them `C13_footprints_disjoint`, `C13_noninterference`) are false of `cloneSim`, the code path without the disk
-- branch, on a simulation with a memory configuration: `C13_disk_shared_counterexample` below refutes both.

-- role-dependent formulas calculated after the clone, on both sides (person 1 holds `r1`, person 2 `r2`): the clone
-- still sees the inputs 1, 2, 3, the original its new inputs 4, 4, 4
example : (resultsOps exSys 40 exS exC .clone exOps exH')[1]? = some (.ok (.vec [2, 10]))
    ∧ (resultsOps exSys 40 exS exC .orig exOps exH')[1]? = some (.ok (.vec [4, 10]))
    ∧ (resultsOps exSys 40 exS exC .orig exOps exH')[2]? = some (.ok (.vec [0, 1, 0])) := by decide +kernel

example : (observe exC (runOps exSys 40 exS exC exOps exH')).1
    ≠ (observe exS (runOps exSys 40 exS exC exOps exH')).1 := by decide +kernel

/-- **Disk-backed simulations, repaired code (`cloneSimR`, repair C13-disk).**  `Simulation.clone` gives the clone
no temporary directory (it makes its own on first use) and `Holder.clone` gives every cloned holder a new
`OnDiskStorage` in that directory with copies of the period files.  On the example (`exDiskH`: one person, one
input stored on disk): the clone lives in a closed region of its own — storage object, directory and files
included —, the original's region is closed too, nothing is reachable from both, the clone reads the value from
ITS copy of the file, and an input set on the clone for another month is not seen by the original.  Both regions
being closed and distinct, `C13_family_noninterference` / `C13_family_any_local_operations` apply to every
history that follows.  (That `cloneSimR` yields two closed regions for EVERY disk-backed simulation is carried by
the correspondence — the alias graph of the real objects at every `clone()` — not by a general theorem: the
general theorems above are about `cloneSim`, which `cloneSimR` equals on memory-backed simulations, an equality
the driver checks on every clone of every case.) -/
theorem C13_disk_clone_separate :
    WellFormed exDiskH exS
    ∧ (cloneSimR exS false false exDiskH).1 = .ok exC
    ∧ Closed exS.reg (cloneSimR exS false false exDiskH).2 ∧ Closed exC.reg (cloneSimR exS false false exDiskH).2
    ∧ (readValue exDiskSys exC 0 exM1 (cloneSimR exS false false exDiskH).2).1 = .ok (some [1])
    ∧ (readValue exDiskSys exS 0 exM2
        (runOps exDiskSys 40 exS exC [(.clone, .setInput 0 exM2 [2])] (cloneSimR exS false false exDiskH).2)).1 = .ok none
    ∧ (readValue exDiskSys exC 0 exM2
        (runOps exDiskSys 40 exS exC [(.clone, .setInput 0 exM2 [2])] (cloneSimR exS false false exDiskH).2)).1 = .ok (some [2])
    ∧ (∀ p ∈ reach (cloneSimR exS false false exDiskH).2 3 [exC],
        ∀ q ∈ reach (cloneSimR exS false false exDiskH).2 3 [exS], p ≠ q)
    -- on a memory-backed simulation the two definitions are the same function
    ∧ cloneSimR exS false false exH = cloneSim exS false false exH :=
  ⟨WellFormed.ofB (by decide +kernel), by decide +kernel⟩

/-- Why the repair was needed (finding F-C13-disk, fixed): `cloneSim` is `Holder.clone` WITHOUT the disk branch;
applied to a heap with a memory configuration (`exDiskH`: one person, one input stored
on disk) the cloned holder shares the original's `OnDiskStorage`; an input set on the *clone* for another
month is read from the *original*, which therefore differs from the original operated alone (no call at
all), and the storage object and the directory are reachable from both simulations. -/
theorem C13_disk_shared_counterexample :
    WellFormed exDiskH exS ∧ cloneSim exS false false exDiskH = (.ok exC, exDiskH')
    ∧ (readValue exDiskSys exS 0 exM2 (runOps exDiskSys 40 exS exC [(.clone, .setInput 0 exM2 [2])] exDiskH')).1
        = .ok (some [2])
    ∧ (readValue exDiskSys exS 0 exM2 (runSide exDiskSys 40 exS [] exDiskH')).1 = .ok none
    ∧ (observe exS (runOps exDiskSys 40 exS exC [(.clone, .setInput 0 exM2 [2])] exDiskH')).1
        ≠ (observe exS (runSide exDiskSys 40 exS
            ([(Side.clone, Op.setInput 0 exM2 [2])].filterMap (onSide .orig)) exDiskH')).1
    ∧ ∃ q, q ∈ reach exDiskH' 3 [exC] ∧ q ∈ reach exDiskH' 3 [exS] :=
  -- the shared object is the storage, `⟨0, 6⟩`
  ⟨WellFormed.ofB (by decide +kernel), by decide +kernel, by decide +kernel, by decide +kernel, by decide +kernel,
    ⟨0, 6⟩, by decide +kernel⟩

/-- Any number of simulations that only reach their own objects (a simulation, its clones, clones of clones…, in
pairwise distinct closed regions), and ARBITRARY computations, each local (`Loc`) to the region of the member it is
addressed to: whatever is done to the other members of the family — in any number, in any order, of any kind — a
member observes, and its own computations answer, what they do when it runs alone; every member's region stays closed.
No restriction here beyond closedness: what `cloneSim` makes of a disk-backed simulation is *not* closed (it refers to
the original's storage objects), which is where the `_partial` theorems above stop; what `cloneSimR` makes of
the example is closed (`C13_disk_clone_separate`). -/
theorem C13_family_any_local_operations (α : Type) (h : Heap) (sims : List Id)
    (hd : sims.Pairwise (fun a b => a.reg ≠ b.reg)) (hc : ∀ y ∈ sims, Closed y.reg h)
    (calls : List (Nat × HM α))
    (hloc : ∀ e ∈ calls, ∃ y, sims[e.1]? = some y ∧ Loc y.reg e.2 (fun _ => True))
    (j : Nat) (x : Id) (hj : sims[j]? = some x) :
    (observe x (runFamilyAny calls h)).1 = (observe x (runAnySide (calls.filterMap (ofRankAny j)) h)).1
    ∧ resultsFamilyAny j calls h = resultsAnySide (calls.filterMap (ofRankAny j)) h
    ∧ ∀ y ∈ sims, Closed y.reg (runFamilyAny calls h) := by
  have f := family_any_agree sims hd j x hj calls hloc h h hc rfl
  exact ⟨observe_region (f.2.2 x (List.mem_of_getElem? hj)) f.1, f.2⟩

/-- … in particular for EVERY sequence of calls on any of them (`step_loc`): what is observable from each one and
what its calls returned are what they are when that simulation's own calls are run alone. -/
theorem C13_family_noninterference (sys : Sys) (fuel : Nat) (h : Heap) (sims : List Id)
    (hd : sims.Pairwise (fun a b => a.reg ≠ b.reg)) (hc : ∀ y ∈ sims, Closed y.reg h)
    (calls : List (Nat × Op)) (j : Nat) (x : Id) (hj : sims[j]? = some x) :
    (observe x (runCalls sys fuel sims calls h)).1 = (observe x (runSide sys fuel x (calls.filterMap (callsOf j)) h)).1
    ∧ resultsCalls sys fuel sims j calls h = resultsSide sys fuel x (calls.filterMap (callsOf j)) h := by
  have a := C13_family_any_local_operations _ h sims hd hc _ (calls_local sys fuel sims calls) j x hj
  rw [runCalls_eq, resultsCalls_eq, runSide_eq, resultsSide_eq, filterMap_callsOf sys fuel hj]
  exact ⟨a.1, a.2.1⟩

/-- three simulations (an original, its clone, the clone's clone); a composed computation on the third one -/
example :
    let st := runEvs exSys 40 [.clone 0 false false, .clone 1 true false] (exH, [exS])
    st.2 = [⟨0, 0⟩, ⟨1, 0⟩, ⟨2, 0⟩] ∧
    ∀ e ∈ ([(2, (do let _ ← step exSys 40 ⟨2, 0⟩ (.invalidate 1 exM1); step exSys 40 ⟨2, 0⟩ (.calculate 1 exM1))),
            (0, step exSys 40 ⟨0, 0⟩ (.deleteArrays 1 none))] : List (Nat × HM Out)),
      ∃ y, st.2[e.1]? = some y ∧ Loc y.reg e.2 (fun _ => True) := by
  have hst : (runEvs exSys 40 [.clone 0 false false, .clone 1 true false] (exH, [exS])).2 = [⟨0, 0⟩, ⟨1, 0⟩, ⟨2, 0⟩] := by
    decide +kernel
  refine ⟨hst, ?_⟩
  intro e he
  simp only [List.mem_cons, List.not_mem_nil, or_false] at he
  rcases he with rfl | rfl
  · exact ⟨⟨2, 0⟩, by rw [hst]; rfl,
      Loc.bind (step_loc exSys 40 (x := ⟨2, 0⟩) rfl _) fun _ _ => step_loc exSys 40 (x := ⟨2, 0⟩) rfl _⟩
  · exact ⟨⟨0, 0⟩, by rw [hst]; rfl, step_loc exSys 40 (x := ⟨0, 0⟩) rfl (.deleteArrays 1 none)⟩

/-- Chains.  `Separate h sims`: the live simulations are in pairwise distinct regions, each closed and *tidy*
(no memory configuration, no temporary directory, `persons` listed, the person population without `members`
and bound to its simulation, no holder with an on-disk storage).  Whatever the history from there — calls on
any live simulation (including calls that raise, spirals, purges, holders made on first use), clones of the
original, of a clone, of a clone's clone, at any moment — the live simulations remain such a family, the
earlier ones keep their rank, and each of them is `WellFormed` and `MemoryBacked`: every theorem above applies
to the next `clone()` of any of them, and `C13_family_noninterference` to whatever calls follow. -/
theorem C13_histories_keep_simulations_separate (sys : Sys) (fuel : Nat) (h : Heap) (sims : List Id)
    (hs : Separate h sims) (evs : List Ev) :
    Separate (runEvs sys fuel evs (h, sims)).1 (runEvs sys fuel evs (h, sims)).2
    ∧ (∃ more, (runEvs sys fuel evs (h, sims)).2 = sims ++ more)
    ∧ ∀ x ∈ (runEvs sys fuel evs (h, sims)).2,
        WellFormed (runEvs sys fuel evs (h, sims)).1 x ∧ MemoryBacked (runEvs sys fuel evs (h, sims)).1 x := by
  obtain ⟨sp, pre⟩ := history_separate sys fuel evs h sims hs
  exact ⟨sp, pre, fun x hx => Tidy.wellFormed (sp.ok x hx).2.1 (sp.ok x hx).2.2⟩

/-- the example's original is such a family on its own -/
example : Separate exH [exS] := Separate.single (by decide +kernel) (by decide +kernel) (by decide +kernel)

-- a clone, a clone of the clone, calls on all three (one raises), a clone of the clone's clone after them:
-- four simulations, the last one holding what its parent computed (a role-filtered sum) and nothing of the others
example :
    let st := runEvs exSys 40 [.clone 0 false false, .clone 1 true false, .call 2 (.setInput 0 exM1 [7, 7, 7]),
      .call 0 (.calculate 9 exM1), .call 2 (.calculate 4 exM1), .call 1 (.deleteArrays 0 none), .clone 2 false true]
      (exH, [exS])
    st.2.length = 4 ∧ (st.2.map (fun x => x.reg)) = [0, 1, 2, 3]
    ∧ (readValue exSys ⟨3, 0⟩ 4 exM1 st.1).1 = .ok (some [7, 10])
    ∧ (readValue exSys ⟨1, 0⟩ 0 exM1 st.1).1 = .ok none
    ∧ (readValue exSys ⟨0, 0⟩ 0 exM1 st.1).1 = .ok (some [1, 2, 3]) := by decide +kernel

end OFCore
