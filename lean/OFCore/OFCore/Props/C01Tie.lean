import OFCore.RuleSys
import OFCore.GeneratedGuards
import OFCore.GeneratedEngine
import OFCore.Lemmas.TieGuards
import OFCore.Props.C01
/-!
# C01 — the engine model decides as the code's source says (translator tie)

`RuleSys.servedPeriod` and the ADD branch of `RuleSys.elabRead` are the engine model's transcription of
`Simulation._check_period_consistency` and of the guards of `Simulation.calculate_add`; then
`RuleSys.formulaInForce` against the translation of `Variable.get_formula`.  The generated files are
regenerated from the source on every run (`translate.py`): the theorems are re-checked against the code as it is.
-/
namespace OFCore.RuleSys
open OFCore OFCore.Generated

/-- a plain read of a variable of definition unit `u` at period `q` is served — under `q` itself —
    exactly when none of the guards of `_check_period_consistency` raises -/
theorem C01_tie_served_period (u : DUnit) (q : Period) :
    servedPeriod u q = if Guards.checkPeriodConsistency_raises u q.unit q.size then
        (if q.unit ≠ u then .error "unit" else .error "size") else .ok q := by
  rw [checkPeriodConsistency_raises_eq]
  unfold servedPeriod Tie.consistencyGuards
  by_cases hu : u = .eternity
  · simp [hu]
  · by_cases hq : q.unit = u <;> by_cases hs : q.size = 1 <;> simp [hu, hq, hs]

/-- the three guards of `calculate_add`, which the engine model tests one after the other (`elabRead`) before it splits
the period, as one disjunction -/
def addRefused (du pu : DUnit) : Bool :=
  decide (unitWeight du > unitWeight pu) || decide (du = .eternity) || decide (pu = .eternity)

/-- dated (`unit in DateUnit.isoformat + DateUnit.isocalendar`) = not ETERNITY -/
theorem dated_iff_ne_eternity (u : DUnit) : Tie.dated u = !decide (u = .eternity) := by
  cases u <;> decide

/-- … are the code's guards: heavier definition period, or a side that is not dated -/
theorem C01_tie_add_guards (du pu : DUnit) (sz : Int) :
    addRefused du pu = Guards.calculateAdd_raises du pu sz := by
  rw [calculateAdd_raises_eq]
  simp [addRefused, Tie.addGuards, dated_iff_ne_eternity]

/-- an ADD read that the code's guards refuse elaborates to the failing expression -/
theorem C01_tie_add_read_refused (d : Decl) (w : Nat) (wv : Var) (q : Period)
    (hw : d.vars[w]? = some wv) (h : Guards.calculateAdd_raises wv.unit q.unit q.size = true) :
    elabRead d w (.ok q) true = .bad := by
  rw [← C01_tie_add_guards] at h
  unfold elabRead
  rw [hw]
  simp only [addRefused, Bool.or_eq_true, decide_eq_true_eq] at h
  rcases h with (h | h) | h
  · simp [h]
  · simp [h]
  · simp [h]

/-!
`Variable.formulas` is a `SortedDict` keyed by start date: iterating it yields the keys in strictly ascending
order, each once.  `Engine.variable_get_formula` is the translation of the current source of `get_formula`
over that ascending content; `RuleSys.formulaInForce` is the model's fold over the declarations in any order. -/

/-- **tie**: for every variable whose formulas are listed as the `SortedDict` holds them (strictly ascending
    start dates), every `end` date and every instant, the model's formula in force is what the current source
    of `Variable.get_formula` returns -/
theorem C01_tie_get_formula (v : Var) (o : Int) (hs : v.formulas.Pairwise (fun a b => a.1 < b.1)) :
    formulaInForce v o = Engine.variable_get_formula v.formulas v.endOrd o := by
  have hk : pickFormula v o = (v.formulas.reverse.find? (fun f => decide (f.1 ≤ o))).map (·.2) := by
    unfold pickFormula
    have := pick_eq_scan o v.formulas.reverse (by simpa using hs)
    rw [List.reverse_reverse] at this
    rw [this]
  unfold formulaInForce Engine.variable_get_formula
  by_cases he : v.formulas.isEmpty
  · have : v.formulas = [] := by simpa using he
    simp [this, pickFormula]
    cases v.endOrd <;> rfl
  · rw [hk]
    simp only [he, Bool.false_eq_true, if_false]
    cases v.endOrd with
    | none => simp; cases v.formulas.reverse.find? (fun f => decide (f.1 ≤ o)) <;> rfl
    | some e =>
      by_cases h : o > e
      · simp [h]
      · simp [h]; cases v.formulas.reverse.find? (fun f => decide (f.1 ≤ o)) <;> rfl

/-- **tie, any declaration order**: a variable declares its dated formulas in any order, with distinct start
    dates; the `SortedDict` holds them in ascending order (`sorted`); the model's formula in force — a fold over the
    declarations as written — is what the current source of `Variable.get_formula` returns from the dictionary -/
theorem C01_tie_get_formula_any_order (v : Var) (sorted : List (Int × DExpr)) (o : Int)
    (hperm : v.formulas.Perm sorted) (hs : sorted.Pairwise (fun a b => a.1 < b.1)) :
    formulaInForce v o = Engine.variable_get_formula sorted v.endOrd o := by
  have hn : (v.formulas.map (·.1)).Nodup := by
    have h2 : (sorted.map (·.1)).Nodup := by
      rw [List.Nodup, List.pairwise_map]
      exact hs.imp (fun h => by omega)
    exact (hperm.map (·.1)).nodup_iff.mpr h2
  have key : formulaInForce v o = formulaInForce { v with formulas := sorted } o := by
    unfold formulaInForce pickFormula
    simp only [pick_perm o v.formulas sorted hperm hn]
  rw [key]
  exact C01_tie_get_formula { v with formulas := sorted } o hs

/-- what the current source of `get_formula` returns, stated on the code's side: the formula with the greatest
    start date on or before the instant, nothing past the end date or before the first start -/
theorem C01_code_get_formula_spec (v : Var) (o : Int) (hs : v.formulas.Pairwise (fun a b => a.1 < b.1)) :
    (∀ e, Engine.variable_get_formula v.formulas v.endOrd o = some e →
        (∀ en, v.endOrd = some en → o ≤ en) ∧
        ∃ s, (s, e) ∈ v.formulas ∧ s ≤ o ∧ ∀ f ∈ v.formulas, f.1 ≤ o → f.1 ≤ s) ∧
    (Engine.variable_get_formula v.formulas v.endOrd o = none →
        (∃ en, v.endOrd = some en ∧ en < o) ∨ ∀ f ∈ v.formulas, ¬ f.1 ≤ o) := by
  rw [← C01_tie_get_formula v o hs]
  exact C01_formula_in_force v o

/-- the hypotheses of the any-order tie are met by a declaration written latest-first -/
example (a b : DExpr) : [((20 : Int), a), (10, b)].Perm [(10, b), (20, a)] ∧
    [((10 : Int), b), (20, a)].Pairwise (fun x y => x.1 < y.1) :=
  ⟨List.Perm.swap _ _ _, by simp⟩

/-- the hypothesis is met, and the scan answers, on a concrete variable with two formulas and an end date -/
example : let fs : List (Int × Nat) := [(10, 1), (20, 2)]
    fs.Pairwise (fun a b => a.1 < b.1) ∧ Engine.variable_get_formula fs (some 30) 25 = some 2 ∧
    Engine.variable_get_formula fs (some 30) 15 = some 1 ∧ Engine.variable_get_formula fs (some 30) 5 = none ∧
    Engine.variable_get_formula fs (some 30) 31 = none := by decide

example : Guards.checkPeriodConsistency_raises .month .year 1 = true := by decide
example : Guards.checkPeriodConsistency_raises .eternity .year 3 = false := by decide
end OFCore.RuleSys
