import OFCore.Lemmas.Param
import OFCore.Lemmas.ParamKeys
import OFCore.Lemmas.ParamData
import OFCore.Lemmas.ParamScale
import OFCore.Lemmas.ParamNode
/-!
# C06 — a parameter's value at a date is its latest entry; edits touch only their span

Model: `OFCore/Param.lean`.
Every theorem is for all histories, all dates, all values (an arbitrary type `V`, null = `none`), with no bound on
any size. Dates are proleptic ordinals; the code compares zero-padded ISO strings, taken to be the lexicographic
order of `(y, m, d)`, which is the order of the ordinals (`Lemmas/Calendar.lean`, `ord_lt_of_lex`).
-/
namespace OFCore
open OFCore.Param

variable {V : Type}

/-- The value at `d` is the value of the most recent entry on or before `d` (such an entry exists
    as soon as some entry is dated `≤ d`), and is undefined (`None`) before the first entry. -/
theorem C06_get_latest (l : List (Entry V)) (hl : Sorted l) (d : Int) :
    (∀ e, IsLatest l d e → pget l d = e.val) ∧
    ((∃ e ∈ l, e.date ≤ d) → ∃ e, IsLatest l d e) ∧
    ((∀ e ∈ l, d < e.date) → pget l d = none) :=
  ⟨fun _ h => pget_of_isLatest hl h, exists_isLatest hl, pget_none_of_all_later l d⟩

example : Sorted [(⟨10, some 1⟩ : Entry Nat), ⟨5, none⟩, ⟨0, some 3⟩] := by decide +kernel
example : IsLatest [(⟨10, some 1⟩ : Entry Nat), ⟨5, none⟩, ⟨0, some 3⟩] 7 ⟨5, none⟩ := by
  refine ⟨by simp, by decide, ?_⟩
  intro e he hd
  simp only [List.mem_cons, List.not_mem_nil, or_false] at he
  rcases he with rfl | rfl | rfl
  · exact absurd hd (by decide)
  · decide
  · decide
example : pget [(⟨10, some 1⟩ : Entry Nat), ⟨5, none⟩, ⟨0, some 3⟩] 7 = none
    ∧ pget [(⟨10, some 1⟩ : Entry Nat), ⟨5, none⟩, ⟨0, some 3⟩] 12 = some 1
    ∧ pget [(⟨10, some 1⟩ : Entry Nat), ⟨5, none⟩, ⟨0, some 3⟩] (-1) = none := by decide +kernel

/-- `Parameter.__init__`: whatever the declaration order of the (distinct) date keys, the list
    built is strictly decreasing and holds exactly the declared entries that are not `expected`
    placeholders. -/
theorem C06_sorted_init (items : List (Int × Item V)) (hnd : (items.map (·.1)).Nodup) :
    Sorted (ofData items) ∧
    ∀ d v, (⟨d, v⟩ : Entry V) ∈ ofData items ↔ (d, Item.value v) ∈ items := by
  refine ⟨sorted_keepValues _ (descKeys_sortDesc items hnd), ?_⟩
  intro d v
  unfold ofData
  rw [mem_keepValues, mem_sortDesc]

/-- Reading a freshly built parameter, stated on the declared mapping itself: the value of the
    declared (non-placeholder) entry with the greatest date `≤ q`; `None` when every declared
    entry is later than `q`. -/
theorem C06_init_get (items : List (Int × Item V)) (hnd : (items.map (·.1)).Nodup) (q : Int) :
    (∀ d v, (d, Item.value v) ∈ items → d ≤ q →
        (∀ d' v', (d', Item.value v') ∈ items → d' ≤ q → d' ≤ d) → pget (ofData items) q = v) ∧
    ((∀ d v, (d, Item.value v) ∈ items → q < d) → pget (ofData items) q = none) := by
  obtain ⟨hs, hm⟩ := C06_sorted_init items hnd
  constructor
  · intro d v hmem hd hmax
    have : IsLatest (ofData items) q ⟨d, v⟩ :=
      ⟨(hm d v).mpr hmem, hd, fun e' he' hd' => hmax e'.date e'.val ((hm e'.date e'.val).mp he') hd'⟩
    exact pget_of_isLatest hs this
  · intro h
    exact pget_none_of_all_later _ _ (fun e he => h e.date e.val ((hm e.date e.val).mp he))

example : ofData [(5, Item.value (some 2)), (20, Item.value none), (12, Item.expected), (10, Item.value (some 1))]
    = [(⟨20, none⟩ : Entry Nat), ⟨10, some 1⟩, ⟨5, some 2⟩] := by decide +kernel
example : ([(5, Item.value (some 2)), (20, Item.value none), (12, Item.expected)] : List (Int × Item Nat)).map (·.1)
    |>.Nodup := by decide +kernel

/-- An update over `[a, b]` keeps the dates strictly decreasing. -/
theorem C06_update_sorted (l : List (Entry V)) (hl : Sorted l) (a b : Int) (hab : a ≤ b) (v : Option V) :
    Sorted (update l a (some b) v) :=
  sorted_updateSpan hl (by omega) v

/-- Flagship: after `update(start=a, stop=b, value=v)` the parameter reads `v` on every day of
    `[a, b]` and what it read before on every other day — whatever entries existed before.
    (No `a ≤ b` is needed for this clause: a reversed range is the empty range.) -/
theorem C06_update_pointwise (l : List (Entry V)) (hl : Sorted l) (a b : Int) (v : Option V) (d : Int) :
    pget (update l a (some b) v) d = if a ≤ d ∧ d ≤ b then v else pget l d := by
  show pget (updateSpan l a (b + 1) v) d = _
  simp only [pget_updateSpan hl, Int.lt_add_one_iff]

theorem C06_update_inside (l : List (Entry V)) (hl : Sorted l) (a b : Int) (v : Option V) (d : Int)
    (h1 : a ≤ d) (h2 : d ≤ b) : pget (update l a (some b) v) d = v := by
  rw [C06_update_pointwise l hl, if_pos ⟨h1, h2⟩]

theorem C06_update_outside (l : List (Entry V)) (hl : Sorted l) (a b : Int) (v : Option V) (d : Int)
    (h : d < a ∨ b < d) : pget (update l a (some b) v) d = pget l d := by
  rw [C06_update_pointwise l hl, if_neg (show ¬ (a ≤ d ∧ d ≤ b) by omega)]

/-- The open-ended form `update(start=a, value=v)`: `v` from `a` on, unchanged before; sorted. -/
theorem C06_update_open (l : List (Entry V)) (hl : Sorted l) (a : Int) (v : Option V) :
    Sorted (update l a none v) ∧
    ∀ d, pget (update l a none v) d = if a ≤ d then v else pget l d :=
  ⟨sorted_cons_skipFrom hl a v, pget_cons_skipFrom l a v⟩

example : update [(⟨10, some 1⟩ : Entry Nat), ⟨5, some 2⟩, ⟨0, some 3⟩] 4 (some 7) (some 9)
    = [⟨10, some 1⟩, ⟨8, some 2⟩, ⟨4, some 9⟩, ⟨0, some 3⟩] := by decide +kernel
example : update [(⟨10, some 1⟩ : Entry Nat), ⟨5, some 2⟩] 6 (some 9) none
    = [⟨10, some 1⟩, ⟨6, none⟩, ⟨5, some 2⟩] := by decide +kernel
example : update [(⟨10, some 1⟩ : Entry Nat), ⟨5, some 2⟩] 7 none (some 4)
    = [⟨7, some 4⟩, ⟨5, some 2⟩] := by decide +kernel
example : update ([] : List (Entry Nat)) 3 (some 5) (some 1) = [⟨6, none⟩, ⟨3, some 1⟩] := by decide +kernel

/-- The three call forms run the same update; the two misuses are refused. -/
theorem C06_update_call_forms (l : List (Entry V)) (a b : Int) (v : Option V) :
    updateCall l (some (a, b)) none none v = .ok (update l a (some b) v) ∧
    updateCall l none (some a) (some b) v = .ok (update l a (some b) v) ∧
    updateCall l none (some a) none v = .ok (update l a none v) := ⟨rfl, rfl, rfl⟩

theorem C06_update_call_refused (l : List (Entry V)) (p : Option (Int × Int)) (s e : Option Int)
    (v : Option V) :
    (∃ msg, updateCall l p s e v = .error msg) ↔
      (p.isSome ∧ (s.isSome ∨ e.isSome)) ∨ (p = none ∧ s = none) := by
  unfold updateCall
  cases p with
  | none => cases s <;> simp
  | some pe =>
    obtain ⟨ps, pe⟩ := pe
    cases s <;> cases e <;> simp

example : ∃ msg, updateCall ([] : List (Entry Nat)) (some (1, 2)) (some 1) none none = .error msg := ⟨_, rfl⟩

/-- By induction over the sequence: after any finite sequence of well-formed updates (closed
    ranges with `a ≤ b`, or open-ended) the list is still sorted and the value read at `d` is
    obtained from the original value by letting each update, in order, overwrite it iff its
    range contains `d`. -/
theorem C06_updates_fold (l : List (Entry V)) (hl : Sorted l) (us : List (Upd V))
    (hus : ∀ u ∈ us, u.WF) :
    Sorted (updates l us) ∧ ∀ d, pget (updates l us) d = us.foldl (specStep d) (pget l d) := by
  induction us generalizing l with
  | nil => exact ⟨hl, fun _ => rfl⟩
  | cons u us ih =>
    obtain ⟨h1, h2⟩ := applyUpd_spec hl (hus u (List.mem_cons_self ..))
    obtain ⟨h3, h4⟩ := ih (applyUpd l u) h1 (fun u' hu' => hus u' (List.mem_cons_of_mem _ hu'))
    exact ⟨h3, fun d => (h4 d).trans (by rw [h2 d]; rfl)⟩

/-- A date that no update of the sequence covers reads as before. -/
theorem C06_updates_untouched (l : List (Entry V)) (hl : Sorted l) (us : List (Upd V))
    (hus : ∀ u ∈ us, u.WF) (d : Int) (h : ∀ u ∈ us, ¬ u.covers d) :
    pget (updates l us) d = pget l d := by
  rw [(C06_updates_fold l hl us hus).2 d]
  exact foldl_specStep_untouched d _ us h

/-- A date reads the value of the last update that covers it. -/
theorem C06_updates_last_wins (l : List (Entry V)) (hl : Sorted l) (us₁ us₂ : List (Upd V)) (u : Upd V)
    (hus : ∀ u' ∈ us₁ ++ u :: us₂, u'.WF) (d : Int) (hu : u.covers d)
    (h : ∀ u' ∈ us₂, ¬ u'.covers d) :
    pget (updates l (us₁ ++ u :: us₂)) d = u.v := by
  rw [(C06_updates_fold l hl _ hus).2 d, List.foldl_append, List.foldl_cons]
  have : specStep d (List.foldl (specStep d) (pget l d) us₁) u = u.v := by
    unfold specStep; rw [if_pos hu]
  rw [this]
  exact foldl_specStep_untouched d _ us₂ h

example : updates [(⟨10, some 1⟩ : Entry Nat), ⟨0, some 3⟩]
      [⟨4, some 7, some 9⟩, ⟨6, none, none⟩, ⟨2, some 4, some 8⟩]
    = [⟨6, none⟩, ⟨5, some 9⟩, ⟨2, some 8⟩, ⟨0, some 3⟩] := by decide +kernel
example : ∀ u ∈ [(⟨4, some 7, some 9⟩ : Upd Nat), ⟨6, none, none⟩, ⟨2, some 4, some 8⟩], u.WF := by decide +kernel

/-- One step. `clone()` appends a copy of its source and changes no existing object; an update
    changes the addressed object (by `f`, the single-object update) and no other. `σ`/`U`/`f` are
    arbitrary: parameters with `applyUpd`, trees with an update of one of their parameters, … -/
theorem C06_clone_step {σ U : Type} (f : σ → U → σ) (st : List σ) :
    (∀ s x, st[s]? = some x → runOp f st (.clone s) = st ++ [x]) ∧
    (∀ i u x, st[i]? = some x → (runOp f st (.upd i u))[i]? = some (f x u)) ∧
    (∀ (op : HOp U) j, j < st.length → op.target ≠ some j → (runOp f st op)[j]? = st[j]?) := by
  refine ⟨?_, ?_, fun op j hj h => getElem?_runOp_of_ne f st op j hj h⟩
  · intro s x h; simp [runOp, h]
  · intro i u x h
    obtain ⟨hi, hx⟩ := List.getElem?_eq_some_iff.mp h
    simp only [runOp, h]
    rw [List.getElem?_set_self hi]

/-- For every history of clones and updates: an object to which no update of the history is
    addressed has, at the end, the content it had at the start — hence every read of it (at any
    date, `pget`, `atInstant`, `scaleAt`) is unchanged, whatever was done to its clones, its
    source or any other object, in any interleaving. -/
theorem C06_clone_independent {σ U : Type} (f : σ → U → σ) (st : List σ) (ops : List (HOp U)) (j : Nat)
    (hj : j < st.length) (h : ∀ op ∈ ops, op.target ≠ some j) :
    (runOps f st ops)[j]? = st[j]? := by
  induction ops generalizing st with
  | nil => rfl
  | cons op ops ih =>
    show (runOps f (runOp f st op) ops)[j]? = _
    rw [ih (runOp f st op) (Nat.lt_of_lt_of_le hj (length_runOp f st op))
      (fun op' h' => h op' (List.mem_cons_of_mem _ h'))]
    exact getElem?_runOp_of_ne f st op j hj (h op (List.mem_cons_self ..))

/-- For every history starting from one object `x0`: each object at the end is `x0` with the
    object's *own* updates replayed in order — those addressed to it, and those its source had
    received before the clone was taken; updates addressed elsewhere do not appear. -/
theorem C06_clone_trace {σ U : Type} (f : σ → U → σ) (x0 : σ) (ops : List (HOp U)) :
    runOps f [x0] ops = (runOps snoc [[]] ops).map (fun us => us.foldl f x0) := by
  have := runOps_map_trace f x0 [[]] ops
  simpa using this

/-- Parameters: after any history of clones and well-formed updates starting from a sorted
    parameter, every object is sorted and reads, at every date, what the pointwise theorem
    (`C06_updates_fold`) says for its own updates alone. -/
theorem C06_clone_history (l0 : List (Entry V)) (hl : Sorted l0) (ops : List (HOp (Upd V)))
    (hwf : ∀ i u, HOp.upd i u ∈ ops → u.WF) :
    runOps applyUpd [l0] ops = (runOps snoc [[]] ops).map (updates l0) ∧
    ∀ us ∈ runOps snoc [[]] ops,
      Sorted (updates l0 us) ∧ ∀ d, pget (updates l0 us) d = us.foldl (specStep d) (pget l0 d) := by
  refine ⟨C06_clone_trace applyUpd l0 ops, ?_⟩
  intro us hus
  -- every update in a trace is an update of the history
  refine C06_updates_fold l0 hl us (runOps_forall snoc (fun us => ∀ u ∈ us, u.WF) [[]] ops ?_ ?_ us hus)
  · intro us h u hu; rw [List.mem_singleton.mp h] at hu; cases hu
  · intro i u hiu us hus u' hu'
    rcases List.mem_append.mp hu' with h | h
    · exact hus u' h
    · rw [List.mem_singleton.mp h]; exact hwf i u hiu

-- clone, update the clone over [4, 7], update the original from 12 on: each keeps its own
example : runOps applyUpd [[(⟨10, some 1⟩ : Entry Nat), ⟨0, some 3⟩]]
      [.clone 0, .upd 1 ⟨4, some 7, some 9⟩, .upd 0 ⟨12, none, none⟩, .clone 1]
    = [[⟨12, none⟩, ⟨10, some 1⟩, ⟨0, some 3⟩],
       [⟨10, some 1⟩, ⟨8, some 3⟩, ⟨4, some 9⟩, ⟨0, some 3⟩],
       [⟨10, some 1⟩, ⟨8, some 3⟩, ⟨4, some 9⟩, ⟨0, some 3⟩]] := by decide +kernel
example : runOps snoc [([] : List Nat)] [.clone 0, .upd 1 7, .upd 0 8, .clone 1, .upd 2 9]
    = [[8], [7], [7, 9]] := by decide +kernel
example : ∀ op ∈ [(HOp.clone 0 : HOp (Upd Nat)), .upd 1 ⟨4, some 7, some 9⟩, .clone 1], op.target ≠ some 0 := by decide +kernel

/-- A parameter is defined at `d` iff its latest entry on or before `d` exists and is not null. -/
theorem C06_defined_iff (l : List (Entry V)) (hl : Sorted l) (d : Int) :
    (PNode.param l).definedAt d = true ↔ ∃ e x, IsLatest l d e ∧ e.val = some x := by
  show (pget l d).isSome = true ↔ _
  constructor
  · intro h
    by_cases hex : ∃ e ∈ l, e.date ≤ d
    · obtain ⟨e, he⟩ := exists_isLatest hl hex
      rw [pget_of_isLatest hl he] at h
      obtain ⟨x, hx⟩ := Option.isSome_iff_exists.mp h
      exact ⟨e, x, he, hx⟩
    · have : pget l d = none := pget_none_of_all_later l d (fun e he => by
        have h' : ¬ e.date ≤ d := fun c => hex ⟨e, he, c⟩
        omega)
      rw [this] at h
      cases h
  · rintro ⟨e, x, he, hx⟩
    rw [pget_of_isLatest hl he, hx]
    rfl

/-- A node evaluated at `d` is a node-at-instant whose members are exactly the children defined
    at `d`, in declaration order, each with its own value at `d`. -/
theorem C06_node_members (cs : List (String × PNode V)) (d : Int) :
    ∃ m, (PNode.node cs).atInstant d = some (Snap.node m) ∧
      (∀ k, k ∈ m.map (·.1) ↔ ∃ c, (k, c) ∈ cs ∧ c.definedAt d = true) ∧
      m.map (·.1) = (cs.filter (fun p => p.2.definedAt d)).map (·.1) ∧
      (∀ k s, (k, s) ∈ m ↔ ∃ c, (k, c) ∈ cs ∧ c.atInstant d = some s) := by
  refine ⟨childrenAt cs d, by simp [PNode.atInstant], ?_, keys_childrenAt cs d, mem_childrenAt cs d⟩
  intro k
  rw [keys_childrenAt]
  simp only [List.mem_map, List.mem_filter]
  constructor
  · rintro ⟨⟨k', c⟩, ⟨hm, hd⟩, rfl⟩
    exact ⟨c, hm, hd⟩
  · rintro ⟨c, hm, hd⟩
    exact ⟨(k, c), ⟨hm, hd⟩, rfl⟩

example : (childrenAt [("a", PNode.param [(⟨10, some 1⟩ : Entry Nat)]), ("b", .param [⟨12, none⟩, ⟨5, some 2⟩]),
      ("sub", .node [("c", .param [⟨11, some 3⟩])])] 10).map (·.1) = ["a", "b", "sub"] := by decide +kernel
example : (childrenAt [("a", PNode.param [(⟨10, some 1⟩ : Entry Nat)]), ("b", .param [⟨12, none⟩, ⟨5, some 2⟩]),
      ("sub", .node [("c", .param [⟨11, some 3⟩])])] 12).map (·.1) = ["a", "sub"] := by decide +kernel

/-- Access by name — what `node_at.name`, `node_at[name]` and `name in node_at` rest on: with
    distinct child names, looking `k` up in the node at `d` gives the value at `d` of the child
    named `k`, and nothing (the access raises, `in` is false) when no child is named `k` or that
    child is not defined at `d`. -/
theorem C06_node_lookup (cs : List (String × PNode V)) (d : Int) (k : String)
    (hnd : (cs.map (·.1)).Nodup) :
    (childrenAt cs d).lookup k = (cs.lookup k).bind (fun c => c.atInstant d) :=
  lookup_childrenAt cs d k hnd

/-- `add_child` refuses exactly the names already present; an accepted child comes last, and at
    every date the node then exposes what it exposed before plus that child iff it is defined. -/
theorem C06_node_add_child (cs : List (String × PNode V)) (name : String) (c : PNode V) (d : Int) :
    (addChild cs name c = .ok (cs ++ [(name, c)]) ↔ name ∉ cs.map (·.1)) ∧
    ((∃ e, addChild cs name c = .error e) ↔ name ∈ cs.map (·.1)) ∧
    childrenAt (cs ++ [(name, c)]) d =
      childrenAt cs d ++ (match c.atInstant d with | some s => [(name, s)] | none => []) := by
  refine ⟨(addChild_ok_iff cs name c).1, (addChild_ok_iff cs name c).2, ?_⟩
  rw [childrenAt_append]
  congr 1

/-- `merge` of a node whose child names are distinct and disjoint from the receiver's appends
    its children in order; at every date the merged node exposes the members of both. -/
theorem C06_node_merge (cs other : List (String × PNode V))
    (hdisj : ∀ k ∈ other.map (·.1), k ∉ cs.map (·.1)) (hnd : (other.map (·.1)).Nodup) (d : Int) :
    mergeChildren cs other = .ok (cs ++ other) ∧
    childrenAt (cs ++ other) d = childrenAt cs d ++ childrenAt other d :=
  ⟨mergeChildren_ok cs other hdisj hnd, childrenAt_append cs other d⟩

example : (childrenAt [("a", PNode.param [(⟨10, some 1⟩ : Entry Nat)]), ("2", .param [⟨12, none⟩, ⟨5, some 2⟩])] 12).lookup "2" = none
    ∧ (childrenAt [("a", PNode.param [(⟨10, some 1⟩ : Entry Nat)]), ("2", .param [⟨12, none⟩, ⟨5, some 2⟩])] 11).lookup "2"
        = some (Snap.val 2) := by
  constructor <;> rfl
example : (mergeChildren [("a", PNode.param [(⟨10, some 1⟩ : Entry Nat)])] [("b", .param []), ("c", .node [])]).toOption.map (·.map (·.1))
    = some ["a", "b", "c"] := by decide +kernel
example : ∃ e, addChild [("a", PNode.param [(⟨10, some 1⟩ : Entry Nat)])] "a" (.param []) = .error e := ⟨_, rfl⟩

/-- `merge` of two groups with distinct, disjoint child names succeeds in either direction, and the two merged
    groups expose the same member under every name at every date (they differ by the order of the members only). -/
theorem C06_node_merge_comm (cs other : List (String × PNode V)) (hcs : (cs.map (·.1)).Nodup)
    (hot : (other.map (·.1)).Nodup) (hdisj : ∀ k ∈ other.map (·.1), k ∉ cs.map (·.1)) (d : Int) (k : String) :
    mergeChildren cs other = .ok (cs ++ other) ∧ mergeChildren other cs = .ok (other ++ cs) ∧
    (childrenAt (cs ++ other) d).lookup k = (childrenAt (other ++ cs) d).lookup k := by
  have hdisj' : ∀ k ∈ cs.map (·.1), k ∉ other.map (·.1) := fun k hk ho => hdisj k ho hk
  refine ⟨mergeChildren_ok cs other hdisj hot, mergeChildren_ok other cs hdisj' hcs, ?_⟩
  rw [childrenAt_append, childrenAt_append, List.lookup_append, List.lookup_append,
    lookup_childrenAt cs d k hcs, lookup_childrenAt other d k hot]
  by_cases h1 : k ∈ cs.map (·.1)
  · rw [lookup_none_of_not_mem k other (hdisj' k h1)]
    cases (cs.lookup k).bind (·.atInstant d) <;> rfl
  · rw [lookup_none_of_not_mem k cs h1]
    cases (other.lookup k).bind (·.atInstant d) <;> rfl

/-- A key takes effect on its FIRST day whatever its spelling (`2015` on 1 January 2015, `2015-03` on 1 March),
    two keys are never confused, and the ticks the model keeps order like the key texts the code compares
    (`SKey.lt` = the order of the zero-padded texts, a proper prefix being smaller). -/
theorem C06_key_spelling :
    (∀ o q sp, fine o sp ≤ 3 * q ↔ o ≤ q) ∧
    (∀ o o' sp sp', fine o sp = fine o' sp' → o = o' ∧ sp = sp') ∧
    (∀ a b : SKey, a.WF → b.WF → a.lt b → a.tick < b.tick) :=
  ⟨fine_le_iff, fine_inj, fine_lt_of_lex⟩

example : (⟨2014, 12, 31⟩ : SKey).tick < (⟨2015, 0, 0⟩ : SKey).tick ∧ (⟨2015, 0, 0⟩ : SKey).tick < (⟨2015, 1, 0⟩ : SKey).tick
    ∧ (⟨2015, 1, 0⟩ : SKey).tick < (⟨2015, 1, 1⟩ : SKey).tick ∧ (⟨2015, 1, 1⟩ : SKey).tick = 3 * 735599 := by decide +kernel
example : (⟨2015, 2, 0⟩ : SKey).WF ∧ (⟨2015, 0, 0⟩ : SKey).lt ⟨2015, 1, 0⟩ := by decide +kernel

/-- The flagship statement holds whatever the spellings of the existing keys: after `update(start=a, stop=b,
    value=v)` on a history in ticks the parameter reads `v` on every day of `[a, b]` and what it read before
    on every other day, and stays sorted; likewise for the open-ended form. -/
theorem C06_update_spelled (l : List (Entry V)) (hl : Sorted l) (a b : Int) (v : Option V) :
    (∀ d, pget (updateFine l a (some b) v) (3 * d) = if a ≤ d ∧ d ≤ b then v else pget l (3 * d)) ∧
    (a ≤ b → Sorted (updateFine l a (some b) v)) ∧
    Sorted (updateFine l a none v) ∧
    (∀ d, pget (updateFine l a none v) (3 * d) = if a ≤ d then v else pget l (3 * d)) := by
  -- the same facts as for days, at the ticks of full dates
  have h3 : (0 : Int) < 3 := by decide
  refine ⟨fun d => ?_, fun hab => sorted_updateSpan hl (by omega) v, sorted_cons_skipFrom hl _ v, fun d => ?_⟩
  · show pget (updateSpan l (3 * a) (3 * (b + 1)) v) (3 * d) = _
    simp only [pget_updateSpan hl, Int.mul_le_mul_left h3, Int.mul_lt_mul_left h3, Int.lt_add_one_iff]
  · show pget (⟨3 * a, v⟩ :: skipFrom l (3 * a)) (3 * d) = _
    simp only [pget_cons_skipFrom, Int.mul_le_mul_left h3]

-- keys `2015` (tick 3·735599 − 2), `2015-03-01`; update of 1 Jan .. 31 Jan 2015: the text `2015` sorts before
-- `2015-01-01` and stays in the list, shadowed by the new entry; its value is re-opened on 1 February
example : updateFine [(⟨3 * 735658, some 2⟩ : Entry Nat), ⟨3 * 735599 - 2, some 1⟩] 735599 (some 735629) (some 9)
    = [⟨3 * 735658, some 2⟩, ⟨3 * 735630, some 1⟩, ⟨3 * 735599, some 9⟩, ⟨3 * 735599 - 2, some 1⟩] := by decide +kernel

/-- What each accepted spelling of a dated value denotes (`ParameterAtInstant.__init__` and the `expected`
    test of `Parameter.__init__`). -/
theorem C06_data_items (t : String) (b : Bool) (y : Y) (tok : Option String) (hy : y.valTok = some tok) :
    itemOf (.num t) = .ok (.value (some t)) ∧ itemOf .null = .ok (.value none) ∧
    itemOf (.bool b) = .ok (.value (some (if b then "T" else "F"))) ∧
    itemOf (.str "expected") = .ok .expected ∧
    itemOf (.map [(.name "value", y)]) = .ok (.value tok) ∧
    itemOf (.map [(.name "value", y), (.name "metadata", .map [])]) = .ok (.value tok) ∧
    itemOf (.map [(.name "unit", .str "u"), (.name "value", y)]) = .ok (.value tok) ∧
    itemOf (.map [(.name "expected", .bool true)]) = .ok .expected ∧
    (∃ e, itemOf (.str t) = .error e) ∨ t = "expected" := by
  by_cases ht : t = "expected"
  · exact Or.inr ht
  · refine Or.inl ⟨rfl, rfl, rfl, rfl, ?_, ?_, ?_, rfl, ?_⟩
    · exact itemOf_map_value rfl rfl rfl rfl hy
    · exact itemOf_map_value rfl rfl rfl rfl hy
    · exact itemOf_map_value rfl rfl rfl rfl hy
    · simp [itemOf, ht]

/-- Which object `helpers._parse_child` builds: a mapping with `values` is a Parameter, else one with
    `brackets` a ParameterScale, else one whose keys are all instants a Parameter, else a ParameterNode;
    anything that is not a mapping is refused. -/
theorem C06_data_kind (rat : String → Option Rat) (kvs : List (YKey × Y)) (t : PNode String)
    (h : parseChild rat (.map kvs) = .ok t) :
    (hasName kvs "values" = true → ∃ l, t = .param l) ∧
    (hasName kvs "values" = false → hasName kvs "brackets" = true → ∃ m bs, t = .scale m bs) ∧
    (hasName kvs "values" = false → hasName kvs "brackets" = false → kvs.all (fun p => p.1.isInstant) = true →
        ∃ l, t = .param l) ∧
    (hasName kvs "values" = false → hasName kvs "brackets" = false → kvs.all (fun p => p.1.isInstant) = false →
        ∃ cs, t = .node cs) ∧
    (∀ y, (∀ kvs', y ≠ Y.map kvs') → ∃ e, parseChild rat y = .error e) := by
  rw [parseChild_map] at h
  refine ⟨fun hv => ?_, fun hv hb => ?_, fun hv hb ha => ?_, fun hv hb ha => ?_, fun y hy => ?_⟩
  · rw [if_pos hv] at h
    obtain ⟨l, _, rfl⟩ := map_eq_ok.mp h
    exact ⟨l, rfl⟩
  · rw [if_neg (by simp [hv]), if_pos hb] at h
    split at h
    · cases h
    · split at h
      · cases h
      · obtain ⟨bs, _, rfl⟩ := map_eq_ok.mp h
        exact ⟨_, bs, rfl⟩
  · rw [if_neg (by simp [hv]), if_neg (by simp [hb]), if_pos ha] at h
    obtain ⟨l, _, rfl⟩ := map_eq_ok.mp h
    exact ⟨l, rfl⟩
  · rw [if_neg (by simp [hv]), if_neg (by simp [hb]), if_neg (by simp [ha])] at h
    split at h
    · cases h
    · obtain ⟨cs, _, rfl⟩ := map_eq_ok.mp h
      exact ⟨cs, rfl⟩
  · cases y with
    | map kvs' => exact absurd rfl (hy kvs')
    | _ => exact ⟨_, rfl⟩

/-- Construct, then read: a mapping whose keys are instant texts (any spelling, any declaration order,
    distinct), each with a readable value, builds a parameter whose dates are strictly decreasing and whose
    value on day `q` is that of the declared (non-`expected`) key with the greatest tick among those whose
    first day is on or before `q` — `None` when every such key starts later. -/
theorem C06_data_get (rat : String → Option Rat) (kvs : List (YKey × Y)) (its : List (Int × Item String))
    (hi : paramItems kvs = .ok its) (hnd : (kvs.map (fun p => keyTick p.1)).Nodup) (q : Int) :
    ∃ l, parseChild rat (.map kvs) = .ok (.param l) ∧ Sorted l ∧
      (∀ o sp t y v, (YKey.date o sp t, y) ∈ kvs → itemOf y = .ok (.value v) → o ≤ q →
        (∀ o' sp' t' y' v', (YKey.date o' sp' t', y') ∈ kvs → itemOf y' = .ok (.value v') → o' ≤ q →
          fine o' sp' ≤ fine o sp) → pget l (3 * q) = v) ∧
      ((∀ o sp t y v, (YKey.date o sp t, y) ∈ kvs → itemOf y = .ok (.value v) → q < o) → pget l (3 * q) = none) := by
  obtain ⟨-, hkeys, hmem⟩ := paramItems_spec hi
  have hnd' : (its.map (·.1)).Nodup := by rw [hkeys]; exact hnd
  obtain ⟨hs, _⟩ := C06_sorted_init its hnd'
  obtain ⟨g1, g2⟩ := C06_init_get its hnd' (3 * q)
  refine ⟨ofData its, parseChild_dates rat hi, hs, ?_, ?_⟩
  · intro o sp t y v hm hy hq hmax
    apply g1 (fine o sp) v ((hmem _ _).mpr ⟨o, sp, t, y, hm, hy, rfl⟩) ((fine_le_iff o q sp).mpr hq)
    intro d' v' hm' hd'
    obtain ⟨o', sp', t', y', hm'', hy', rfl⟩ := (hmem _ _).mp hm'
    exact hmax o' sp' t' y' v' hm'' hy' ((fine_le_iff o' q sp').mp hd')
  · intro hall
    apply g2
    intro d v hm
    obtain ⟨o, sp, t, y, hm', hy, rfl⟩ := (hmem _ _).mp hm
    have := hall o sp t y v hm' hy
    have h2 := fine_le_iff o q sp
    omega

/-- the declaration with `values:` (description, metadata, unit, reference, documentation beside it) builds
    the same parameter as the mapping under `values` alone -/
theorem C06_data_values (rat : String → Option Rat) (kvs vkvs : List (YKey × Y)) (x : YKey × Y)
    (hne : vkvs = x :: vkvs.tail) (hv : lookupName kvs "values" = some (.map vkvs))
    (hk : keysWithin kvs (commonKeys ++ ["values"]) = true) (hm : metaOk kvs = true)
    (its : List (Int × Item String)) (hi : paramItems vkvs = .ok its) :
    parseChild rat (.map kvs) = parseChild rat (.map vkvs) := by
  have ht : (Y.map vkvs).truthy = true := by rw [hne]; rfl
  rw [parseChild_dates rat hi]
  simp only [parseChild_map, hasName, hv, Option.isSome_some, if_true, buildParam, paramValues, ht, hk, hm,
    Bool.not_true, Bool.false_eq_true, if_false, hi, Except.map]

/-- the values list a successful construction of a parameter yields -/
def builtEntries (r : Except String (PNode String)) : Option (List (Entry String)) :=
  match r with
  | .ok (.param l) => some l
  | .ok (.scale _ _) => none
  | .ok (.node _) => none
  | .error _ => none

/-- the child names a successful construction of a group yields -/
def builtNames (r : Except String (PNode String)) : Option (List String) :=
  match r with
  | .ok (.node cs) => some (cs.map (·.1))
  | .ok (.param _) => none
  | .ok (.scale _ _) => none
  | .error _ => none

example : builtEntries (parseChild (fun _ => none) (.map [(.date 735964 .year "2016", .map [(.name "value", .num "7")]),
      (.date 735599 .day "2015-01-01", .num "5"), (.date 735599 .month "2015-01", .str "expected")]))
    = some [⟨3 * 735964 - 2, some "7"⟩, ⟨3 * 735599, some "5"⟩] := by decide +kernel
example : builtEntries (parseChild (fun _ => none) (.map [(.name "description", .str "x"), (.name "values", .map [(.date 735599 .day "2015-01-01", .num "5")])]))
    = some [⟨3 * 735599, some "5"⟩] := by decide +kernel
example : (parseChild (fun _ => none) (.map [(.name "values", .map [])])).toOption = none
    ∧ (parseChild (fun _ => none) (.map [(.date 735599 .day "2015-01-01", .map [(.name "valeu", .num "5")])])).toOption = none
    ∧ (parseChild (fun _ => none) (.map [(.int 2015, .num "5")])).toOption = none
    ∧ (parseChild (fun _ => none) (.num "5")).toOption = none := by decide +kernel

/-- A group built from a mapping: its children are the non-reserved keys, in order, each named by the text of
    its key (`str(key)`: an integer key by its decimal text) and built from its own data; the names are
    distinct (a repeated name is refused); hence at every date the group exposes exactly those keys whose
    child is defined at that date. -/
theorem C06_data_node (rat : String → Option Rat) (kvs : List (YKey × Y)) (cs : List (String × PNode String))
    (h : parseChild rat (.map kvs) = .ok (.node cs)) (d : Int) :
    cs.map (·.1) = (kvs.filter (fun p => !p.1.within commonKeys)).map (·.1.text) ∧
    (∀ k c, (k, c) ∈ cs → ∃ p ∈ kvs, p.1.within commonKeys = false ∧ p.1.text = k ∧ parseChild rat p.2 = .ok c) ∧
    (cs.map (·.1)).Nodup ∧
    (childrenAt cs d).map (·.1) = (cs.filter (fun p => p.2.definedAt d)).map (·.1) := by
  obtain ⟨new, h1, h2, h3, h4⟩ := nodeKids_spec (parseChild_map_ok h)
  simp only [List.nil_append] at h1
  subst h1
  exact ⟨h2, h3, h4 List.nodup_nil, keys_childrenAt cs d⟩

example : builtNames (parseChild (fun _ => none) (.map [(.name "a", .map [(.date 735599 .day "2015-01-01", .num "1")]),
      (.name "description", .str "x"), (.int 2, .map [(.date 735600 .day "2015-01-02", .num "2")])]))
    = some ["a", "2"] := by decide +kernel
example : (parseChild (fun _ => none) (.map [(.name "2", .map [(.name "x", .map [])]), (.int 2, .map [(.name "x", .map [])])])).toOption.isNone
    = true := by decide +kernel

/-- The children a group does NOT expose at `d` are exactly those not defined at `d`, and reaching for one
    (`node_at.k`) raises an error that names it: `<node name>[k]`. -/
theorem C06_node_absent (name : String) (cs : List (String × PNode V)) (d : Int) :
    (absentAt name cs d).map (·.1) = (cs.filter (fun p => !p.2.definedAt d)).map (·.1) ∧
    (∀ k n, (k, n) ∈ absentAt name cs d → n = composeItem name k) ∧
    ((childrenAt cs d).map (·.1)).length + (absentAt name cs d).length = cs.length := by
  refine ⟨(absentAt_keys name cs d).1, (absentAt_keys name cs d).2, ?_⟩
  rw [List.length_map]
  exact length_childrenAt_absentAt name cs d

example : absentAt "n" [("a", PNode.param [(⟨10, some 1⟩ : Entry Nat)]), ("b", .param [⟨12, none⟩, ⟨5, some 2⟩])] 12
    = [("b", "n[b]")] := by decide +kernel

/-- `get_descendants()` of a group: every child followed by its own descendants, in order; adding or merging
    children appends theirs. -/
theorem C06_descendants (name : String) (cs cs' : List (String × PNode V)) (k : String) (c : PNode V) :
    (PNode.node ((k, c) :: cs)).descNames name
      = composeChild name k :: (c.descNames (composeChild name k) ++ (PNode.node cs).descNames name) ∧
    (PNode.node (cs ++ cs')).descNames name = (PNode.node cs).descNames name ++ (PNode.node cs').descNames name ∧
    (PNode.param ([] : List (Entry V))).descNames name = [] := by
  refine ⟨by simp [PNode.descNames, descAll], ?_, by simp [PNode.descNames]⟩
  simp only [PNode.descNames]
  exact descAll_append name cs cs'

example : (PNode.node [("a", PNode.param ([] : List (Entry Nat))), ("g", .node [("x", .param []), ("s", .scale false [])])]).descNames "n"
    = ["n.a", "n.g", "n.g.x", "n.g.s"] := by decide +kernel

/-- A scale built from data: `brackets` must be a list, every key reserved or `brackets`; the scale is of the
    single-amount kind iff `metadata.type` is `single_amount`; it has one bracket per element of the list, in order. -/
theorem C06_data_scale (rat : String → Option Rat) (kvs : List (YKey × Y)) (m : Bool) (bs : List Bracket)
    (hv : hasName kvs "values" = false) (h : parseChild rat (.map kvs) = .ok (.scale m bs)) :
    m = isSingleAmount kvs ∧ scaleBrackets rat kvs = .ok bs ∧ keysWithin kvs (commonKeys ++ ["brackets"]) = true ∧
    (∀ xs, bracketList rat xs = .ok bs → bs.length = xs.length) := by
  obtain ⟨hm, hk, hs⟩ := parseChild_map_ok h
  exact ⟨hm, hs, hk, fun _ => bracketList_length⟩

/-- the mapping entry a YAML file stands for: its stem, its content -/
def fileAsPair : DirEnt → YKey × Y
  | .file stem _ y => (.name stem, y)
  | .dir name _ => (.name name, .map [])

/-- Loading a directory whose entries are YAML files (`.yaml` / `.yml`, no `index`, no stem that is a reserved
    key) builds the same group as the mapping `{stem: content, …}` in listing order — members, names and
    refusals (a stem used twice: `a.yaml` beside `a.yml`) included. -/
theorem C06_dir_files (rat : String → Option Rat) (es : List DirEnt) (acc : List (String × PNode String))
    (hfiles : ∀ e ∈ es, ∃ stem ext y, e = DirEnt.file stem ext y ∧ yamlExts.contains ext = true ∧
      (stem == "index") = false ∧ commonKeys.contains stem = false) :
    buildDir rat es acc = nodeKids rat (es.map fileAsPair) acc := by
  induction es generalizing acc with
  | nil => simp [buildDir, nodeKids]
  | cons e r ih =>
    obtain ⟨stem, ext, y, rfl, hext, hidx, hres⟩ := hfiles _ (List.mem_cons_self ..)
    have hr : ∀ e ∈ r, ∃ stem ext y, e = DirEnt.file stem ext y ∧ yamlExts.contains ext = true ∧
        (stem == "index") = false ∧ commonKeys.contains stem = false :=
      fun e he => hfiles e (List.mem_cons_of_mem _ he)
    simp only [buildDir, buildEnt, hext, Bool.not_true, Bool.false_eq_true, if_false, hidx, List.map_cons, fileAsPair,
      nodeKids, YKey.within, hres, YKey.text]
    cases parseChild rat y with
    | error e => rfl
    | ok c =>
      simp only
      cases addChild acc stem c with
      | error e => rfl
      | ok acc' => exact ih acc' hr

/-- Files of other types are ignored; `index.yaml` / `index.yml` adds no member and is accepted exactly when
    its content is empty or a mapping of reserved keys (with a mapping for `metadata`); a sub-directory is a
    member group built from its own listing. -/
theorem C06_dir_entries (rat : String → Option Rat) (stem ext name : String) (y : Y) (sub r : List DirEnt)
    (acc : List (String × PNode String)) :
    (yamlExts.contains ext = false → buildDir rat (.file stem ext y :: r) acc = buildDir rat r acc) ∧
    (yamlExts.contains ext = true → indexOk y = true → buildDir rat (.file "index" ext y :: r) acc = buildDir rat r acc) ∧
    (yamlExts.contains ext = true → indexOk y = false → ∃ e, buildDir rat (.file "index" ext y :: r) acc = .error e) ∧
    (∀ cs, buildDir rat sub [] = .ok cs → name ∉ acc.map (·.1) →
      buildDir rat (.dir name sub :: r) acc = buildDir rat r (acc ++ [(name, .node cs)])) := by
  refine ⟨?_, ?_, ?_, ?_⟩
  · intro h; simp only [buildDir, buildEnt, h, Bool.not_false, if_true]
  · intro h hi; simp only [buildDir, buildEnt, h, hi, Bool.not_true, Bool.false_eq_true, if_false, beq_self_eq_true, if_true]
  · intro h hi
    refine ⟨"index: unexpected property", ?_⟩
    simp only [buildDir, buildEnt, h, hi, Bool.not_true, Bool.false_eq_true, if_false, beq_self_eq_true, if_true]
  · intro cs hcs hn
    have := (addChild_ok_iff acc name (.node cs)).1.mpr hn
    simp only [buildDir, buildEnt, hcs, this]

example : builtNames ((buildDir (fun _ => none) [.file "a" ".yaml" (.map [(.date 735599 .day "2015-01-01", .num "1")]),
      .file "index" ".yml" (.map [(.name "description", .str "x")]), .file "notes" ".txt" (.num "5"),
      .dir "sub" [.file "c" ".yml" (.map [])]] []).map .node) = some ["a", "sub"] := by decide +kernel
example : ((buildDir (fun _ => none) [.file "a" ".yaml" (.map []), .file "a" ".yml" (.map [])] []).toOption.isNone
    ∧ (buildDir (fun _ => none) [.file "a" ".yaml" (.map []), .dir "a" []] []).toOption.isNone
    ∧ (buildDir (fun _ => none) [.file "index" ".yaml" (.map [(.name "foo", .num "1")])] []).toOption.isNone) = true := by
  decide +kernel

/-- Which class of scale is built at `d`. -/
theorem C06_scale_kind (m : Bool) (bs : List Bracket) (d : Int) :
    (m = true → (scaleAt m bs d).kind = .singleAmount) ∧
    (m = false → (∃ b ∈ bs, (pget b.amount d).isSome) → (scaleAt m bs d).kind = .marginalAmount) ∧
    (m = false → (∀ b ∈ bs, pget b.amount d = none) → (∃ b ∈ bs, (pget b.averageRate d).isSome) →
        (scaleAt m bs d).kind = .linearAverageRate) ∧
    (m = false → (∀ b ∈ bs, pget b.amount d = none) → (∀ b ∈ bs, pget b.averageRate d = none) →
        (scaleAt m bs d).kind = .marginalRate) := by
  have hany : ∀ f : Bracket → List (Entry Rat),
      (bs.any (fun b => hasAt (f b) d) = true ↔ ∃ b ∈ bs, (pget (f b) d).isSome) := by
    intro f; simp [hasAt]
  have hnone : ∀ f : Bracket → List (Entry Rat), (∀ b ∈ bs, pget (f b) d = none) →
      ¬ (bs.any (fun b => hasAt (f b) d) = true) := by
    intro f h c
    obtain ⟨b, hb, hs⟩ := (hany f).mp c
    rw [h b hb] at hs; cases hs
  refine ⟨?_, ?_, ?_, ?_⟩
  · rintro rfl; rfl
  · rintro rfl h
    show scaleKindAt false bs d = _
    unfold scaleKindAt
    rw [if_neg (by decide), if_pos ((hany (·.amount)).mpr h)]
  · rintro rfl h1 h2
    show scaleKindAt false bs d = _
    unfold scaleKindAt
    rw [if_neg (by decide), if_neg (hnone (·.amount) h1), if_pos ((hany (·.averageRate)).mpr h2)]
  · rintro rfl h1 h2
    show scaleKindAt false bs d = _
    unfold scaleKindAt
    rw [if_neg (by decide), if_neg (hnone (·.amount) h1), if_neg (hnone (·.averageRate) h2)]

/-- The scale at `d` has strictly increasing thresholds, which are exactly the thresholds at `d`
    of the brackets whose threshold and value (rate / amount / average rate, by kind) are both
    defined at `d` — a bracket with a null or not-yet-started threshold or value is dropped —
    and stores for each threshold the sum of the values of the brackets that have it. -/
theorem C06_scale_brackets (m : Bool) (bs : List Bracket) (d : Int) :
    ((scaleAt m bs d).rows.map (·.1)).Pairwise (· < ·) ∧
    (∀ t, t ∈ (scaleAt m bs d).rows.map (·.1) ↔
        ∃ b ∈ bs, pget b.threshold d = some t ∧ ∃ x, pget (b.field (scaleAt m bs d).kind) d = some x) ∧
    (∀ t, rowVal (scaleAt m bs d).rows t = contribSum (scaleAt m bs d).kind d bs t) :=
  ⟨sorted_addAll _ d bs, mem_keys_addAll _ d bs, rowVal_addAll _ d bs⟩

example : (scaleAt false
    [⟨[⟨1, some 10⟩], [⟨1, some (1/2)⟩], [], []⟩,
     ⟨[⟨5, none⟩, ⟨1, some 0⟩], [⟨1, some (1/4)⟩], [], []⟩,
     ⟨[⟨3, some 10⟩], [⟨1, some (1/4)⟩], [], []⟩] 3).rows = [(0, 1/4), (10, 3/4)] := by decide +kernel
example : (scaleAt false
    [⟨[⟨1, some 10⟩], [⟨1, some (1/2)⟩], [], []⟩,
     ⟨[⟨5, none⟩, ⟨1, some 0⟩], [⟨1, some (1/4)⟩], [], []⟩] 5).rows = [(10, 1/2)] := by decide +kernel

end OFCore
