import OFCore.Lemmas.EngineBasic
import OFCore.GeneratedEngine
/-!
# C02 — the machine detects cycles and spirals, and purges, as the code's source says (translator tie)

`OFCore.Generated.Engine.checkForCycle` is regenerated on every run from the source of
`Simulation._check_for_cycle` (`harness/ofverif/translate.py`): the list comprehension over
`self.tracer.stack[:-1]`, the membership test that raises `CycleError`, the comparison with
`max_spiral_loops` that raises `SpiralError`.  The machine of `Engine.lean` keeps the frames BELOW the
current one in `s.stack` (it pushes the current frame only when it runs the formula), so `below = s.stack`.
-/
namespace OFCore.Engine
open OFCore.Generated
variable {P : Type} [DecidableEq P]

/-- the code's test, read off its source, is the test the machine performs -/
theorem C02_tie_cycle_test (stack : List (Node P)) (v : Nat) (p : P) (msl : Nat) :
    Engine.checkForCycle stack v p msl =
      if (v, p) ∈ stack then 1 else if msl ≤ (stack.filter (fun k => k.1 = v)).length then 2 else 0 := by
  unfold Engine.checkForCycle
  by_cases h : (v, p) ∈ stack
  · simp [h]
  · have hf : (stack.filter (fun k => k.1 == v)) = (stack.filter (fun k => decide (k.1 = v))) := by
      congr 1
    simp [h, hf]

/-- a request that misses the cache, has no input, and on which the code raises `CycleError`
    is refused by the machine with the cycle error, the state untouched -/
theorem C02_tie_run_cycle (sys : Sys P) (n : Nat) (s : St P) (v : Nat) (p : P)
    (hc : lookup s.cache (sys.slot (v, p)) = none) (hi : sys.input v p = none)
    (h : Engine.checkForCycle s.stack v p sys.msl = 1) :
    run sys (n + 1) s v p = some (.error .cycle, false, s) := by
  rw [C02_tie_cycle_test] at h
  by_cases hm : (v, p) ∈ s.stack
  · exact run_cycle hc hi hm
  · by_cases hs : sys.msl ≤ (s.stack.filter (fun k => k.1 = v)).length <;> simp [hm, hs] at h

/-- … and one on which the code raises `SpiralError` is answered by the machine with the default,
    flagged as substituted, not stored, the frames marked -/
theorem C02_tie_run_spiral (sys : Sys P) (n : Nat) (s : St P) (v : Nat) (p : P)
    (hc : lookup s.cache (sys.slot (v, p)) = none) (hi : sys.input v p = none)
    (h : Engine.checkForCycle s.stack v p sys.msl = 2) :
    run sys (n + 1) s v p = some (.ok (sys.dflt v), true,
      { s with inval := (v, p) :: markSpiral v (if sys.markAll then s.stack.length + 1 else sys.msl) s.stack ++ s.inval }) := by
  rw [C02_tie_cycle_test] at h
  by_cases hm : (v, p) ∈ s.stack
  · simp [hm] at h
  · by_cases hs : sys.msl ≤ (s.stack.filter (fun k => k.1 = v)).length
    · exact run_spiral hc hi hm hs
    · simp [hm, hs] at h

/-- … and when the code raises neither, the machine neither refuses nor substitutes: a variable
    without formula in force gets its default, cast and stored -/
theorem C02_tie_run_no_formula (sys : Sys P) (n : Nat) (s : St P) (v : Nat) (p : P)
    (hc : lookup s.cache (sys.slot (v, p)) = none) (hi : sys.input v p = none)
    (h : Engine.checkForCycle s.stack v p sys.msl = 0) (hf : sys.formula v p = none) :
    run sys (n + 1) s v p = some (.ok (sys.post v (sys.dflt v)), false,
      { s with cache := store sys s.cache (sys.slot (v, p)) (sys.post v (sys.dflt v)) false }) := by
  rw [C02_tie_cycle_test] at h
  by_cases hm : (v, p) ∈ s.stack
  · simp [hm] at h
  · by_cases hs : sys.msl ≤ (s.stack.filter (fun k => k.1 = v)).length
    · simp [hm, hs] at h
    · exact run_default ⟨hc, hi, hm, hs⟩ hf

example : Engine.checkForCycle [((1 : Nat), (5 : Nat)), (2, 5)] 1 5 1 = 1 := by decide
example : Engine.checkForCycle [((1 : Nat), (4 : Nat)), (2, 5)] 1 5 1 = 2 := by decide
example : Engine.checkForCycle [((1 : Nat), (4 : Nat)), (2, 5)] 3 5 1 = 0 := by decide

/-- `holder.delete_arrays(period)` of one marked (variable, period): its storage slot is dropped -/
def deleteSlot (sys : Sys P) (s : St P) (k : Node P) : St P :=
  { s with cache := s.cache.filter (fun e => !(e.1 == sys.slot k)) }

theorem foldl_deleteSlot (sys : Sys P) : ∀ (l : List (Node P)) (s : St P),
    l.foldl (deleteSlot sys) s =
      { s with cache := s.cache.filter (fun e => !((l.map sys.slot).contains e.1)) } := by
  intro l
  induction l with
  | nil =>
    intro s; cases s
    simp only [List.foldl_nil, List.map_nil, List.contains_nil, Bool.not_false]
    congr 1
    exact (List.filter_eq_self.mpr (fun _ _ => rfl)).symm
  | cons k r ih =>
    intro s
    rw [List.foldl_cons, ih]
    simp only [deleteSlot, List.filter_filter, List.map_cons, List.contains_cons]
    congr 1
    apply List.filter_congr
    intro e _
    cases h1 : (e.1 == sys.slot k) <;> cases h2 : (List.map sys.slot r).contains e.1 <;> simp

/-- **tie**: what a top-level request does after the run — purge when the stack is empty — is what the current
    source of `Simulation.purge_cache_of_invalid_values` does: nothing while a calculation is in progress, else
    delete the slot of every marked (variable, period) and reset the marks -/
theorem C02_tie_purge (sys : Sys P) (s : St P) :
    (if s.stack = [] then purge sys s else s) =
      Engine.purge_cache_of_invalid_values s.stack s.inval (deleteSlot sys) (fun st => { st with inval := [] }) s := by
  unfold Engine.purge_cache_of_invalid_values
  by_cases h : s.stack = []
  · simp [h, foldl_deleteSlot, purge]
  · simp [h]

end OFCore.Engine
