import OFCore.Props.C18
import OFCore.Lemmas.EngineTrace
import OFCore.Lemmas.HolderStore
/-!
# C17 — tracing and storage settings never change results

In the model the caching options are `Sys.noStore` (variables dropped by the memory
configuration, and blacklisted variables under `opt_out_cache`).  Where a stored value lives
(memory or a file keyed by the period's text — injective on the keys of one variable by
`C05_print_injective`) and whether the tracer is a `SimpleTracer` or a `FullTracer` do not appear
in the machine at all: neither is read by any decision of `Simulation._calculate`; that they are
indeed not read by the CODE is what the correspondence checks (all 2⁵ option subsets against the
plain run, values of every type through real files).

The value store itself is modelled separately (`HolderStore.lean`): a holder's memory store and
disk store, the rule that decides where a write goes (`Holder._set`: to disk only when the holder
is disk-storable, memory holds nothing for the key and memory occupation is above the threshold),
look-up memory first.  The last block proves that this two-tier store refines ONE finite map
whatever the pressure at each write — "moving values to disk under any memory configuration"
changes no read.
-/
set_option linter.unusedSectionVars false
namespace OFCore
open OFCore.Engine

variable {P : Type} [DecidableEq P]

/-- The meaning does not depend on what is cached. -/
theorem C17_meaning_config_free (a b : Sys P) (h : SameRules a b) (n : Nat) (v : Nat) (p : P) :
    den a n v p = den b n v p := by
  rw [← denE_ref, ← denE_ref]; exact denE_sameRules a b h n _

/-- Two simulations of the same rules under ANY two caching configurations, after ANY two request
    histories, return the same value for every request (DAG systems). -/
theorem C17_config_irrelevant (a b : Sys P) (h : SameRules a b) (hka : SlotCoherent a) (hkb : SlotCoherent b)
    (rk : Nat → Nat)
    (hra : VarRanked a rk) (hrb : VarRanked b rk) (ha : 1 ≤ a.msl) (hb : 1 ≤ b.msl) (n : Nat)
    (sa sb : St P) (hca : Cons a sa.cache) (hcb : Cons b sb.cache)
    (hsa : sa.stack = []) (hsb : sb.stack = []) (hia : sa.inval = []) (hib : sb.inval = [])
    (k : Node P) (r : Res) (hd : den a n k.1 k.2 = some r) :
    ∃ sa' sb', request a n sa k = some (r, false, sa') ∧ request b n sb k = some (r, false, sb') := by
  obtain ⟨sa', h1, _⟩ := C01_calculate_eq_den a hka rk hra ha n sa hca hsa hia k.1 k.2 r hd
  rw [C17_meaning_config_free a b h n k.1 k.2] at hd
  obtain ⟨sb', h2, _⟩ := C01_calculate_eq_den b hkb rk hrb hb n sb hcb hsb hib k.1 k.2 r hd
  exact ⟨sa', sb', h1, h2⟩

/-- a variable that is never cached is recomputed, with the same result -/
theorem C17_uncached_recomputed (sys : Sys P) (c : Cache P) (k : Node P) (x : Val) (g : Bool)
    (h : sys.noStore k.1 = true) : store sys c k x g = c := by
  simp [store, h]

/-- After every top-level request, successful or not, the evaluation stack is empty. -/
theorem C17_stack_empty (sys : Sys P) (n : Nat) (s : St P) (hs : s.stack = []) (k : Node P)
    (r : Res) (g : Bool) (s' : St P) (h : request sys n s k = some (r, g, s')) : s'.stack = [] :=
  (C02_stack_and_purge sys n s hs k r g s' h).1

/-- … and along any sequence of requests. -/
theorem C17_stack_empty_always (sys : Sys P) (n : Nat) : ∀ (ks : List (Node P)) (s : St P) (rs : List Res)
    (s' : St P), s.stack = [] → requests sys n s ks = some (rs, s') → s'.stack = [] :=
  requests_invariant sys n (fun s => s.stack = []) fun s k r g s1 hs h => C17_stack_empty sys n s hs k r g s1 h

/-- The recorded trace: the instrumented evaluator `runET` computes exactly what the machine
    computes and records, in order, exactly the variable-at-period reads of the formula — all of
    them, each with a value, when the calculation completes; a prefix ending at the failed read
    otherwise.  (`FullTracer` opens one child per `Simulation.calculate`; that the real tracer's
    children are these reads is checked by the correspondence against `readsOf`.) -/
theorem C17_trace_reads (sys : Sys P) (n : Nat) (e : Expr P) (s : St P) (r : Res) (g : Bool) (s' : St P)
    (t : List (Node P × Res)) (h : runET sys n s e = some (r, g, s', t)) :
    runE sys n s e = some (r, g, s') ∧ (t.map (·.1)) <+: refs e ∧
    ((∃ x, r = .ok x) → t.map (·.1) = refs e ∧ ∀ kr ∈ t, ∃ y, kr.2 = .ok y) := by
  have he := runET_erase sys n e s
  rw [h] at he
  exact ⟨he.symm, runET_reads sys n e s r g s' t h⟩

example : runET (faultySys false) 5 St.init (.op2 0 (.ref 0 0) (.ref 1 0)) =
    some (.ok [21], false, ⟨[((1, 0), ([11], false))], [], []⟩, [((0, 0), .ok [10]), ((1, 0), .ok [11])]) := by
  simp [runET, run, runE, faultySys, lookup, store, St.init, Sys.slot]

/-- Instrumenting the machine at every level changes nothing: `runL` computes what `run` computes. -/
theorem C17_trace_transparent (sys : Sys P) (n : Nat) (s : St P) (v : Nat) (p : P) :
    (runL sys n s v p).map eraseL = run sys n s v p := runL_erase sys n s v p

/-- The recorded trace, for ALL rule systems, inputs and states, successful request or not: EVERY
    calculation recorded during a request — at every depth — lists either no read at all or exactly
    the variable-at-period reads of the formula in force at its node, in order, each with the value
    returned (all of them when the calculation completed; when it failed, a prefix whose last read
    is the one that failed); every read listed is itself a recorded calculation carrying the same
    result; the first entry is the request itself with the result returned to the caller. -/
theorem C17_trace_every_calculation (sys : Sys P) (n : Nat) (s : St P) (v : Nat) (p : P) (r : Res) (g : Bool)
    (s' : St P) (l : Log P) (h : runL sys n s v p = some (r, g, s', l)) :
    (∀ en ∈ l, TraceOK sys en) ∧
    (∀ en ∈ l, ∀ kr ∈ en.2.2, ∃ t, (kr.1, kr.2, t) ∈ l) ∧
    (∃ t rest, l = ((v, p), r, t) :: rest) := by
  obtain ⟨t, rest, h3, ⟨h1, h2⟩, _⟩ := runL_entry sys n s v p r g s' l h
  exact ⟨h1, h2, t, rest, h3⟩

/-- A value served from the cache, an input, and the default of a variable without formula in
    force open no further calculation: their trace is the single entry, with no read. -/
theorem C17_trace_cached_read_has_no_children (sys : Sys P) (n : Nat) (s : St P) (v : Nat) (p : P) (r : Res) (g : Bool)
    (s' : St P) (l : Log P) (h : runL sys n s v p = some (r, g, s', l))
    (hc : lookup s.cache (sys.slot (v, p)) ≠ none ∨ sys.input v p ≠ none ∨ sys.formula v p = none) :
    l = [((v, p), r, [])] := by
  obtain ⟨t, rest, h3, h4⟩ := runL_head sys n s v p r g s' l h
  obtain ⟨rfl, rfl⟩ := h4 hc
  exact h3

/-- `v1 = v0 + (1 unless fault 7)` with input `v0 = 10`: the log of the request for `v1`, then of
    the same request again (served from the cache: one entry, no read) -/
example : runL (faultySys false) 5 St.init 1 0 =
    some (.ok [11], false, ⟨[((1, 0), ([11], false))], [], []⟩,
      [((1, 0), .ok [11], [((0, 0), .ok [10])]), ((0, 0), .ok [10], [])]) ∧
    runL (faultySys false) 5 ⟨[((1, 0), ([11], false))], [], []⟩ 1 0 =
    some (.ok [11], false, ⟨[((1, 0), ([11], false))], [], []⟩, [((1, 0), .ok [11], [])]) := by
  constructor <;> simp [runL, runLE, faultySys, lookup, store, St.init, Sys.slot]

section store
open OFCore.HolderStore
variable {Q K V : Type} [DecidableEq K]

/-- Refinement: after ANY history of writes and deletions, with the memory pressure taking ANY
    value at each write, a holder with or without a disk store shows exactly what a plain finite
    map shows after the same history. -/
theorem C17_store_refines_map (key : Q → K) (ops : List (Op Q V)) (h : Holder K V) :
    (h.run key ops).view = specRun key h.view ops := view_run key ops h

/-- Hence two holders that show the same values — one keeping everything in memory, the other
    moving values to disk under whatever pressure — show the same values after the same writes and
    deletions: every read returns the same array (or none). -/
theorem C17_memory_pressure_irrelevant (key : Q → K) (h₁ h₂ : Holder K V) (hv : h₁.view = h₂.view)
    (ops₁ ops₂ : List (Op Q V)) (hs : ops₁.map Op.plain = ops₂.map Op.plain) (p : Q) :
    (h₁.run key ops₁).get key p = (h₂.run key ops₂).get key p := by
  rw [get_eq_view, get_eq_view, C17_store_refines_map, C17_store_refines_map, hv,
    ← specRun_plain key ops₁, ← specRun_plain key ops₂, hs]

/-- The latest write wins, wherever the earlier value was and wherever the new one goes. -/
theorem C17_latest_write_wins (key : Q → K) (h : Holder K V) (p q : Q) (x : V) (pressure : Bool) :
    (h.set key p x pressure).get key q = if key q = key p then some x else h.get key q := by
  rw [get_eq_view, view_set]; rfl

/-- Deleting a period removes it from both tiers; deleting everything empties both. -/
theorem C17_delete_removes (key : Q → K) (h : Holder K V) (p q : Q) :
    (h.delete key (some p)).get key q = (if key q = key p then none else h.get key q) ∧
    (h.delete key none).get key q = none := by
  refine ⟨?_, ?_⟩
  · rw [get_eq_view, view_delete]; rfl
  · rw [get_eq_view, view_delete_all]

/-- The known periods are exactly the keys that read a value. -/
theorem C17_known_periods (h : Holder K V) (k : K) : k ∈ h.known ↔ h.view k ≠ none := known_iff h k

/-- a value written while memory was free, then replaced under pressure: the replacement is read
    (it replaces the value IN MEMORY); for an eternal variable every period reads it -/
example : ((({ diskable := true, mem := [], disk := [] } : Holder Nat Nat).set (fun _ : Nat => 0) 3 10 false).set
    (fun _ : Nat => 0) 7 20 true).get (fun _ : Nat => 0) 5 = some 20 := by decide

/-- why `_set` looks at the memory store first: sending the replacement to disk whenever there is
    pressure leaves the stale memory value in front of it -/
example : (let h : Holder Nat Nat := { diskable := true, mem := [(3, 10)], disk := [] }
    ({ h with disk := tput h.disk 3 20 } : Holder Nat Nat).get id 3) = some 10 := by decide

end store

end OFCore
