import OFCore.Lemmas.EnumOps
import OFCore.Lemmas.EnumDecl
/-!
# C15 — enum values survive encoding and decoding; invalid ones are rejected

Theorems about the model `OFCore/EnumCodec.lean` (repaired tree): `Enum.encode`,
`EnumArray.decode` and `EnumArray.decode_to_str` (the name lookup, the round trips, what is
refused); then re-indexing (`EnumArray.take`), the operators `==`, `!=` and the forbidden ones
(`eqOp`, `neOp`, `forbiddenOp`), and an enumeration declared with aliases (`declare`, `memberOf?`).
They hold for every enumeration (any number of members, any declaration order of the names) and
every input (any length, any container, any mix of element kinds). Vocabulary (defined in the
model file):

* `Elem.Designates e el` — `el` designates a member of `e`: an integer `0 ≤ v < n`, a declared
  name, an instance of the class; `Elem.index e el` — the index of that member (for a name:
  lookup by name, `nameIndex?`);
* `Input.Rejected e x` — the exact set of inputs the repaired `encode` refuses;
* `Input.WF e x` — every `Enum` instance of class `e` in `x` carries an index `< n` (a fact of
  the Python object model; it fails only for a different enumeration declared under the same
  class name, finding F-C15b); `Input.NotForeignArray e x` — `x` is not an `EnumArray` of
  another enumeration (which `encode` hands back untouched).
-/
namespace OFCore
open EnumCodec

private def exE : Enumeration := ⟨0, ["b", "a", "c"]⟩

/-- **Name lookup through `argsort` + `searchsorted` is lookup by name.** For distinct names,
`sorter[searchsorted(names, v, sorter=sorter)]` (insertion sort + leftmost binary search) is the
position of `v` in the declaration order.  (The proof does not use `hnd`: the sort is stable, so the first
position holding `v` is found whether the names are distinct or not, `lookupSorted_first`.) -/
theorem C15_search_eq_lookup (names : List String) (hnd : names.Nodup) (v : String)
    (hv : v ∈ names) :
    ∃ i, nameIndex? names v = some i ∧ lookupSorted names v = .ok i ∧ names[i]? = some v :=
  lookupSorted_first names v hv

example : ["b", "a", "c"].Nodup ∧ "c" ∈ ["b", "a", "c"] ∧ lookupSorted ["b", "a", "c"] "c" = .ok 2 ∧
    argsort ["b", "a", "c"] = [1, 0, 2] := by decide +kernel

/-- **Round trip.** Every accepted input (names, indices or members; list, tuple or array; any
length) is encoded element by element to the index of the member each element designates;
decoding gives back exactly those members, and their names, in the same order. -/
theorem C15_decode_encode (e : Enumeration) (hnd : e.names.Nodup) (x : Input) (hwf : x.WF e)
    (hown : x.NotForeignArray e) (hok : ¬ x.Rejected e) :
    ∃ a, encode e x = .ok a ∧ a.owner = e.cid ∧
      a.idx = x.elems.map (Elem.index e) ∧
      decode e a = .ok (x.elems.map fun el => Elem.member e.cid (el.index e)) ∧
      decodeToStr e a = .ok (x.elems.map fun el => e.names.getD (el.index e) "") := by
  obtain ⟨henc, hdec, hstr⟩ := round_trip e (f := id) (List.map_id _).symm hwf hown hok
  exact ⟨_, henc, rfl, rfl, hdec, hstr⟩

example : exE.names.Nodup ∧ (Input.seq [.str "c", .str "a", .str "c"]).WF exE ∧
    (Input.seq [.str "c", .str "a", .str "c"]).NotForeignArray exE ∧
    ¬ (Input.seq [.str "c", .str "a", .str "c"]).Rejected exE ∧
    encode exE (.seq [.str "c", .str "a", .str "c"]) = .ok ⟨0, [2, 1, 2]⟩ ∧
    decodeToStr exE ⟨0, [2, 1, 2]⟩ = .ok ["c", "a", "c"] := by decide +kernel

/-- Round trip for **names**: a list/tuple or a `str_` array of declared names decodes to the
same names in the same order (and to the members of those names). -/
theorem C15_decode_encode_names (e : Enumeration) (hnd : e.names.Nodup) (ss : List String)
    (h : ∀ s ∈ ss, s ∈ e.names) (x : Input) (hx : x = .seq (ss.map .str) ∨ x = .strArr ss) :
    ∃ a, encode e x = .ok a ∧ a.owner = e.cid ∧ a.idx.length = ss.length ∧
      decodeToStr e a = .ok ss ∧
      decode e a = .ok (ss.map fun s => Elem.member e.cid ((nameIndex? e.names s).getD 0)) := by
  obtain ⟨helems, hown, hok⟩ : x.elems = ss.map .str ∧ x.NotForeignArray e ∧ ¬ x.Rejected e := by
    rcases hx with rfl | rfl
    · exact ⟨rfl, trivial, not_rejected_seq_map (fun _ => rfl) h⟩
    · exact ⟨rfl, trivial, not_rejected_strArr.mpr h⟩
  obtain ⟨henc, hdec, hstr⟩ := round_trip e helems (fun _ _ => trivial) hown hok
  refine ⟨_, henc, rfl, List.length_map _, hstr.trans (congrArg _ ?_), hdec⟩
  exact (List.map_congr_left fun s hs => List.getD_eq_getElem?_getD.trans
    (congrArg (Option.getD · "") (getElem?_nameIndex? (h s hs)))).trans (List.map_id _)

example : (∀ s ∈ ["c", "a"], s ∈ exE.names) ∧
    encode exE (.strArr ["c", "a"]) = .ok ⟨0, [2, 1]⟩ ∧
    decode exE ⟨0, [2, 1]⟩ = .ok [.member 0 2, .member 0 1] := by decide +kernel

/-- Round trip for **indices**: a list/tuple or an integer array (any dtype) of indices within
`0 ≤ v < n` is encoded to itself and decodes to the members with those indices. -/
theorem C15_decode_encode_indices (e : Enumeration) (vs : List Int)
    (h : ∀ v ∈ vs, 0 ≤ v ∧ v < (e.size : Int)) (x : Input)
    (hx : x = .seq (vs.map .int) ∨ x = .intArr vs) :
    ∃ a, encode e x = .ok a ∧ a.owner = e.cid ∧ a.idx = vs.map Int.toNat ∧
      decode e a = .ok (vs.map fun v => Elem.member e.cid v.toNat) := by
  obtain ⟨helems, hown, hok⟩ : x.elems = vs.map .int ∧ x.NotForeignArray e ∧ ¬ x.Rejected e := by
    rcases hx with rfl | rfl
    · exact ⟨rfl, trivial, not_rejected_seq_map (fun _ => rfl) h⟩
    · exact ⟨rfl, trivial, not_rejected_intArr.mpr h⟩
  obtain ⟨henc, hdec, _⟩ := round_trip e helems (fun _ _ => trivial) hown hok
  exact ⟨_, henc, rfl, rfl, hdec⟩

example : (∀ v ∈ [2, 0, (1 : Int)], 0 ≤ v ∧ v < (exE.size : Int)) ∧
    encode exE (.intArr [2, 0, 1]) = .ok ⟨0, [2, 0, 1]⟩ := by decide +kernel

/-- Round trip for **members**: a list/tuple or an object array of members of the enumeration
decodes to the very same members in the same order. -/
theorem C15_decode_encode_members (e : Enumeration) (is : List Nat) (h : ∀ i ∈ is, i < e.size)
    (x : Input)
    (hx : x = .seq (is.map (Elem.member e.cid)) ∨ x = .objArr (is.map (Elem.member e.cid))) :
    ∃ a, encode e x = .ok a ∧ a.owner = e.cid ∧ a.idx = is ∧ decode e a = .ok x.elems := by
  obtain ⟨helems, hown, hok⟩ :
      x.elems = is.map (Elem.member e.cid) ∧ x.NotForeignArray e ∧ ¬ x.Rejected e := by
    rcases hx with rfl | rfl
    · exact ⟨rfl, trivial, not_rejected_seq_map (fun _ => rfl) fun _ _ => rfl⟩
    · exact ⟨rfl, trivial, not_rejected_objArr.mpr (List.forall_mem_map.mpr fun _ _ => beq_self_eq_true _)⟩
  obtain ⟨henc, hdec, _⟩ := round_trip e helems (fun i hi _ => h i hi) hown hok
  rw [show (is.map fun i => (Elem.member e.cid i).index e) = is from List.map_id _] at henc hdec
  exact ⟨_, henc, rfl, rfl, helems ▸ hdec⟩

example : (∀ i ∈ [1, 1, 2], i < exE.size) ∧
    encode exE (.objArr [.member 0 1, .member 0 1, .member 0 2]) = .ok ⟨0, [1, 1, 2]⟩ ∧
    decode exE ⟨0, [1, 1, 2]⟩ = .ok [.member 0 1, .member 0 1, .member 0 2] := by decide +kernel

/-- **An encoded array only holds indices that designate members** (and is tagged with the
enumeration). -/
theorem C15_encoded_valid (e : Enumeration) (x : Input) (a : EnumArray) (hwf : x.WF e)
    (hown : x.NotForeignArray e) (h : encode e x = .ok a) :
    a.owner = e.cid ∧ ∀ i ∈ a.idx, i < e.size := by
  obtain ⟨hok, rfl⟩ := (encode_ok_iff hown).mp h
  exact ⟨rfl, List.forall_mem_map.mpr fun el hel =>
    index_lt_size (hwf el hel) (designates_of_not_rejected hown hok el hel)⟩

example : (Input.seq [.int 2, .int 0]).WF exE ∧ (Input.seq [.int 2, .int 0]).NotForeignArray exE ∧
    encode exE (.seq [.int 2, .int 0]) = .ok ⟨0, [2, 0]⟩ := by decide +kernel

/-- **Encoding an already encoded array changes nothing**: the `EnumArray` itself is handed
back, and re-encoding the plain index array it holds gives the same array again. -/
theorem C15_encode_idempotent (e : Enumeration) (x : Input) (a : EnumArray)
    (h : encode e x = .ok a) :
    encode e (.encoded a) = .ok a ∧
    (x.WF e → x.NotForeignArray e → encode e (.intArr (a.idx.map Int.ofNat)) = .ok a) := by
  refine ⟨rfl, fun hwf hown => ?_⟩
  obtain ⟨ho, hv⟩ := C15_encoded_valid e x a hwf hown h
  have hvalid : ∀ v ∈ a.idx.map Int.ofNat, 0 ≤ v ∧ v < (e.size : Int) :=
    List.forall_mem_map.mpr fun i hi => ⟨Int.natCast_nonneg i, Int.ofNat_lt.mpr (hv i hi)⟩
  rw [encode_intArr, if_neg (not_rejected_intArr.mpr hvalid), List.map_map, ← ho]
  exact congrArg (fun is => Except.ok (EnumArray.mk a.owner is)) (List.map_id a.idx)

example : encode exE (.seq [.str "c", .str "b"]) = .ok ⟨0, [2, 0]⟩ ∧
    encode exE (.encoded ⟨0, [2, 0]⟩) = .ok ⟨0, [2, 0]⟩ ∧
    encode exE (.intArr [2, 0]) = .ok ⟨0, [2, 0]⟩ := by decide +kernel

/-- **`encode` raises exactly on the rejected inputs** (`Input.Rejected`): for a non-empty
sequence, some element designates no member (unknown name, index `< 0` or `≥ n`, instance of
another enumeration, unsupported kind) or the kinds are mixed; for a non-empty integer / string
array, some element designates no member; for a non-empty object array, some element is not an
instance of the enumeration; for a non-empty array of any other dtype, always. An `EnumArray`
and an empty input of any container are never refused. -/
theorem C15_error_iff (e : Enumeration) (x : Input) :
    (∃ m, encode e x = .error m) ↔ x.Rejected e := by
  obtain ⟨m, h⟩ := encode_eq e x
  rw [h]
  by_cases hr : x.Rejected e
  · rw [if_pos hr]; exact ⟨fun _ => hr, fun _ => ⟨m, rfl⟩⟩
  · rw [if_neg hr]; exact ⟨fun ⟨_, h⟩ => (nomatch h), fun h => absurd h hr⟩

example : (Input.seq [.int 1, .int (-1)]).Rejected exE ∧ (Input.seq [.int 0, .int 3]).Rejected exE ∧
    (Input.seq [.str "a", .str "d"]).Rejected exE ∧ (Input.seq [.member 0 1, .member 1 0]).Rejected exE ∧
    (Input.objArr [.member 0 1, .member 1 0]).Rejected exE ∧ (Input.seq [.other]).Rejected exE ∧
    (Input.seq [.str "a", .int 0]).Rejected exE ∧ (Input.objArr [.str "a"]).Rejected exE ∧
    (Input.intArr [-128]).Rejected exE ∧ (Input.otherArr 1).Rejected exE ∧
    ¬ (Input.seq []).Rejected exE ∧ ¬ (Input.otherArr 0).Rejected exE ∧
    ¬ (Input.seq [.str "a", .str "b"]).Rejected exE ∧
    encode exE (.seq [.int 1, .int (-1)]) = .error "EnumMemberNotFoundError" ∧
    encode exE (.seq [.str "a", .int 0]) = .error "EnumEncodingError" := by decide +kernel

/-- **Anything that is not a member makes `encode` raise**: whatever the container (other than
an `EnumArray`), if some element designates no member — unknown name, index outside the range
on either side, member of another enumeration, unsupported element type — the call errs. -/
theorem C15_nonmember_raises (e : Enumeration) (x : Input) (hraw : ∀ a, x ≠ .encoded a)
    (el : Elem) (hel : el ∈ x.elems) (hnd : ¬ el.Designates e) : ∃ m, encode e x = .error m :=
  (C15_error_iff e x).mpr <| Decidable.by_contra fun hok =>
    hnd (designates_of_not_rejected (notForeignArray_of_raw hraw) hok el hel)

example : Elem.member 1 0 ∈ (Input.seq [.member 0 2, .member 1 0]).elems ∧
    ¬ (Elem.member 1 0).Designates exE ∧ ¬ (Elem.int 3).Designates exE ∧ ¬ (Elem.int (-1)).Designates exE ∧
    ¬ (Elem.str "B").Designates exE ∧ ¬ Elem.other.Designates exE := by decide +kernel

/-- **Mixed sequences are refused**, even when every element designates a member. -/
theorem C15_mixed_raises (e : Enumeration) (xs : List Elem) (a b : Elem) (ha : a ∈ xs) (hb : b ∈ xs)
    (hab : a.kind ≠ b.kind) : ∃ m, encode e (.seq xs) = .error m :=
  (C15_error_iff e _).mpr ⟨List.ne_nil_of_mem ha, Or.inr (fun hk => hab (hk a ha b hb))⟩

example : (Elem.str "a").Designates exE ∧ (Elem.int 0).Designates exE ∧
    (Elem.str "a").kind ≠ (Elem.int 0).kind := by decide +kernel

/-- **Empty inputs** of every container give the empty array of the enumeration. -/
theorem C15_empty_accepted (e : Enumeration) (x : Input) (hraw : ∀ a, x ≠ .encoded a)
    (h0 : x.len = 0) : encode e x = .ok ⟨e.cid, []⟩ := by
  cases x with
  | encoded a => exact absurd rfl (hraw a)
  | scalarArr el => cases h0
  | _ => exact if_pos h0

example : (Input.otherArr 0).len = 0 ∧ encode exE (.otherArr 0) = .ok ⟨0, []⟩ := by decide +kernel

/-- **A 0-dimensional array is refused whatever it holds** (`len()` of an unsized object): it is
not a sequence of elements. -/
theorem C15_scalar_array_raises (e : Enumeration) (el : Elem) :
    ∃ m, encode e (.scalarArr el) = .error m := ⟨_, rfl⟩

example : encode exE (.scalarArr (.int 1)) = .error "TypeError" := by decide +kernel

/-- **Decoding commutes with re-indexing.** Whatever positions are selected from an encoded
array through the ndarray API (a slice, a reversed view, a boolean mask, an index array, `take`,
`repeat`, a copy), the result is an array of the same enumeration that decodes to the members
(names) found at those positions of the decoded original, in the order selected. -/
theorem C15_decode_take (e : Enumeration) (a : EnumArray) (ms : List Elem) (ns : List String)
    (positions : List Nat) (hpos : ∀ p ∈ positions, p < a.idx.length)
    (hd : decode e a = .ok ms) (hs : decodeToStr e a = .ok ns) :
    ∃ b, a.take positions = .ok b ∧ b.owner = a.owner ∧
      decode e b = .ok (positions.filterMap (fun p => ms[p]?)) ∧
      decodeToStr e b = .ok (positions.filterMap (fun p => ns[p]?)) := by
  obtain ⟨hall, hms⟩ := decode_ok_iff.mp hd
  obtain ⟨_, hns⟩ := decodeToStr_ok_iff.mp hs
  have hsel : ∀ i ∈ positions.filterMap (fun p => a.idx[p]?), i < e.size :=
    fun i hi => hall i (mem_filterMap_getElem? hi)
  refine ⟨_, take_ok a positions hpos, rfl, ?_, ?_⟩
  · rw [decode_ok_iff.mpr ⟨hsel, rfl⟩, hms, filterMap_getElem?_map]
  · rw [decodeToStr_ok_iff.mpr ⟨hsel, rfl⟩, hns, filterMap_getElem?_map]

example : decode exE ⟨0, [2, 1, 0, 1]⟩ = .ok [.member 0 2, .member 0 1, .member 0 0, .member 0 1] ∧
    (∀ p ∈ [3, 3, 0], p < (⟨0, [2, 1, 0, 1]⟩ : EnumArray).idx.length) ∧
    (⟨0, [2, 1, 0, 1]⟩ : EnumArray).take [3, 3, 0] = .ok ⟨0, [1, 1, 2]⟩ ∧
    decodeToStr exE ⟨0, [1, 1, 2]⟩ = .ok ["a", "a", "c"] := by decide +kernel

/-- **Comparing an encoded array with a member is the pointwise test "this element is that
member"**: for every accepted input, `encode(x) == m` is true exactly at the positions whose
element designates `m`, `!=` is its complement, and both agree with a comparison of the decoded
members. -/
theorem C15_eq_member (e : Enumeration) (hnd : e.names.Nodup) (x : Input) (hwf : x.WF e)
    (hown : x.NotForeignArray e) (hok : ¬ x.Rejected e) (m : Nat) :
    ∃ a ms, encode e x = .ok a ∧ decode e a = .ok ms ∧
      eqOp e.size a (.elem (.member e.cid m)) = .ok (.vec (x.elems.map fun el => el.index e == m)) ∧
      neOp e.size a (.elem (.member e.cid m)) = .ok (.vec (x.elems.map fun el => !(el.index e == m))) ∧
      eqOp e.size a (.elem (.member e.cid m)) = .ok (.vec (ms.map fun d => d == Elem.member e.cid m)) := by
  obtain ⟨a, henc, hown', hidx, hdec, _⟩ := C15_decode_encode e hnd x hwf hown hok
  have heq : eqOp e.size a (.elem (.member e.cid m))
      = .ok (.vec (x.elems.map fun el => el.index e == m)) := by
    rw [eqOp_member_own hown'.symm, hidx, List.map_map]
    rfl
  refine ⟨a, _, henc, hdec, heq, ?_, eqOp_member_decoded hown' hdec m⟩
  simp only [neOp, heq, CmpRes.not, List.map_map, Function.comp_def]

example : encode exE (.seq [.str "c", .str "a", .str "c"]) = .ok ⟨0, [2, 1, 2]⟩ ∧
    eqOp 3 ⟨0, [2, 1, 2]⟩ (.elem (.member 0 2)) = .ok (.vec [true, false, true]) ∧
    neOp 3 ⟨0, [2, 1, 2]⟩ (.elem (.member 0 2)) = .ok (.vec [false, true, false]) := by decide +kernel

/-- the same for any array that decodes (whatever produced it): `a == m` tests the decoded
members; a member of ANOTHER enumeration equals nothing; an integer is compared with the indices;
a string, a float, `None` equal nothing; none of these comparisons raises and the answer has one
element per element of the array. -/
theorem C15_eq_scalar (e : Enumeration) (n : Nat) (a : EnumArray) (ho : a.owner = e.cid) :
    (∀ ms m, decode e a = .ok ms →
      eqOp n a (.elem (.member e.cid m)) = .ok (.vec (ms.map fun d => d == Elem.member e.cid m))) ∧
    (∀ c i, c ≠ a.owner → eqOp n a (.elem (.member c i)) = .ok (.vec (List.replicate a.idx.length false))) ∧
    (∀ v : Int, eqOp n a (.elem (.int v)) = .ok (.vec (a.idx.map fun (j : Nat) => decide ((j : Int) = v)))) ∧
    (∀ s, eqOp n a (.elem (.str s)) = .ok (.vec (List.replicate a.idx.length false))) ∧
    eqOp n a (.elem .other) = .ok (.vec (List.replicate a.idx.length false)) ∧
    eqOp n a .none_ = .ok (.scalar false) ∧ neOp n a .none_ = .ok (.scalar true) ∧
    (∀ x : Elem, ∃ bs, eqOp n a (.elem x) = .ok (.vec bs) ∧ bs.length = a.idx.length) := by
  refine ⟨fun ms m hd => eqOp_member_decoded ho hd m, fun c i hc => eqOp_member_foreign hc i,
    fun v => rfl, ?_, ?_, rfl, rfl, ?_⟩
  · intro s; simp only [eqOp, List.map_const']
  · simp only [eqOp, List.map_const']
  · intro x
    cases x with
    | member c i =>
      by_cases hc : c = a.owner
      · exact ⟨_, eqOp_member_own hc i, List.length_map _⟩
      · exact ⟨_, eqOp_member_foreign hc i, List.length_replicate⟩
    | _ => exact ⟨_, rfl, List.length_map _⟩

example : decode exE ⟨0, [2, 1, 2]⟩ = .ok [.member 0 2, .member 0 1, .member 0 2] ∧
    eqOp 3 ⟨0, [2, 1, 2]⟩ (.elem (.member 1 2)) = .ok (.vec [false, false, false]) ∧
    eqOp 3 ⟨0, [2, 1, 2]⟩ (.elem (.int 1)) = .ok (.vec [false, true, false]) ∧
    eqOp 3 ⟨0, [2, 1, 2]⟩ (.elem (.int (-1))) = .ok (.vec [false, false, false]) := by decide +kernel

/-- **`!=` is the complement of `==`**, operand by operand, errors included; complementing twice
gives `==` back. -/
theorem C15_ne_complement (n : Nat) (a : EnumArray) (o : Operand) :
    (∀ r, eqOp n a o = .ok r → neOp n a o = .ok r.not) ∧
    (∀ m, eqOp n a o = .error m → neOp n a o = .error m) ∧
    (∀ r : CmpRes, r.not.not = r) := by
  refine ⟨fun r h => by simp only [neOp, h], fun m h => by simp only [neOp, h], ?_⟩
  intro r
  cases r with
  | vec bs => simp [CmpRes.not, List.map_map, Function.comp_def]
  | scalar b => simp [CmpRes.not]

/-- **Two encoded arrays of the same length are compared index by index** (whatever their
enumerations), symmetrically; an array equals itself everywhere; lengths that numpy cannot
broadcast (different, neither of them 1) raise. -/
theorem C15_eq_arrays (n n' : Nat) (a b : EnumArray) :
    (a.idx.length = b.idx.length →
      eqOp n a (.arr b) = .ok (.vec (List.zipWith (fun i j => i == j) a.idx b.idx)) ∧
      eqOp n a (.arr b) = eqOp n' b (.arr a)) ∧
    eqOp n a (.arr a) = .ok (.vec (List.replicate a.idx.length true)) ∧
    (a.idx.length ≠ b.idx.length → a.idx.length ≠ 1 → b.idx.length ≠ 1 →
      ∃ m, eqOp n a (.arr b) = .error m) := by
  refine ⟨fun h => ?_, ?_, fun hne ha hb => ?_⟩
  · have h1 := eqOp_arr_ok (n := n) (bcastEq_same (fun i j => i == j) a.idx b.idx h)
    refine ⟨h1, ?_⟩
    rw [h1, eqOp_arr_ok (bcastEq_same _ _ _ h.symm),
      List.zipWith_comm_of_comm (fun i j : Nat => Bool.beq_comm)]
  · rw [eqOp_arr_ok (bcastEq_same _ _ _ rfl), List.zipWith_self]
    simp only [beq_self_eq_true, List.map_const']
  · obtain ⟨m, hm⟩ := bcastEq_error (fun i j => i == j) a.idx b.idx hne ha hb
    exact ⟨m, eqOp_arr_error hm⟩

example : eqOp 3 ⟨0, [2, 1, 2]⟩ (.arr ⟨1, [2, 2, 2]⟩) = .ok (.vec [true, false, true]) ∧
    eqOp 3 ⟨0, [2, 1, 2]⟩ (.arr ⟨0, [1]⟩) = .ok (.vec [false, true, false]) ∧
    (∃ m, eqOp 3 ⟨0, [2, 1, 2]⟩ (.arr ⟨0, [1, 2]⟩) = .error m) := ⟨by decide +kernel, by decide +kernel, ⟨_, rfl⟩⟩

/-- **Comparison with the enumeration class itself** (`array == Housing`): for a non-empty array
of valid indices whose greatest index is `mx`, the array is compared (numpy broadcasting) with
`0, 1, …, mx`; an empty array raises (`max()` of nothing). -/
theorem C15_eq_class (n : Nat) (a : EnumArray) (k : Nat) (hv : ∀ i ∈ a.idx, i < n) :
    (a.idx = [] → ∃ m, eqOp n a (.cls a.owner k) = .error m) ∧
    (a.idx ≠ [] → ∃ mx, mx ∈ a.idx ∧ (∀ j ∈ a.idx, j ≤ mx) ∧
      (∀ bs, bcastEq (fun i j => i == j) a.idx (List.range (mx + 1)) = .ok bs →
        eqOp n a (.cls a.owner k) = .ok (.vec bs)) ∧
      (∀ m, bcastEq (fun i j => i == j) a.idx (List.range (mx + 1)) = .error m →
        eqOp n a (.cls a.owner k) = .error m) ∧
      (a.idx.length = mx + 1 →
        eqOp n a (.cls a.owner k) = .ok (.vec (List.zipWith (fun i j => i == j) a.idx (List.range (mx + 1)))))) := by
  constructor
  · intro h
    simp only [eqOp, if_true, h, maxIdx]
    exact ⟨_, rfl⟩
  · intro h
    obtain ⟨mx, hmx⟩ := maxIdx_isSome a.idx h
    obtain ⟨hmem, hle⟩ := maxIdx_spec a.idx mx hmx
    have hcl {r} := eqOp_cls_own (r := r) hmx (hv mx hmem) k
    exact ⟨mx, hmem, hle, fun bs hb => hcl hb, fun m hm => hcl hm,
      fun hlen => hcl (bcastEq_same _ _ _ (hlen.trans List.length_range.symm))⟩

example : eqOp 3 ⟨0, [2, 1, 2]⟩ (.cls 0 3) = .ok (.vec [false, true, true]) ∧
    eqOp 3 ⟨0, [1]⟩ (.cls 0 3) = .ok (.vec [false, true]) ∧
    (∃ m, eqOp 3 ⟨0, []⟩ (.cls 0 3) = .error m) := ⟨by decide +kernel, by decide +kernel, ⟨_, rfl⟩⟩

/-- **Arithmetic, ordering and bitwise operators on an `EnumArray` raise**, whatever the operands:
the only operations allowed are `==` and `!=`. -/
theorem C15_forbidden_ops_raise (op : ForbiddenOp) (a : EnumArray) (o : Operand) :
    ∃ m, forbiddenOp op a o = .error m := ⟨_, rfl⟩

example : forbiddenOp .add ⟨0, [2, 1]⟩ (.elem (.int 1)) = .error "TypeError: Forbidden operation" := rfl

/-- **A class body with aliases declares the enumeration of its canonical members.**  For bindings
`name = value` with distinct names, a name bound to an already used value being an alias:
the names table (`_member_names_`) has no repetition, one entry per distinct value; every name,
canonical or alias, denotes a member whose index is within the table and whose value is the value
the name is bound to; and **the index `Enum.__init__` gives a canonical member is its position in
the names table** (so names, members and indices designate the same member, whatever aliases are
declared before it).  A name that is not in the table — an alias — is not a member name:
`encode` refuses it like any unknown name. -/
theorem C15_declaration_with_aliases (cid : Nat) (bs : List (String × Nat))
    (hnd : (bs.map Prod.fst).Nodup) :
    (declared cid bs).names.Nodup ∧ (declare bs).values.Nodup ∧
    (declare bs).values.length = (declared cid bs).size ∧
    (declare bs).members.map Prod.fst = bs.map Prod.fst ∧
    (∀ nm v, (nm, v) ∈ bs → ∃ i, memberOf? bs nm = some i ∧ i < (declared cid bs).size ∧
      (declare bs).values[i]? = some v) ∧
    (∀ k nm, (declared cid bs).names[k]? = some nm → memberOf? bs nm = some k) ∧
    (∀ nm, nm ∉ (declared cid bs).names → ∀ xs, Elem.str nm ∈ xs →
      ∃ m, encode (declared cid bs) (.seq xs) = .error m) := by
  have inv := declInv_declare bs hnd
  refine ⟨inv.nnd, inv.vnd, inv.len, inv.mnames, ?_, ?_, ?_⟩
  · intro nm v hmem
    obtain ⟨i, hmi, hv⟩ := inv.val nm v hmem
    exact ⟨i, memberOf?_of_mem hnd hmi,
      Nat.lt_of_lt_of_eq (List.getElem?_eq_some_iff.mp hv).1 inv.len, hv⟩
  · exact fun k nm hk =>
      memberOf?_of_mem hnd (inv.canon (nm, k) (List.mem_zipIdx_iff_getElem?.mpr hk))
  · exact fun nm hnm xs hxs =>
      C15_nonmember_raises (declared cid bs) (.seq xs) (fun a h => by cases h) (.str nm) hxs hnm

/-- A = 'x'; B = 'x' (alias of A); C = 'y'; D = 'z'; E = 'y' (alias of C): three members A, C, D with
indices 0, 1, 2; `cls['B']` is A, `cls['E']` is C; the name 'B' is not encoded -/
example : (declare [("A", 7), ("B", 7), ("C", 8), ("D", 9), ("E", 8)]).names = ["A", "C", "D"] ∧
    (declare [("A", 7), ("B", 7), ("C", 8), ("D", 9), ("E", 8)]).members
      = [("A", 0), ("B", 0), ("C", 1), ("D", 2), ("E", 1)] ∧
    memberOf? [("A", 7), ("B", 7), ("C", 8), ("D", 9), ("E", 8)] "E" = some 1 ∧
    encode (declared 0 [("A", 7), ("B", 7), ("C", 8), ("D", 9), ("E", 8)]) (.seq [.str "D", .str "C"]) = .ok ⟨0, [2, 1]⟩ ∧
    encode (declared 0 [("A", 7), ("B", 7), ("C", 8), ("D", 9), ("E", 8)]) (.seq [.str "A", .str "B"])
      = .error "EnumMemberNotFoundError" := by decide +kernel

/-- **Round trip for an enumeration declared with aliases**: the canonical members are the
members; every accepted input decodes to the members (names) its elements designate. -/
theorem C15_decode_encode_declared (cid : Nat) (bs : List (String × Nat)) (hnd : (bs.map Prod.fst).Nodup)
    (x : Input) (hwf : x.WF (declared cid bs)) (hown : x.NotForeignArray (declared cid bs))
    (hok : ¬ x.Rejected (declared cid bs)) :
    ∃ a, encode (declared cid bs) x = .ok a ∧ a.owner = cid ∧
      a.idx = x.elems.map (Elem.index (declared cid bs)) ∧ (∀ i ∈ a.idx, i < (declare bs).values.length) ∧
      decode (declared cid bs) a = .ok (x.elems.map fun el => Elem.member cid (el.index (declared cid bs))) ∧
      decodeToStr (declared cid bs) a
        = .ok (x.elems.map fun el => (declare bs).names.getD (el.index (declared cid bs)) "") := by
  obtain ⟨hn, _, hl, _⟩ := C15_declaration_with_aliases cid bs hnd
  obtain ⟨a, h1, h2, h3, h4, h5⟩ := C15_decode_encode (declared cid bs) hn x hwf hown hok
  refine ⟨a, h1, h2, h3, ?_, h4, h5⟩
  intro i hi
  rw [hl]
  exact (C15_encoded_valid (declared cid bs) x a hwf hown h1).2 i hi

end OFCore

#print axioms OFCore.C15_search_eq_lookup
#print axioms OFCore.C15_decode_encode
#print axioms OFCore.C15_decode_encode_names
#print axioms OFCore.C15_decode_encode_indices
#print axioms OFCore.C15_decode_encode_members
#print axioms OFCore.C15_encoded_valid
#print axioms OFCore.C15_encode_idempotent
#print axioms OFCore.C15_error_iff
#print axioms OFCore.C15_nonmember_raises
#print axioms OFCore.C15_mixed_raises
#print axioms OFCore.C15_empty_accepted
#print axioms OFCore.C15_scalar_array_raises
#print axioms OFCore.C15_decode_take
#print axioms OFCore.C15_eq_member
#print axioms OFCore.C15_eq_scalar
#print axioms OFCore.C15_ne_complement
#print axioms OFCore.C15_eq_arrays
#print axioms OFCore.C15_eq_class
#print axioms OFCore.C15_forbidden_ops_raise
#print axioms OFCore.C15_declaration_with_aliases
#print axioms OFCore.C15_decode_encode_declared
