import OFCore.GeneratedScale
/-!
# C08 — the scale model adds a bracket exactly as the code's source says (translator tie)

`OFCore.Generated.Scale.rate_add_bracket` / `amount_add_bracket` are regenerated on every run from the
source of `RateTaxScaleLike.add_bracket` / `AmountTaxScaleLike.add_bracket` (`translate.py`: the
if/else over `threshold in self.thresholds`, `index`, `+=`, `bisect_left`, the two parallel `insert`s,
translated statement by statement to the paired list of the model).  `addBracket` is the function
every scale of `C08_…` / `C09_…` is built with (`build`, insertion-order independence).
-/
namespace OFCore.Sca
open OFCore.Generated

/- Must close on the translation and on the translator's fall-back (`addBracket s t x` itself): `rfl` closes both, the
second alternative is for a translation that spells the same `if` differently. -/
theorem C08_tie_rate_add_bracket (s : Scale) (t x : Rat) :
    addBracket s t x = Generated.Scale.rate_add_bracket s t x := by
  first
  | rfl
  | (unfold addBracket Generated.Scale.rate_add_bracket; split <;> simp_all)

theorem C08_tie_amount_add_bracket (s : Scale) (t x : Rat) :
    addBracket s t x = Generated.Scale.amount_add_bracket s t x := by
  first
  | rfl
  | (unfold addBracket Generated.Scale.amount_add_bracket; split <;> simp_all)

example : Generated.Scale.rate_add_bracket [(0, 1), (10, 2)] 5 3 = [(0, 1), (5, 3), (10, 2)] := by decide +kernel
example : Generated.Scale.rate_add_bracket [(0, 1), (10, 2)] 10 3 = [(0, 1), (10, 5)] := by decide +kernel
end OFCore.Sca
