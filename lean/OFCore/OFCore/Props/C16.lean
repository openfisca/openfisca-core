import OFCore.Lemmas.SetInput
/-!
# C16 — inputs given on a longer period are conserved when spread over shorter ones

Model: `OFCore/SetInput.lean` (the repaired `set_input_dispatch_by_period`,
`set_input_divide_by_period`, `Holder.set_input`, `_set`, `calculate_add` on an input variable).
Vocabulary (`OFCore/Lemmas/SetInputStore.lean`, `SetInputWalk.lean`; orders of inputs in `SetInputOrder.lean`,
histories in `SetInput.lean`): `ent v i` entity `i` of a vector, `entAt s q i` its value for the piece `q` (`0` when
unknown: what `calculate` returns), `knownSum s subs i = Σ_{q ∈ subs} entAt s q i`, `unknownCount s subs`, `WF n s`
(every stored vector has `n` entities), `SameStore`, `Tiles qs lo hi` (`PeriodSpec.lean`: consecutive pieces covering
the ordinals `lo … hi`), `WalkDomain` / `Aligned` (the claim domain of the calendar part), `runDivide` / `runDispatch`
(several inputs in sequence).
The store / sum theorems are stated over an arbitrary list of pieces `subs` (no calendar fact is
needed, not even the absence of duplicates); the calendar part is separate (`C16_walk_eq_subperiods`,
`C16_walk_eq_get_subperiods`).
Exact values (`VKind.num`, DESIGN section 4) unless said otherwise; `int`-typed variables truncate
each share (finding F-C16c), see `C16_divide_conserves_int_partial`.
-/
namespace OFCore

/-- month `k` of 2018 -/
def exMonth (k : Int) : Period := ⟨.month, ⟨2018, k, 1⟩, 1⟩
def exMonths : List Period := [1, 2, 3, 4, 5, 6, 7, 8, 9, 10, 11, 12].map exMonth
def exYear : Period := ⟨.year, ⟨2018, 1, 1⟩, 1⟩
/-- rolling year `year:2018-03` -/
def exRolling : Period := ⟨.year, ⟨2018, 3, 1⟩, 1⟩
def exLeapFeb : Period := ⟨.month, ⟨2020, 2, 1⟩, 1⟩
/-- February pre-set to 5 (entity 0) and 8 (entity 1) -/
def exStore : Store := [(exMonth 2, [5, 8])]
def exVar (r : SRule) : VarSpec := { defUnit := .month, rule := r, kind := .num, count := 2 }

theorem exStore_wf : WF 2 exStore := by
  intro q v hv
  simp only [exStore, sget] at hv
  split at hv
  · injection hv with hv; rw [← hv]; rfl
  · cases hv

/-- `exStore` after 27 and 30 have been divided over the months of 2018: eleven months receive 2 each -/
def exDiv : Store := [(exMonth 12, [2, 2]), (exMonth 11, [2, 2]), (exMonth 10, [2, 2]), (exMonth 9, [2, 2]),
  (exMonth 8, [2, 2]), (exMonth 7, [2, 2]), (exMonth 6, [2, 2]), (exMonth 5, [2, 2]), (exMonth 4, [2, 2]),
  (exMonth 3, [2, 2]), (exMonth 1, [2, 2]), (exMonth 2, [5, 8])]

theorem exDiv_eq : divideOn .num exStore exMonths [27, 30] = .ok exDiv := by decide +kernel

theorem exSet_eq : setInput (exVar .divide) exStore exYear [27, 30] = .ok exDiv := by decide +kernel

/-- For a period of the day / month / year family whose start is not clipped by month arithmetic,
the walk `sub := (defUnit, start, 1); while sub.start < after: …; sub := sub.offset(1)` succeeds and
enumerates consecutive pieces of one definition period each, covering exactly the days of the
period (`Tiles`), `pieceCount` of them, in the closed form `pieces`. -/
theorem C16_walk_eq_subperiods (p : Period) (defU : DUnit) (h : WalkDomain p defU) :
    ∃ qs, walk defU p = .ok qs ∧ qs.length = pieceCount p defU ∧ qs ≠ [] ∧
      (∀ q, q ∈ qs → q.unit = defU ∧ q.size = 1) ∧ Tiles qs p.lo p.hi ∧ qs = pieces p defU := by
  rw [pieces_eq p defU h.ne_week]
  exact h.facts.walk_tiles

example : WalkDomain exRolling .month ∧ WalkDomain exLeapFeb .day ∧ WalkDomain ⟨.year, ⟨2019, 1, 1⟩, 3⟩ .year ∧
    pieceCount exRolling .month = 12 ∧ pieceCount exLeapFeb .day = 29 := by decide +kernel

/-- On aligned periods (months starting on the 1st, years on 1 January) the pieces visited by
`set_input` are exactly the list `Period.get_subperiods` gives to `calculate_add`. -/
theorem C16_walk_eq_get_subperiods (p : Period) (defU : DUnit) (h : WalkDomain p defU)
    (hal : Aligned p defU) : walk defU p = p.subperiods defU := by
  rw [h.facts.walk_eq, h.facts.subperiods_eq (hal.alignedTo h)]

example : WalkDomain exRolling .month ∧ Aligned exRolling .month ∧ walk .month exRolling =
    .ok ([3, 4, 5, 6, 7, 8, 9, 10, 11, 12].map exMonth ++
      [1, 2].map (fun k => (⟨.month, ⟨2019, k, 1⟩, 1⟩ : Period))) := by decide +kernel

/-- every piece without earlier value receives the value itself -/
theorem C16_dispatch_fills (s : Store) (subs : List Period) (a : Vec) (q : Period) (hq : q ∈ subs)
    (hn : sget s q = none) : sget (dispatchOn s subs a) q = some a :=
  (dispatchOn_filled s subs a).of_none_mem hn hq

example : exMonth 3 ∈ exMonths ∧ sget exStore (exMonth 3) = none ∧
    sget (dispatchOn exStore exMonths [10, 10]) (exMonth 3) = some [10, 10] := by decide +kernel

/-- values set before are never overwritten, and nothing outside the pieces is written -/
theorem C16_dispatch_never_overwrites (s : Store) (subs : List Period) (a : Vec) (q : Period) :
    (∀ v, sget s q = some v → sget (dispatchOn s subs a) q = some v) ∧
    (q ∉ subs → sget (dispatchOn s subs a) q = sget s q) :=
  ⟨fun _ hv => (dispatchOn_filled s subs a).of_some hv, (dispatchOn_filled s subs a).of_not_mem⟩

example : sget exStore (exMonth 2) = some [5, 8] ∧
    sget (dispatchOn exStore exMonths [10, 10]) (exMonth 2) = some [5, 8] := by decide +kernel

/-- `Holder.set_input` on a variable declared with the dispatch rule: it is accepted on the whole
claim domain and does the above on the pieces of the walk -/
theorem C16_set_input_dispatch (var : VarSpec) (s : Store) (p : Period) (v : Vec)
    (hr : var.rule = .dispatch) (hn : var.neutralized = false) :
    (∀ t, setInput var s p v = .ok t →
      ∃ subs, walk var.defUnit p = .ok subs ∧
        (∀ q, q ∈ subs → sget s q = none → sget t q = some (castVec var.kind v)) ∧
        (∀ q w, sget s q = some w → sget t q = some w) ∧
        (∀ q, q ∉ subs → sget t q = sget s q)) ∧
    (WalkDomain p var.defUnit → v.length = var.count → ∃ t, setInput var s p v = .ok t) := by
  constructor
  · intro t h
    obtain ⟨_, _, subs, hw, rfl⟩ := setInput_dispatch_inv hr hn h
    exact ⟨subs, hw, fun q hq hn => C16_dispatch_fills s subs _ q hq hn,
      fun q w hw' => (C16_dispatch_never_overwrites s subs _ q).1 w hw',
      fun q hq => (C16_dispatch_never_overwrites s subs _ q).2 hq⟩
  · intro hd hl
    rw [setInput_of_walk hl hd.facts.unit_ne hd.facts.punit_ne hn hd.facts.walk_eq, hr]
    exact ⟨_, rfl⟩

example : ∃ t, setInput (exVar .dispatch) exStore exYear [10, 10] = .ok t ∧
    sget t (exMonth 3) = some [10, 10] ∧ sget t (exMonth 2) = some [5, 8] :=
  exists_ok_of_decide (h := by decide +kernel)

/-- **conservation**: when the input is accepted, the values stored for the pieces sum, entity by
entity, to the amount that was set (whether or not some piece was already known) -/
theorem C16_divide_conserves (s t : Store) (subs : List Period) (a : Vec) (hwf : WF a.length s)
    (h : divideOn .num s subs a = .ok t) (i : Nat) : knownSum t subs i = ent a i :=
  (divideOn_settled hwf h).2 i

example : ∃ t, divideOn .num exStore exMonths [27, 30] = .ok t ∧ WF 2 exStore ∧
    0 < unknownCount exStore exMonths ∧ knownSum t exMonths 0 = 27 ∧ knownSum t exMonths 1 = 30 := by
  exact ⟨exDiv, exDiv_eq, exStore_wf, by decide +kernel, by decide +kernel, by decide +kernel⟩

/-- pieces already set are left untouched; every other piece receives the same share
`(amount − Σ known) / #unknown`; nothing outside the pieces is written -/
theorem C16_divide_untouched_equal_share (s t : Store) (subs : List Period) (a : Vec)
    (hwf : WF a.length s) (h : divideOn .num s subs a = .ok t) :
    (∀ q v, sget s q = some v → sget t q = some v) ∧
    (∀ q, q ∈ subs → sget s q = none → ∃ c, sget t q = some c ∧ c.length = a.length ∧
      ∀ i, ent c i = (ent a i - knownSum s subs i) / (unknownCount s subs : Rat)) ∧
    (∀ q, q ∉ subs → sget t q = sget s q) := by
  obtain ⟨c, hcl, hsum, rfl⟩ := (divideOn_num_ok_iff hwf).1 h
  have hf := dispatchOn_filled s subs c
  refine ⟨fun q v hv => hf.of_some hv, fun q hq hn => ⟨c, hf.of_none_mem hn hq, hcl, fun i => ?_⟩,
    fun q hq => hf.of_not_mem hq⟩
  -- the equation of the share, solved for it
  have hne : (unknownCount s subs : Rat) ≠ 0 :=
    Nat.cast_ne_zero.2 (Nat.pos_iff_ne_zero.1 (unknownCount_pos_iff.mpr ⟨q, hq, hn⟩))
  rw [hsum i, add_sub_cancel_left, mul_div_cancel_left₀ _ hne]

example : ∃ t, divideOn .num exStore exMonths [27, 30] = .ok t ∧ sget t (exMonth 2) = some [5, 8] ∧
    sget t (exMonth 12) = some [2, 2] ∧ unknownCount exStore exMonths = 11 :=
  ⟨exDiv, exDiv_eq, by decide +kernel⟩

/-- an amount is refused exactly when every piece is already set and, for some entity, the amount
differs from their total (any value type); in particular an amount equal to the total is accepted,
and nothing is ever refused while a piece is unknown -/
theorem C16_divide_inconsistent_err (k : VKind) (s : Store) (subs : List Period) (a : Vec)
    (hwf : WF a.length s) :
    ((∃ e, divideOn k s subs a = .error e) ↔
      unknownCount s subs = 0 ∧ ∃ i, i < a.length ∧ ent a i ≠ knownSum s subs i) ∧
    (unknownCount s subs = 0 → (∀ i, i < a.length → ent a i = knownSum s subs i) →
      divideOn k s subs a = .ok s) ∧
    (0 < unknownCount s subs → ∃ t, divideOn k s subs a = .ok t) := by
  refine ⟨divideOn_error_iff k hwf, fun hu hall => ?_, fun hu => ?_⟩
  · rcases divideOn_cases k subs hwf with ⟨hu', -⟩ | ⟨-, -, e⟩ | ⟨-, ⟨i, hi, hne⟩, -⟩
    · omega
    · exact e
    · exact absurd (hall i hi) hne
  · rcases divideOn_cases k subs hwf with ⟨-, e⟩ | ⟨hu', -⟩ | ⟨hu', -⟩
    · exact ⟨_, e⟩
    · omega
    · omega

example : ∃ t, divideOn .num [] exMonths [12, 24] = .ok t ∧ unknownCount t exMonths = 0 ∧
    (∃ e, divideOn .num t exMonths [13, 24] = .error e) ∧ divideOn .num t exMonths [12, 24] = .ok t :=
  ⟨_, rfl, by decide +kernel, ⟨"inconsistent", by decide +kernel⟩, by decide +kernel⟩

/-- `Holder.set_input` on a variable declared with the divide rule, exact values: accepted on the
claim domain unless everything is known and the total differs; conservation, untouched pieces,
equal share on the pieces of the walk -/
theorem C16_set_input_divide (var : VarSpec) (s t : Store) (p : Period) (v : Vec)
    (hr : var.rule = .divide) (hk : var.kind = .num) (hn : var.neutralized = false)
    (hwf : WF var.count s) (h : setInput var s p v = .ok t) :
    ∃ subs, walk var.defUnit p = .ok subs ∧ v.length = var.count ∧ WF var.count t ∧
      (∀ i, knownSum t subs i = ent v i) ∧
      (∀ q w, sget s q = some w → sget t q = some w) ∧
      (∀ q, q ∈ subs → sget s q = none → ∃ c, sget t q = some c ∧
        ∀ i, ent c i = (ent v i - knownSum s subs i) / (unknownCount s subs : Rat)) ∧
      (∀ q, q ∉ subs → sget t q = sget s q) := by
  obtain ⟨hl, _, subs, hw, hd⟩ := setInput_divide_inv hr hk hn h
  have hwf' : WF v.length s := hl ▸ hwf
  obtain ⟨h1, h2, h3⟩ := C16_divide_untouched_equal_share s t subs v hwf' hd
  refine ⟨subs, hw, hl, divideOn_wf hwf hl hd, C16_divide_conserves s t subs v hwf' hd, h1, ?_, h3⟩
  intro q hq hn
  obtain ⟨c, hc, _, hs⟩ := h2 q hq hn
  exact ⟨c, hc, hs⟩

example : ∃ t, setInput (exVar .divide) exStore exYear [27, 30] = .ok t ∧
    sget t (exMonth 7) = some [2, 2] := ⟨exDiv, exSet_eq, by decide +kernel⟩

/-- **set, then sum**: over the same pieces `calculate_add` returns the amount that was set, vector
for vector, and leaves the store as it is -/
theorem C16_add_returns_amount (s t : Store) (subs : List Period) (a : Vec) (hwf : WF a.length s)
    (h : divideOn .num s subs a = .ok t) : sumOver a.length t subs = (a, t) :=
  (divideOn_settled hwf h).sumOver (divideOn_wf hwf rfl h)

example : ∃ t, divideOn .num exStore exMonths [27, 30] = .ok t ∧
    sumOver 2 t exMonths = ([27, 30], t) := ⟨exDiv, exDiv_eq, by decide +kernel⟩

/-- the same at the level of the public API, on aligned periods: after an accepted
`set_input(P, v)` on a divide variable, `calculate_add(P)` returns `v` and changes nothing -/
theorem C16_set_then_add (var : VarSpec) (s t : Store) (p : Period) (v : Vec)
    (hr : var.rule = .divide) (hk : var.kind = .num) (hn : var.neutralized = false)
    (hwf : WF var.count s) (hd : WalkDomain p var.defUnit) (hal : Aligned p var.defUnit)
    (h : setInput var s p v = .ok t) : calcAdd var t p = .ok (some v, t) := by
  obtain ⟨hl, he, subs, hw, hdiv⟩ := setInput_divide_inv hr hk hn h
  exact calcAdd_of_known hd.facts (hal.alignedTo hd) hn (setInput_wf hwf h) hw hl
    (divideOn_settled (hl ▸ hwf) hdiv)

example : ∃ t, setInput (exVar .divide) exStore exRolling [27, 30] = .ok t ∧
    WalkDomain exRolling .month ∧ Aligned exRolling .month ∧
    calcAdd (exVar .divide) t exRolling = .ok (some [27, 30], t) :=
  exists_ok_and (by decide +kernel) fun t ht =>
    have hd : WalkDomain exRolling .month := by decide +kernel
    ⟨hd, by decide, C16_set_then_add (exVar .divide) exStore t _ _ rfl rfl rfl exStore_wf hd (by decide) ht⟩

/-- Restricted to `int`-typed variables whose share is a whole number. Full statement (`int`
variables conserve every amount) is FALSE of the code and of the model: each share is truncated on
storage (finding F-C16c, `divide on int-typed variable loses the remainder`, see the example below:
100 over the 12 months of 2018 is stored as 12 × 8 = 96). What is missing is a repair of the code
(distributing the remainder), not a proof. -/
theorem C16_divide_conserves_int_partial (s t : Store) (subs : List Period) (a : Vec)
    (hwf : WF a.length s)
    (hexact : castVec .int (vdivn (tally s subs a).1 (tally s subs a).2) = vdivn (tally s subs a).1 (tally s subs a).2)
    (h : divideOn .int s subs a = .ok t) (i : Nat) : knownSum t subs i = ent a i := by
  have e : divideOn .int s subs a = divideOn .num s subs a := by
    unfold divideOn
    simp only [hexact]
    rfl
  rw [e] at h
  exact C16_divide_conserves s t subs a hwf h i

example : ∃ t, divideOn .int [] exMonths [96] = .ok t ∧ knownSum t exMonths 0 = 96 ∧
    castVec .int (vdivn (tally [] exMonths [96]).1 (tally [] exMonths [96]).2) = vdivn (tally [] exMonths [96]).1 (tally [] exMonths [96]).2 :=
  exists_ok_of_decide (h := by decide +kernel)

/-- F-C16c in the model: 100 over 12 months sums to 96 on an `int` variable -/
example : ∃ t, divideOn .int [] exMonths [100] = .ok t ∧ sumOver 1 t exMonths = ([96], t) :=
  exists_ok_of_decide (h := by decide +kernel)

/-- the store stays well formed along any history of `set_input` calls (all rules, all value types) -/
theorem C16_store_wellformed (var : VarSpec) (s t : Store) (p : Period) (v : Vec) (hwf : WF var.count s)
    (h : setInput var s p v = .ok t) : WF var.count t :=
  setInput_wf hwf h

example : ∃ t, setInput (exVar .divide) exStore exYear [27, 30] = .ok t ∧ WF 2 t :=
  ⟨exDiv, exSet_eq, C16_store_wellformed (exVar .divide) exStore exDiv exYear _ exStore_wf exSet_eq⟩

/-- once an amount has been accepted for a long period, no later divide input (on any pieces, in
any order, accepted or not) changes the values of its pieces: the sum over the period stays the
amount -/
theorem C16_amount_persists (k : VKind) (s t : Store) (calls : List (List Period × Vec))
    (h : runDivide k s calls = .ok t) (q : Period) (v : Vec) (hq : sget s q = some v) :
    sget t q = some v :=
  runDivide_keeps h q v hq

example : ∃ t, runDivide .num exStore [(exMonths, [27, 30]), ([exMonth 1, exMonth 2, exMonth 3], [9, 12])] = .ok t ∧
    sget t (exMonth 2) = some [5, 8] := by
  rw [runDivide_step _ exDiv_eq]; exact exists_ok_of_decide (h := by decide +kernel)

/-- hence after an accepted long input the sum over its pieces stays the amount whatever divide
inputs follow (sub-periods, overlapping or enclosing periods), entity by entity -/
theorem C16_sum_persists (s t t' : Store) (subs : List Period) (a : Vec) (hwf : WF a.length s)
    (h : divideOn .num s subs a = .ok t) (calls : List (List Period × Vec))
    (hc : runDivide .num t calls = .ok t') (i : Nat) : knownSum t' subs i = ent a i :=
  ((divideOn_settled hwf h).of_keeps (runDivide_keeps hc)).2 i

example : ∃ t, runDivide .num exStore [(exMonths, [27, 30]),
      ([7, 8, 9, 10, 11, 12].map exMonth ++ [1, 2, 3, 4, 5, 6].map (fun k => (⟨.month, ⟨2019, k, 1⟩, 1⟩ : Period)), [48, 60])] = .ok t ∧
    knownSum t exMonths 0 = 27 ∧ knownSum t exMonths 1 = 30 := by
  rw [runDivide_step _ exDiv_eq]; exact exists_ok_of_decide (h := by decide +kernel)

/-- **order, divide rule.** A long input followed by inputs on pieces inside it: if that order is
accepted, the later inputs changed nothing, and giving the inner inputs *first* (shortest first)
and the long one last is accepted as well and yields the same store. -/
theorem C16_order_long_last (n : Nat) (s s1 s2 : Store) (subs : List Period) (a : Vec)
    (calls : List (List Period × Vec)) (hwf : WF n s) (ha : a.length = n)
    (hc : ∀ lx, lx ∈ calls → (∀ q, q ∈ lx.1 → q ∈ subs) ∧ lx.2.length = n)
    (h1 : divideOn .num s subs a = .ok s1) (h2 : runDivide .num s1 calls = .ok s2) :
    s2 = s1 ∧ ∃ s3 s4, runDivide .num s calls = .ok s3 ∧ divideOn .num s3 subs a = .ok s4 ∧
      SameStore s4 s1 := by
  have hst := divideOn_settled (ha ▸ hwf) h1
  -- every piece of a later input is known since the long one
  obtain rfl : s2 = s1 := runDivide_inv (· = s1) (fun s l x s' hm hs hd => by
    subst hs
    exact ((hst.divideOn_iff (hc _ hm).1 ((hc _ hm).2 ▸ divideOn_wf hwf ha h1)).1 hd).2) rfl h2
  obtain ⟨t', hr, hsame⟩ := runDivide_long_last hwf ha (fun d hd => ⟨(hc d hd).2, .inl (hc d hd).1⟩)
    (runDivide_cons_ok.2 ⟨s2, h1, h2⟩)
  obtain ⟨s3, hr, hd⟩ := runDivide_append_ok.1 hr
  exact ⟨rfl, s3, t', hr, runDivide_one.1 hd, hsame⟩

example : ∃ s1 s4, runDivide .num exStore [(exMonths, [27, 30]), ([exMonth 1, exMonth 2, exMonth 3], [9, 12]), ([exMonth 7], [2, 2])] = .ok s1 ∧
    runDivide .num exStore [([exMonth 1, exMonth 2, exMonth 3], [9, 12]), ([exMonth 7], [2, 2]), (exMonths, [27, 30])] = .ok s4 ∧
    (exMonths.map (sget s4)) = (exMonths.map (sget s1)) := by
  rw [runDivide_step _ exDiv_eq]; exact exists_ok_of_decide₂ (h := by decide +kernel)

/-- the same for any position of the long input: every accepted history
`pre ++ [long] ++ post` whose later inputs lie inside the long period gives the same store as
`pre ++ post ++ [long]` (which is accepted too) -/
theorem C16_order_any_position (n : Nat) (s t : Store) (subs : List Period) (a : Vec)
    (pre post : List (List Period × Vec)) (hwf : WF n s) (ha : a.length = n)
    (hpre : ∀ lx, lx ∈ pre → lx.2.length = n)
    (hpost : ∀ lx, lx ∈ post → (∀ q, q ∈ lx.1 → q ∈ subs) ∧ lx.2.length = n)
    (h : runDivide .num s (pre ++ (subs, a) :: post) = .ok t) :
    ∃ t', runDivide .num s (pre ++ post ++ [(subs, a)]) = .ok t' ∧ SameStore t' t := by
  obtain ⟨s0, hp, h⟩ := runDivide_append_ok.1 h
  obtain ⟨t', h', hs⟩ := runDivide_long_last (runDivide_wf hwf hpre hp) ha
    (fun d hd => ⟨(hpost d hd).2, .inl (hpost d hd).1⟩) h
  exact ⟨t', List.append_assoc .. ▸ runDivide_append_ok.2 ⟨s0, hp, h'⟩, hs⟩

example : ∃ t t', runDivide .num [] [([exMonth 2], [5, 8]), (exMonths, [27, 30]), ([exMonth 7], [2, 2])] = .ok t ∧
    runDivide .num [] [([exMonth 2], [5, 8]), ([exMonth 7], [2, 2]), (exMonths, [27, 30])] = .ok t' ∧
    exMonths.map (sget t') = exMonths.map (sget t) :=
  exists_ok_of_decide₂ (h := by decide +kernel)

/-- **order, divide rule, general.** For a family of inputs whose piece lists are nested or disjoint
(`Laminar`: every input with fewer pieces lies inside or apart from every input with more — quarters
in years, months in quarters, …), ANY accepted order gives the same store as the shortest-first
order (stable insertion sort by number of pieces), and that order is accepted too. -/
theorem C16_order_shortest_first (n : Nat) (calls : List (List Period × Vec))
    (hlen : ∀ d, d ∈ calls → d.2.length = n) (hlam : Laminar calls)
    (s t : Store) (hwf : WF n s) (h : runDivide .num s calls = .ok t) :
    ∃ t', runDivide .num s (shortestFirst calls) = .ok t' ∧ SameStore t' t :=
  runDivide_shortestFirst calls hlen hlam hwf h

example :
    let calls : List (List Period × Vec) :=
      [(exMonths, [27, 30]), ([exMonth 7], [2, 2]), ([exMonth 1, exMonth 2, exMonth 3], [9, 12])]
    Laminar calls ∧ isOk (runDivide .num exStore calls) = true ∧
    shortestFirst calls = [([exMonth 7], [2, 2]), ([exMonth 1, exMonth 2, exMonth 3], [9, 12]), (exMonths, [27, 30])] := by
  decide +kernel

/-- hence two accepted orders of the same nested-or-disjoint inputs that have the same shortest-first
arrangement (always the case when inputs with equally many pieces keep their relative order) give
the same store -/
theorem C16_order_independent (n : Nat) (calls1 calls2 : List (List Period × Vec))
    (hlen : ∀ d, d ∈ calls1 → d.2.length = n) (hlam : Laminar calls1)
    (hsame : shortestFirst calls1 = shortestFirst calls2)
    (s t1 t2 : Store) (hwf : WF n s) (h1 : runDivide .num s calls1 = .ok t1)
    (h2 : runDivide .num s calls2 = .ok t2) : SameStore t1 t2 := by
  have hmem : ∀ d, d ∈ calls2 ↔ d ∈ calls1 := by
    intro d; rw [← mem_shortestFirst d calls2, ← hsame, mem_shortestFirst]
  obtain ⟨u1, hu1, hs1⟩ := runDivide_shortestFirst calls1 hlen hlam hwf h1
  obtain ⟨u2, hu2, hs2⟩ := runDivide_shortestFirst calls2 (fun d hd => hlen d ((hmem d).mp hd))
    (fun c hc d hd => hlam c ((hmem c).mp hc) d ((hmem d).mp hd)) hwf h2
  rw [hsame, hu2] at hu1
  injection hu1 with e
  subst e
  exact sameStore_trans (sameStore_symm hs1) hs2

example :
    let c1 : List (List Period × Vec) :=
      [(exMonths, [27, 30]), ([exMonth 7], [2, 2]), ([exMonth 1, exMonth 2, exMonth 3], [9, 12])]
    let c2 : List (List Period × Vec) :=
      [([exMonth 1, exMonth 2, exMonth 3], [9, 12]), (exMonths, [27, 30]), ([exMonth 7], [2, 2])]
    shortestFirst c1 = shortestFirst c2 ∧ isOk (runDivide .num exStore c1) = true ∧
      isOk (runDivide .num exStore c2) = true := by
  decide +kernel

/-- Unrestricted order independence ("any two accepted orders of the same inputs give the same
store") is FALSE as soon as two long periods overlap without being nested — of the code as well:
calendar year 2018 = 120 and rolling year 2018-07 … 2019-06 = 240 are accepted in both orders and
leave January 2018 at 10 in one order and at 0 in the other. The property statement does not claim
it; what it claims (conservation, untouched, equal share, refusal) holds in every order by the
theorems above. -/
example :
    let y18 := [1, 2, 3, 4, 5, 6, 7, 8, 9, 10, 11, 12].map exMonth
    let roll := [7, 8, 9, 10, 11, 12].map exMonth ++ [1, 2, 3, 4, 5, 6].map (fun k => (⟨.month, ⟨2019, k, 1⟩, 1⟩ : Period))
    ∃ t t', runDivide .num [] [(y18, [120]), (roll, [240])] = .ok t ∧
      runDivide .num [] [(roll, [240]), (y18, [120])] = .ok t' ∧
      sget t (exMonth 1) = some [10] ∧ sget t' (exMonth 1) = some [0] :=
  exists_ok_of_decide₂ (h := by decide +kernel)

/-- **order, dispatch rule**: after several dispatch inputs a piece holds its earlier value if it had
one, else the value of the *first* input that covers it; so two orders give the same store exactly
when they agree on which input covers each unknown piece first -/
theorem C16_dispatch_order_first_wins (s : Store) (calls : List (List Period × Vec)) (q : Period) :
    sget (runDispatch s calls) q =
      match sget s q with
      | some v => some v
      | none => (calls.find? (fun lx => decide (q ∈ lx.1))).map (·.2) :=
  sget_runDispatch s calls q

example : sget (runDispatch exStore [([exMonth 1, exMonth 2, exMonth 3], [1, 1]), (exMonths, [10, 10])]) (exMonth 3) = some [1, 1] ∧
    sget (runDispatch exStore [(exMonths, [10, 10]), ([exMonth 1, exMonth 2, exMonth 3], [1, 1])]) (exMonth 3) = some [10, 10] ∧
    sget (runDispatch exStore [(exMonths, [10, 10]), ([exMonth 1, exMonth 2, exMonth 3], [1, 1])]) (exMonth 2) = some [5, 8] := by
  decide +kernel

/-- the refusals of the routing: an `ETERNITY` input on a dated variable; a vector of the wrong
length; a rule on an eternal variable; a variable without rule given anything else than one
definition period -/
theorem C16_set_input_refusals (var : VarSpec) (s : Store) (p : Period) (v : Vec)
    (hn : var.neutralized = false) :
    (p.unit = .eternity → var.defUnit ≠ .eternity → ∃ e, setInput var s p v = .error e) ∧
    (v.length ≠ var.count → ∃ e, setInput var s p v = .error e) ∧
    (var.defUnit = .eternity → var.rule ≠ .absent → ∃ e, setInput var s p v = .error e) ∧
    (var.rule = .absent → var.defUnit ≠ .eternity → (p.unit ≠ var.defUnit ∨ 1 < p.size) →
      ∃ e, setInput var s p v = .error e) ∧
    (var.rule = .absent → var.defUnit ≠ .eternity → p.unit = var.defUnit → p.size ≤ 1 →
      v.length = var.count → setInput var s p v = .ok (sput s p (castVec var.kind v))) := by
  refine ⟨fun h1 h2 => ⟨"mismatch", by rw [setInput, if_pos ⟨h1, h2⟩]⟩,
    fun hl => error_of_not_ok fun t h => hl (setInput_ok_checks hn h).1,
    fun he hr => error_of_not_ok fun t h => (setInput_ok_checks hn h).2.1 hr he,
    fun hr he hp => error_of_not_ok fun t h => ?_, fun hr he hp hs hl => ?_⟩
  · obtain ⟨h1, h2⟩ := (setInput_ok_checks hn h).2.2 hr he
    rcases hp with hp | hp
    · exact hp h1.symm
    · omega
  · rw [setInput_eq hn fun hg => he (hp ▸ hg.1), hr]
    exact holderSet_accepts he s p hp hs v hl

example : (∃ e, setInput { defUnit := .month, rule := .absent, kind := .num, count := 1 } [] exYear [12] = .error e) ∧
    setInput { defUnit := .month, rule := .absent, kind := .num, count := 1 } [] (exMonth 4) [12] = .ok [(exMonth 4, [12])] ∧
    (∃ e, setInput (exVar .divide) [] Period.eternity [1, 2] = .error e) :=
  ⟨⟨"mismatch", by decide +kernel⟩, by decide +kernel, ⟨"mismatch", by decide +kernel⟩⟩

/-- the refusals of `calculate_add`: a period of a smaller unit than the definition period, an
eternal variable, an `ETERNITY` period (fix F-C03a; it used to return the integer 0) -/
theorem C16_add_refusals (var : VarSpec) (s : Store) (p : Period) :
    (unitWeight var.defUnit > unitWeight p.unit ∨ var.defUnit = .eternity ∨ p.unit = .eternity) →
      ∃ e, calcAdd var s p = .error e :=
  fun h => error_of_not_ok fun x hx => by
    obtain ⟨h1, h2, h3, -⟩ := calcAdd_input_eq_ok.1 hx
    exact h.elim h1 (·.elim h2 h3)

example : (∃ e, calcAdd { defUnit := .year, rule := .absent, kind := .num, count := 1 } [] Period.eternity = .error e) ∧
    (∃ e, calcAdd (exVar .divide) [] ⟨.day, ⟨2018, 1, 1⟩, 40⟩ = .error e) :=
  ⟨⟨"eternal-period", by decide +kernel⟩, ⟨"value", by decide +kernel⟩⟩

/-- a neutralised variable: every input is ignored (the store is returned as it is), `get_array`
answers the default and `calculate_add` the default summed, whatever was stored; so the
conservation statement is about variables that are not neutralised -/
theorem C16_neutralized_ignores (var : VarSpec) (hn : var.neutralized = true) (s : Store) (p : Period) :
    (∀ v, ¬ (p.unit = .eternity ∧ var.defUnit ≠ .eternity) → setInput var s p v = .ok s) ∧
    getArray var s p = some (vzero var.count) ∧
    (∀ r t, calcAdd var s p = .ok (some r, t) → r = vzero var.count ∧ t = s) := by
  refine ⟨?_, ?_, ?_⟩
  · intro v hne; unfold setInput; rw [if_neg hne]; simp [hn]
  · simp [getArray, hn]
  · intro r t h
    obtain ⟨-, -, -, subs, -, hx⟩ := calcAdd_input_eq_ok.1 h
    by_cases he : subs.isEmpty = true
    · rw [if_pos he] at hx; cases hx
    · rw [if_neg he, if_pos hn] at hx; cases hx; exact ⟨rfl, rfl⟩

example : setInput { exVar .divide with neutralized := true } exStore exYear [27, 30] = .ok exStore ∧
    calcAdd { exVar .divide with neutralized := true } exStore exYear = .ok (some [0, 0], exStore) := by
  decide +kernel

/-- `Simulation.set_input` and a variable's `end`: an input whose period starts after the end is
ignored, every other input (including one that starts before the end and runs past it) is routed
to `Holder.set_input` unchanged — so conservation holds for every period that starts on or before
the end, and is not claimed for periods that start after it -/
theorem C16_end_routing (var : VarSpec) (s : Store) (p : Period) (v : Vec) :
    (var.endDate = none → simSetInput var s p v = setInput var s p v) ∧
    (∀ e, var.endDate = some e → dateOk p.start = true → ¬ e.lt p.start →
      simSetInput var s p v = setInput var s p v) ∧
    (∀ e, var.endDate = some e → dateOk p.start = true → e.lt p.start → simSetInput var s p v = .ok s) := by
  refine ⟨?_, ?_, ?_⟩
  · intro h; simp [simSetInput, h]
  · intro e h hd hlt; simp [simSetInput, h, hd, hlt]
  · intro e h hd hlt; simp [simSetInput, h, hd, hlt]

example : simSetInput { exVar .divide with endDate := some ⟨2018, 6, 30⟩ } [] exYear [24, 36] =
      setInput (exVar .divide) [] exYear [24, 36] ∧
    simSetInput { exVar .divide with endDate := some ⟨2017, 12, 31⟩ } exStore exYear [24, 36] = .ok exStore ∧
    isOk (setInput (exVar .divide) [] exYear [24, 36]) = true := by
  decide +kernel

/-- the two weeks from Monday 31 December 2018 -/
def exWeeks2 : Period := ⟨.week, ⟨2018, 12, 31⟩, 2⟩
/-- a week that starts on a Wednesday -/
def exWedWeek : Period := ⟨.week, ⟨2019, 1, 2⟩, 1⟩
def exDayVar : VarSpec := { defUnit := .day, rule := .divide, kind := .num, count := 1 }

/-- **tiling, week family.** A week variable given `week:…:n` (any first day), a weekday variable or a
DAY variable given a week / weekday / day period: the walk of `set_input` succeeds and enumerates
consecutive pieces of one definition period each that cover exactly the days of the period — `n`
weeks, or `7n` (resp. `n`) days. -/
theorem C16_walk_week_family (p : Period) (defU : DUnit) (h : WeekDomain p defU) :
    ∃ qs, walk defU p = .ok qs ∧ qs.length = pieceCountW p defU ∧ qs ≠ [] ∧
      (∀ q, q ∈ qs → q.unit = defU ∧ q.size = 1) ∧ Tiles qs p.lo p.hi ∧ qs = piecesW p defU := by
  rw [piecesW_eq p defU h.units]
  exact h.facts.walk_tiles

example : WeekDomain exWeeks2 .week ∧ pieceCountW exWeeks2 .week = 2 ∧ WeekDomain exWedWeek .day ∧
    pieceCountW exWedWeek .day = 7 ∧ WeekDomain exWeeks2 .weekday ∧ pieceCountW exWeeks2 .weekday = 14 := by decide +kernel

/-- … and these are the pieces `calculate_add` sums — for a week variable only when the period starts
on a Monday (`get_subperiods` counts ISO weeks from `first_week`; a week variable given a period that
starts mid-week is summed over OTHER weeks than the ones `set_input` filled: mirrored by the model,
outside the statement, which speaks of day-, month- and year-defined variables) -/
theorem C16_walk_eq_get_subperiods_weeks (p : Period) (defU : DUnit) (h : WeekDomain p defU)
    (hal : AlignedW p defU) : walk defU p = p.subperiods defU := by
  rw [h.facts.walk_eq, h.facts.subperiods_eq (hal.alignedTo h)]

example : AlignedW exWeeks2 .week ∧ ¬ AlignedW exWedWeek .week ∧ AlignedW exWedWeek .day ∧
    walk .day exWedWeek = exWedWeek.subperiods .day ∧ walk .week exWedWeek ≠ exWedWeek.subperiods .week := by
  decide +kernel

/-- **`holder._set` inside the loops.** Both helpers write every unknown piece with `holder._set`, which
converts the array to the variable's dtype AGAIN and checks the period. On the pieces of ANY walk (every
input period, every definition unit) the check cannot fire and the loop with `_set` is the pure loop
`dispatchOn` of the model applied to the converted vector — for `divide` on an `int` variable that second
conversion is the truncation of the share. -/
theorem C16_loops_with_set (var : VarSpec) (hn : var.neutralized = false) (he : var.defUnit ≠ .eternity)
    (p : Period) (subs : List Period) (hw : walk var.defUnit p = .ok subs) (w : Vec) (hl : w.length = var.count)
    (s : Store) : fillLoop var w s subs = .ok (dispatchOn s subs (castVec var.kind w)) :=
  fillLoop_eq hn he w hl subs (walk_units hw) s

example : fillLoop (exVar .divide) [7/2, 4] exStore exMonths = .ok (dispatchOn exStore exMonths [7/2, 4]) ∧
    fillLoop { exVar .divide with kind := .int } [7/2, 4] exStore exMonths = .ok (dispatchOn exStore exMonths [3, 4]) := by
  decide +kernel

/-- **conservation along EVERY history.** Whatever inputs a divide variable (exact values) receives through
`Simulation.set_input`, in whatever order — pieces, long periods, overlapping, enclosing or repeated
ones, before or after each other —: if the whole history is accepted, then at its end the pieces of
EVERY input that the `end` test did not drop are all known and still sum, entity by entity, to the
amount of that input. No hypothesis on the order, on nesting, or on the calendar. -/
theorem C16_every_history_conserves (var : VarSpec) (hr : var.rule = .divide) (hk : var.kind = .num)
    (hn : var.neutralized = false) (calls : List (Period × Vec)) (s t : Store) (hwf : WF var.count s)
    (h : feedAll var s calls = .ok t) (p : Period) (v : Vec) (hm : (p, v) ∈ calls) (hlive : Live var p) :
    ∃ subs, walk var.defUnit p = .ok subs ∧ v.length = var.count ∧ (∀ q, q ∈ subs → sget t q ≠ none) ∧
      ∀ i, knownSum t subs i = ent v i :=
  feedAll_settled hr hk hn hwf h hm hlive

/-- … hence `calculate_add` over the period of ANY input of an accepted history returns its amount and
leaves the store as it is (day / month / year family, aligned periods) -/
theorem C16_every_history_then_add (var : VarSpec) (hr : var.rule = .divide) (hk : var.kind = .num)
    (hn : var.neutralized = false) (calls : List (Period × Vec)) (s t : Store) (hwf : WF var.count s)
    (h : feedAll var s calls = .ok t) (p : Period) (v : Vec) (hm : (p, v) ∈ calls) (hlive : Live var p)
    (hd : WalkDomain p var.defUnit) (hal : Aligned p var.defUnit) : calcAdd var t p = .ok (some v, t) := by
  obtain ⟨subs, hw, hl, hst⟩ := feedAll_settled hr hk hn hwf h hm hlive
  exact calcAdd_of_known hd.facts (hal.alignedTo hd) hn (feedAll_wf hwf h) hw hl hst

example : ∃ t, feedAll (exVar .divide) exStore
      [(exYear, [27, 30]), (exMonth 7, [2, 2]), (⟨.year, ⟨2018, 7, 1⟩, 1⟩, [48, 60]), (exYear, [27, 30])] = .ok t ∧
    Live (exVar .divide) exYear ∧ calcAdd (exVar .divide) t exYear = .ok (some [27, 30], t) ∧
    calcAdd (exVar .divide) t ⟨.year, ⟨2018, 7, 1⟩, 1⟩ = .ok (some [48, 60], t) :=
  exists_ok_and (by decide +kernel) fun t ht =>
    have add := C16_every_history_then_add (exVar .divide) rfl rfl rfl _ _ t exStore_wf ht
    ⟨by decide,
      add exYear [27, 30] (hm := by decide) (hlive := by decide) (hd := by decide) (hal := by decide),
      add ⟨.year, ⟨2018, 7, 1⟩, 1⟩ [48, 60] (hm := by decide) (hlive := by decide) (hd := by decide)
        (hal := by decide)⟩

/-- the same for the week family (a day variable given weeks, a week variable given Monday weeks) -/
theorem C16_every_history_then_add_weeks (var : VarSpec) (hr : var.rule = .divide) (hk : var.kind = .num)
    (hn : var.neutralized = false) (calls : List (Period × Vec)) (s t : Store) (hwf : WF var.count s)
    (h : feedAll var s calls = .ok t) (p : Period) (v : Vec) (hm : (p, v) ∈ calls) (hlive : Live var p)
    (hd : WeekDomain p var.defUnit) (hal : AlignedW p var.defUnit) : calcAdd var t p = .ok (some v, t) := by
  obtain ⟨subs, hw, hl, hst⟩ := feedAll_settled hr hk hn hwf h hm hlive
  exact calcAdd_of_known hd.facts (hal.alignedTo hd) hn (feedAll_wf hwf h) hw hl hst

example : ∃ t, feedAll exDayVar [] [(⟨.day, ⟨2019, 1, 3⟩, 1⟩, [2]), (exWedWeek, [14])] = .ok t ∧
    WeekDomain exWedWeek .day ∧ calcAdd exDayVar t exWedWeek = .ok (some [14], t) ∧
    sget t ⟨.day, ⟨2019, 1, 8⟩, 1⟩ = some [2] :=
  exists_ok_of_decide (h := by decide +kernel)

/-- **the order of the keys of a situation document is irrelevant to conservation.** The builder consumes
the buffered inputs of a variable in non-decreasing `(size in days, unit weight)` order — a rearrangement of
the document, whatever the order its keys were written in (year before, after or between its months) —
and if the construction succeeds, the pieces of EVERY entry the `end` test did not drop sum to that
entry's amount. The short form (`build_from_variables`) consumes the document in the order written
(`feedAll`): the same conclusion holds by `C16_every_history_conserves`, but a year written before one of
its months is then refused unless the month repeats its share (see the example). -/
theorem C16_document_conserves (var : VarSpec) (hr : var.rule = .divide) (hk : var.kind = .num)
    (hn : var.neutralized = false) (doc : List (Period × Vec)) (s t : Store) (hwf : WF var.count s)
    (h : builderFeed var s doc = .ok t) :
    (∃ ks, keyAll doc = .ok ks ∧ KeySorted (sortKeyed ks) ∧
      (∀ pv, pv ∈ (sortKeyed ks).map (·.2) ↔ pv ∈ doc) ∧ ((sortKeyed ks).map (·.2)).length = doc.length ∧
      feedAll var s ((sortKeyed ks).map (·.2)) = .ok t) ∧
    ∀ p v, (p, v) ∈ doc → Live var p →
      ∃ subs, walk var.defUnit p = .ok subs ∧ (∀ q, q ∈ subs → sget t q ≠ none) ∧
        ∀ i, knownSum t subs i = ent v i := by
  obtain ⟨ks, hk1, hf, hperm, hsorted⟩ := builderFeed_inv h
  refine ⟨⟨ks, hk1, hsorted, fun _ => hperm.mem_iff, hperm.length_eq, hf⟩, ?_⟩
  intro p v hm hlive
  obtain ⟨subs, hw, _, hst⟩ := feedAll_settled hr hk hn hwf hf (hperm.mem_iff.mpr hm) hlive
  exact ⟨subs, hw, hst⟩

example : ∃ t, builderFeed (exVar .divide) [] [(exYear, [27, 30]), (exMonth 2, [5, 8])] = .ok t ∧
    builderFeed (exVar .divide) [] [(exMonth 2, [5, 8]), (exYear, [27, 30])] = .ok t ∧
    sget t (exMonth 2) = some [5, 8] ∧ sget t (exMonth 3) = some [2, 2] ∧
    isOk (feedAll (exVar .divide) [] [(exYear, [27, 30]), (exMonth 2, [5, 8])]) = false ∧
    isOk (feedAll (exVar .divide) [] [(exMonth 2, [5, 8]), (exYear, [27, 30])]) = true :=
  exists_ok_of_decide (h := by decide +kernel)

/-- **small periods first.** In the order in which `finalize_variables_init` consumes a document, nothing
that comes after an entry has a smaller `(size in days, unit weight)` key: a month is consumed before the
year that contains it, a quarter before the year and after its months, `month:…:12` before the year with
the same days — wherever they stand in the document. -/
theorem C16_document_shortest_first (doc : List (Period × Vec)) (ks : List Keyed) (hk : keyAll doc = .ok ks)
    (A : List Keyed) (y : Keyed) (B : List Keyed) (hs : sortKeyed ks = A ++ y :: B) :
    (∀ x, x ∈ B → keyLe y.1 x.1 = true) ∧ feedKey y.2.1 = .ok y.1 := by
  refine ⟨keySorted_after A y B (hs ▸ keySorted_sort ks), ?_⟩
  have hy : y ∈ ks := (mem_sortKeyed y ks).mp (by rw [hs]; simp)
  exact (keyAll_spec hk).2 y hy

example : (keyAll [(exYear, [27, 30]), (exMonth 2, [5, 8]), (⟨.month, ⟨2018, 1, 1⟩, 3⟩, [9, 12])]).map
      (fun ks => (sortKeyed ks).map (fun x => x.2.1)) =
    .ok [exMonth 2, ⟨.month, ⟨2018, 1, 1⟩, 3⟩, exYear] := by decide +kernel

/-- **the long input given again.** After an accepted input `a` on the pieces `subs`: the same input
again is accepted and changes nothing; any other amount (of the right length) is refused. -/
theorem C16_divide_twice (s t : Store) (subs : List Period) (a : Vec) (hwf : WF a.length s)
    (h : divideOn .num s subs a = .ok t) :
    divideOn .num t subs a = .ok t ∧
    ∀ b : Vec, b.length = a.length → b ≠ a → ∃ e, divideOn .num t subs b = .error e := by
  have hst := divideOn_settled hwf h
  have hwt : WF a.length t := divideOn_wf hwf rfl h
  refine ⟨(hst.divideOn_iff (fun _ hq => hq) hwt).2 ⟨fun i _ => (hst.2 i).symm, rfl⟩, fun b hbl hne => ?_⟩
  refine error_of_not_ok fun t' hb => hne (vec_ext hbl fun i hi => ?_)
  -- an accepted amount is the stored total, entity by entity
  rw [((hst.divideOn_iff (fun _ hq => hq) (hbl ▸ hwt)).1 hb).1 i hi, hst.2 i]

example : ∃ t, divideOn .num exStore exMonths [27, 30] = .ok t ∧ divideOn .num t exMonths [27, 30] = .ok t ∧
    ∃ e, divideOn .num t exMonths [27, 31] = .error e :=
  ⟨exDiv, exDiv_eq, by decide +kernel, "inconsistent", by decide +kernel⟩

/-- **divide after divide on nested periods.** After an accepted long input, an input on pieces inside it
(one of its months, a quarter, the period itself) finds everything known: it is accepted exactly when
its amount repeats what is stored — and then changes nothing. -/
theorem C16_divide_nested_after (s t : Store) (subs : List Period) (a : Vec) (hwf : WF a.length s)
    (h : divideOn .num s subs a = .ok t) (l : List Period) (hin : ∀ q, q ∈ l → q ∈ subs) (x : Vec)
    (hxl : x.length = a.length) :
    ((∀ i, i < x.length → ent x i = knownSum t l i) → divideOn .num t l x = .ok t) ∧
    ((∃ i, i < x.length ∧ ent x i ≠ knownSum t l i) → ∃ e, divideOn .num t l x = .error e) := by
  have hst := divideOn_settled hwf h
  have hwt : WF x.length t := hxl ▸ divideOn_wf hwf rfl h
  exact ⟨fun hall => (hst.divideOn_iff hin hwt).2 ⟨hall, rfl⟩, fun hex =>
    (divideOn_error_iff .num hwt).mpr ⟨unknownCount_zero_iff.mpr fun q hq => hst.1 q (hin q hq), hex⟩⟩

example : ∃ t, divideOn .num exStore exMonths [27, 30] = .ok t ∧ divideOn .num t [exMonth 7] [2, 2] = .ok t ∧
    divideOn .num t [exMonth 2, exMonth 3] [7, 10] = .ok t ∧ ∃ e, divideOn .num t [exMonth 7] [2, 3] = .error e :=
  ⟨exDiv, exDiv_eq, by decide +kernel, by decide +kernel, "inconsistent", by decide +kernel⟩

/-- **the refusals of `Holder.set_input` on a divide variable are exactly these**: a vector of the wrong
length, or every piece of the period already set and, for some entity, a total that differs from the
amount (after conversion to the variable's type). On the claim domain nothing else is refused. -/
theorem C16_set_input_divide_refusal_iff (var : VarSpec) (s : Store) (p : Period) (v : Vec)
    (hr : var.rule = .divide) (hn : var.neutralized = false) (hwf : WF var.count s)
    (hd : WalkDomain p var.defUnit ∨ WeekDomain p var.defUnit) :
    (∃ e, setInput var s p v = .error e) ↔
      v.length ≠ var.count ∨
      ∃ subs, walk var.defUnit p = .ok subs ∧ unknownCount s subs = 0 ∧
        ∃ i, i < var.count ∧ ent (castVec var.kind v) i ≠ knownSum s subs i := by
  obtain ⟨N, hf⟩ : ∃ N, PieceFacts p var.defUnit N := hd.elim (fun h => ⟨_, h.facts⟩) fun h => ⟨_, h.facts⟩
  have hw := hf.walk_eq
  by_cases hl : v.length = var.count
  · rw [setInput_of_walk hl hf.unit_ne hf.punit_ne hn hw, hr]
    simp only
    have hcl : (castVec var.kind v).length = var.count := by rw [castVec_length, hl]
    rw [divideOn_error_iff var.kind (hcl ▸ hwf), hcl]
    constructor
    · rintro ⟨hu, hi⟩; exact Or.inr ⟨_, hw, hu, hi⟩
    · rintro (h | ⟨subs', hw', hu, hi⟩)
      · exact absurd hl h
      · rw [hw] at hw'; injection hw' with e; subst e; exact ⟨hu, hi⟩
  · constructor
    · intro _; exact Or.inl hl
    · intro _; exact (C16_set_input_refusals var s p v hn).2.1 hl

example : (∃ e, setInput (exVar .divide) exStore exYear [27] = .error e) ∧
    WalkDomain exYear (exVar .divide).defUnit := ⟨⟨"length", by decide +kernel⟩, by decide⟩

/-- **`calculate` on every piece, added up by the caller, is `calculate_add`**: same total, same store
afterwards (the pieces nobody set are cached with the default either way). With
`C16_every_history_then_add` the hand-made sum over the period of any accepted input is its amount. -/
theorem C16_add_is_sum_of_calculate (var : VarSpec) (hn : var.neutralized = false) (s : Store) (p : Period)
    (hd : WalkDomain p var.defUnit) (hal : Aligned p var.defUnit) :
    ∃ subs, p.subperiods var.defUnit = .ok subs ∧
      calcAdd var s p = (calcEach var (vzero var.count, s) subs).map (fun r => (some r.1, r.2)) := by
  obtain ⟨qs, hw, _, _, hu, -⟩ := hd.facts.walk_tiles
  obtain ⟨hsub, hc⟩ := hd.facts.calcAdd_eq (hal.alignedTo hd) hn s hw
  refine ⟨qs, hsub, ?_⟩
  rw [hc, calcEach_eq_fold hn hd.facts.unit_ne qs hu]
  rfl

example : calcEach (exVar .divide) (vzero 2, exStore) [exMonth 1, exMonth 2] =
    .ok ([5, 8], [(exMonth 1, [0, 0]), (exMonth 2, [5, 8])]) := by decide +kernel

/-- **order independence, divide rule, ANY two orders.** For a family of inputs in which an input with
fewer pieces lies inside or apart from one with more, and inputs with equally many pieces are on the same
pieces or on disjoint ones (`StrictLaminar` — periods of one tiling family that do not overlap partially:
months in quarters in years, days in months, a period given twice): two accepted histories made of the
same inputs, one ANY permutation of the other, end in the same store. -/
theorem C16_order_permutation (n : Nat) (calls1 calls2 : List (List Period × Vec)) (hp : calls2.Perm calls1)
    (hlen : ∀ d, d ∈ calls1 → d.2.length = n) (hlam : StrictLaminar calls1)
    (s t1 t2 : Store) (hwf : WF n s) (h1 : runDivide .num s calls1 = .ok t1)
    (h2 : runDivide .num s calls2 = .ok t2) : SameStore t1 t2 :=
  runDivide_perm calls1 calls2 hp hlen hlam hwf h1 h2

/-- the same at the level of `Simulation.set_input`: two accepted histories of inputs on a divide variable
(exact values) that are permutations of each other leave the same values, provided the periods do not
overlap partially -/
theorem C16_history_order_permutation (var : VarSpec) (hr : var.rule = .divide) (hk : var.kind = .num)
    (hn : var.neutralized = false) (calls1 calls2 : List (Period × Vec)) (hp : calls2.Perm calls1)
    (hlive : ∀ pv, pv ∈ calls1 → Live var pv.1)
    (hlam : StrictLaminar (calls1.map (fun pv => (piecesOf var pv.1, pv.2))))
    (s t1 t2 : Store) (hwf : WF var.count s) (h1 : feedAll var s calls1 = .ok t1)
    (h2 : feedAll var s calls2 = .ok t2) : SameStore t1 t2 := by
  obtain ⟨r1, hl1⟩ := feedAll_runDivide hr hk hn hlive h1
  obtain ⟨r2, _⟩ := feedAll_runDivide hr hk hn (fun pv hpv => hlive pv (hp.mem_iff.mp hpv)) h2
  refine runDivide_perm _ _ (hp.map _) ?_ hlam hwf r1 r2
  intro d hd
  obtain ⟨pv, hpv, rfl⟩ := List.mem_map.mp hd
  exact hl1 pv hpv

example :
    let q1 : Period := ⟨.month, ⟨2018, 1, 1⟩, 3⟩
    let c1 : List (Period × Vec) := [(exYear, [27, 30]), (exMonth 7, [2, 2]), (q1, [9, 12]), (exYear, [27, 30])]
    let c2 : List (Period × Vec) := [(q1, [9, 12]), (exYear, [27, 30]), (exYear, [27, 30]), (exMonth 7, [2, 2])]
    c2.Perm c1 ∧ StrictLaminar (c1.map (fun pv => (piecesOf (exVar .divide) pv.1, pv.2))) ∧
      isOk (feedAll (exVar .divide) exStore c1) = true ∧ isOk (feedAll (exVar .divide) exStore c2) = true := by
  refine ⟨?_, by decide +kernel, by decide +kernel, by decide +kernel⟩
  decide

/-- **every history, dispatch rule.** Along any accepted history of inputs on a dispatch variable a piece
keeps the value it had before the history; a piece without value receives the (converted) value of the
FIRST input whose period covers it; a piece no input covers stays unknown. Nothing is ever overwritten. -/
theorem C16_every_history_dispatch (var : VarSpec) (hr : var.rule = .dispatch) (hn : var.neutralized = false)
    (calls : List (Period × Vec)) (hlive : ∀ pv, pv ∈ calls → Live var pv.1) (s t : Store)
    (h : feedAll var s calls = .ok t) (q : Period) :
    sget t q =
      match sget s q with
      | some v => some v
      | none => (calls.find? (fun pv => decide (q ∈ piecesOf var pv.1))).map (fun pv => castVec var.kind pv.2) := by
  rw [feedAll_runDispatch hr hn hlive h, sget_runDispatch, List.find?_map, Option.map_map]
  rfl

example : ∃ t, feedAll (exVar .dispatch) exStore [(⟨.month, ⟨2018, 1, 1⟩, 3⟩, [1, 1]), (exYear, [10, 10])] = .ok t ∧
    sget t (exMonth 2) = some [5, 8] ∧ sget t (exMonth 3) = some [1, 1] ∧ sget t (exMonth 4) = some [10, 10] :=
  exists_ok_of_decide (h := by decide +kernel)

end OFCore
