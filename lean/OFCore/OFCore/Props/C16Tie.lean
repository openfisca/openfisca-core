import OFCore.SetInput
import OFCore.Lemmas.TieGuards
import OFCore.Lemmas.Except
/-!
# C16 — the input model refuses a period exactly when the code's source says so (translator tie)

`holderSet` / `setInput` of `OFCore/SetInput.lean` transcribe `Holder._set` and the head of
`Holder.set_input`; `OFCore.Generated.Guards` is regenerated from their source on every run.
-/
namespace OFCore
open OFCore.Generated

/-- `Holder._set`: for a value of the right length the model stores exactly when none of the code's
    guards raises -/
theorem C16_tie_holder_set (var : VarSpec) (s : Store) (p : Period) (v : Vec) (hl : v.length = var.count) :
    (holderSet var s p v).toBool = !Guards.holderSet_raises var.defUnit p.unit p.size := by
  rw [holderSet_raises_eq, Bool.eq_iff_iff]
  by_cases h : var.defUnit = .eternity <;>
    simp [holderSet, toArray, hl, bind, Except.bind, Tie.holderSetGuards, apply_ite Except.toBool,
      toBool_ok, toBool_error, h]

/-- `Holder.set_input`: an ETERNITY period given for a dated variable is refused, exactly as the
    first guard of the code says; nothing else is refused at that point -/
theorem C16_tie_set_input_guard (var : VarSpec) (s : Store) (p : Period) (v : Vec)
    (h : Guards.holderSetInput_refuses var.defUnit p.unit var.neutralized = true) :
    setInput var s p v = .error "mismatch" := by
  simp only [holderSetInput_refuses_eq, Bool.and_eq_true, beq_iff_eq, bne_iff_ne] at h
  exact if_pos h

/-- … and a neutralised variable's input is dropped without touching the store when the guard does not fire -/
theorem C16_tie_set_input_neutralized (var : VarSpec) (s : Store) (p : Period) (v : Vec)
    (h : Guards.holderSetInput_refuses var.defUnit p.unit var.neutralized = false) (hn : var.neutralized = true) :
    setInput var s p v = .ok s := by
  have h' : ¬(p.unit = .eternity ∧ var.defUnit ≠ .eternity) := by
    simpa [holderSetInput_refuses_eq] using h
  simp only [setInput, if_neg h', hn, if_true]

example : Guards.holderSetInput_refuses .month .eternity false = true := by decide +kernel
example : Guards.holderSet_raises .month .month 2 = true := by decide +kernel
end OFCore
