import OFCore.GeneratedParam
import OFCore.Lemmas.ParamNode
/-!
# C06 — the parameter model reads a value exactly as the code's source says (translator tie)

`OFCore.Generated.Param.parameter_get_at_instant` is regenerated on every run from the source of
`Parameter._get_at_instant` (`harness/ofverif/translate.py`: the `for … if … return` loop becomes
"the first entry of `values_list` passing the translated test").  `pget` is the function every
`C06_…` theorem is about.  Likewise `node_at_instant_children`, from the source of `ParameterNodeAtInstant.__init__`,
for `childrenAt`, on which the group clause of C06 stands.
-/
namespace OFCore.Param
open OFCore.Generated

theorem C06_tie_get_at_instant {V : Type} (l : List (Entry V)) (d : Int) :
    pget l d = Generated.Param.parameter_get_at_instant l d := by
  first
  | rfl      -- the fall-back definition (function not translatable on this run) is `pget` itself
  | (induction l with
    | nil => simp [pget, Generated.Param.parameter_get_at_instant]
    | cons e r ih =>
      unfold Generated.Param.parameter_get_at_instant at *
      by_cases h : e.date ≤ d
      · simp [pget, List.find?, h]
      · simp [pget, List.find?, h]; exact ih)

/-- the children a parameter group exposes at a date — `childrenAt`, the function the group clause of
    C06 is proved about — are what the current source of `ParameterNodeAtInstant.__init__` keeps: every child
    of the node, in dict order, read with `_get_at_instant`, dropped exactly when that is `None` -/
theorem C06_tie_node_children {V : Type} (cs : List (String × PNode V)) (d : Int) :
    childrenAt cs d = Generated.Param.node_at_instant_children PNode.atInstant cs d := by
  rw [childrenAt_eq_filterMap]
  unfold Generated.Param.node_at_instant_children
  congr 1

/-- stated on the code's side, for ANY reading of a child at a date: the translated loop of
    `ParameterNodeAtInstant.__init__` exposes a name with a value exactly when a child of that name reads as
    that value (is not `None`) at the date — nothing else is added, nothing defined is dropped -/
theorem C06_code_node_children_spec {C S : Type} (atI : C → Int → Option S) (cs : List (String × C)) (d : Int)
    (k : String) (s : S) :
    (k, s) ∈ Generated.Param.node_at_instant_children atI cs d ↔ ∃ c, (k, c) ∈ cs ∧ atI c d = some s := by
  show (k, s) ∈ cs.filterMap (fun p => (atI p.2 d).map (p.1, ·)) ↔ _
  exact mem_filterMap_children (atI · d) cs k s

/-- … and the order of the exposed names is the dict order of the children -/
theorem C06_code_node_children_order {C S : Type} (atI : C → Int → Option S) (cs : List (String × C)) (d : Int) :
    ((Generated.Param.node_at_instant_children atI cs d).map (·.1)).Sublist (cs.map (·.1)) := by
  unfold Generated.Param.node_at_instant_children
  induction cs with
  | nil => simp
  | cons kc r ih =>
    rw [List.filterMap_cons]
    cases h : atI kc.2 d with
    | none => simp only [List.map_cons]; exact ih.cons _
    | some s => simp only [List.map_cons]; exact ih.cons_cons _

/-- a group with one member defined at the date and one not yet defined exposes the first only -/
example : Generated.Param.node_at_instant_children (fun (l : List (Entry Nat)) d => pget l d)
    [("a", [⟨10, some 3⟩]), ("b", [⟨30, some 4⟩])] 15 = [("a", 3)] := by decide

example : Generated.Param.parameter_get_at_instant [⟨20, some 5⟩, ⟨10, some 3⟩] 15 = some 3 := by decide
end OFCore.Param
