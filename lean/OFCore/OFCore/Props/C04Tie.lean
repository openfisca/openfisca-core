import OFCore.GeneratedGuards
/-!
# C04 — the period model's size and splitting functions are the code's (translator tie)

`OFCore.Generated.Guards.period_*` are regenerated on every run from the source of
`Period.size_in_years / size_in_months / size_in_days / size_in_weeks / size_in_weekdays` and
`Period.get_subperiods` (`harness/ofverif/translate.py`: the dispatch on the unit is translated
statement by statement, each leaf idiom by idiom — `self.size * 12`, the `(last_day - start).days + 1`
block, `start.diff(start.add(years=size)).in_weeks()`, the list comprehension
`[self.first_month.offset(i, MONTH) for i in range(self.size_in_months)]` …).  The theorems state
that the hand-written model of `Period.lean` — the one every `C04_…` theorem is about — IS that
function, for every period.
-/
namespace OFCore
open OFCore.Generated

-- `cases` + `simp` + `omega`, not `rfl`: the proofs must close on the translated definition, on the
-- fall-back (the model function itself) and after harmless source rewrites (`12 * self.size`).
theorem C04_tie_size_in_years (p : Period) : p.sizeInYears = Guards.period_size_in_years p := by
  cases hu : p.unit <;> simp [Period.sizeInYears, Guards.period_size_in_years, hu] <;> (try omega)

theorem C04_tie_size_in_months (p : Period) : p.sizeInMonths = Guards.period_size_in_months p := by
  cases hu : p.unit <;> simp [Period.sizeInMonths, Guards.period_size_in_months, hu, bind, Except.bind] <;> (try omega)

theorem C04_tie_size_in_days (p : Period) : p.sizeInDays = Guards.period_size_in_days p := by
  cases hu : p.unit <;> simp [Period.sizeInDays, Guards.period_size_in_days, hu, bind, Except.bind] <;> (try omega)

theorem C04_tie_size_in_weeks (p : Period) : p.sizeInWeeks = Guards.period_size_in_weeks p := by
  cases hu : p.unit <;>
    simp [Period.sizeInWeeks, Guards.period_size_in_weeks, Tie.weeksAfterYears, Tie.weeksAfterMonths, hu] <;> (try omega)

/-- `DateUnit.MONTH in unit` (a substring test on the names) holds of the month alone -/
theorem nameInfix_month (u : DUnit) : Tie.nameInfix .month u = (u == .month) := by
  cases u <;> decide +kernel

theorem C04_tie_size_in_weekdays (p : Period) : p.sizeInWeekdays = Guards.period_size_in_weekdays p := by
  -- any other substring test than `nameInfix_month`'s is evaluated on the names by the second `simp`
  cases hu : p.unit <;> simp only [Guards.period_size_in_weekdays, nameInfix_month] <;>
    simp [Period.sizeInWeekdays, Tie.nameInfix, Tie.infixB, DUnit.name, hu, bind, Except.bind] <;>
    (try omega)

theorem C04_tie_get_subperiods (p : Period) (u : DUnit) :
    p.subperiods u = Guards.period_get_subperiods p u := by
  first
  | rfl      -- the fall-back definition (function not translatable on this run) is the model function itself
  | (unfold Period.subperiods Guards.period_get_subperiods
     by_cases h : unitWeight p.unit < unitWeight u
     · simp [h]
     · cases u <;> simp [h, bind, Except.bind])

-- non-vacuity: the generated functions compute something
example : Guards.period_size_in_months ⟨.year, ⟨2020, 1, 1⟩, 2⟩ = .ok 24 := by
  simp [Guards.period_size_in_months, Period.sizeInMonths, bind, Except.bind]
example : Guards.period_size_in_years ⟨.month, ⟨2020, 1, 1⟩, 2⟩ = .error "value" := by
  simp [Guards.period_size_in_years, Period.sizeInYears]
end OFCore
