import OFCore.Lemmas.TaxScaleAmounts
/-!
# C08 — tax scales compute their mathematical definition for every base

Model: `OFCore/TaxScale.lean` (exact rationals).  `ε` is the perturbation
`numpy.finfo(float64).eps` (`2⁻⁵² = 1/4503599627370496` in the examples) which
`MarginalRateTaxScale.calc` and `bracket_indices` add to the threshold factor `f`: a threshold `t`
is seen as `τ t = (f + ε)·t` (`thrMap ε f none t`); the
theorems with a perturbation hold for all `ε` and `f` with `0 < f + ε`, except `C08_bracket_contains_lattice`
(`0 ≤ ε`, `f = 1`) and `C08_threshold_rate_from_tax_base` (`f = 1`); the textbook statements are the instances
`ε = 0`, `f = 1`.  All statements are for bracket lists of any length and all bases.

A scale reaches `calc` through `add_bracket`, hence strictly sorted (`build_sorted`); the
hypothesis `StrictSorted s` is that fact.  Domain conventions mirrored by the model and carried
as explicit hypotheses (not defects, DESIGN C08 "Observations"): with `ε > 0` a base equal to a
positive threshold is reported in the lower bracket; below the first threshold the index is
`-1` (no bracket contains the base); the linear average is claimed on `[t₀, t_last)`.
-/
namespace OFCore
open OFCore.Sca

/-- `calc = Σ rateᵢ × |[τᵢ, τᵢ₊₁) ∩ (-∞, b]|` — with or without factor and rounding (`rd`): the
only requirement is that the transformed thresholds are (weakly) increasing. -/
theorem C08_marginal_rate_def (ε f : Rat) (rd : Option Nat) (s : Scale) (b : Rat) (hf : 0 < f + ε)
    (hl : WSorted (mapT (thrMap ε f rd) s)) :
    calcMR ε f rd s b = specMR rd (mapT (thrMap ε f rd) s) b := by
  rw [calcMR_pos hf]
  exact clipSum_eq_specMR rd _ hl b

example : calcMR (1/4503599627370496) (1/2) (some 0) [(5, 1/4), (10, 1/2)] 7
    = specMR (some 0) (mapT (thrMap (1/4503599627370496) (1/2) (some 0)) [(5, 1/4), (10, 1/2)]) 7 :=
  C08_marginal_rate_def _ _ _ _ _ (by decide +kernel) (by decide +kernel)

/-- the requirement always holds for a scale built by `add_bracket` (strictly sorted): scaling by
`f + ε > 0` and `numpy.round` are monotone — so the definition holds with factor and rounding -/
theorem C08_marginal_rate_def_sorted (ε f : Rat) (rd : Option Nat) (s : Scale) (b : Rat) (hf : 0 < f + ε)
    (hs : StrictSorted s) :
    calcMR ε f rd s b = specMR rd (mapT (thrMap ε f rd) s) b :=
  C08_marginal_rate_def ε f rd s b hf (wsorted_thr hf hs)

example : calcMR (1/4503599627370496) 1 (some 2) [(0, 1/4), (100, 1/2)] (601/4)
    = specMR (some 2) (mapT (thrMap (1/4503599627370496) 1 (some 2)) [(0, 1/4), (100, 1/2)]) (601/4) :=
  C08_marginal_rate_def_sorted _ _ _ _ _ (by decide +kernel) (by decide +kernel)

/-- without rounding the transformed thresholds are `(f + ε)·t` -/
theorem C08_marginal_rate_def_unrounded (ε f : Rat) (s : Scale) (b : Rat) (hf : 0 < f + ε)
    (hs : StrictSorted s) :
    calcMR ε f none s b = specMR none (mapT (fun t => (f + ε) * t) s) b :=
  C08_marginal_rate_def_sorted ε f none s b hf hs

example : calcMR 0 (3/2) none [(0, 1/4), (100, 1/2)] 200 = specMR none (mapT (fun t => (3/2 + 0) * t) [(0, 1/4), (100, 1/2)]) 200 :=
  C08_marginal_rate_def_unrounded _ _ _ _ (by decide +kernel) (by decide +kernel)

/-- textbook corollary (`ε = 0`, factor 1): the thresholds are the scale's own -/
theorem C08_marginal_rate_def_textbook (s : Scale) (b : Rat) (hs : StrictSorted s) :
    calcMR 0 1 none s b = specMR none s b := by
  rw [calcMR_textbook]
  exact clipSum_eq_specMR none s hs.wsorted b

example : calcMR 0 1 none [(0, 1/4), (100, 1/2)] 150 = 50 ∧ specMR none [(0, 1/4), (100, 1/2)] 150 = 50 := by
  decide +kernel

/-- closed form on the bracket `(t, r)` containing the base (`τ t ≤ b ≤ τ t'` for the next
threshold `t'`): the complete brackets below it, plus `r × (b − τ t)` -/
theorem C08_marginal_rate_closed (ε f : Rat) (pre : Scale) (t r : Rat) (post : Scale) (b : Rat)
    (hf : 0 < f + ε) (hs : StrictSorted (pre ++ (t, r) :: post))
    (hb : (f + ε) * t ≤ b) (hpost : ∀ c ∈ post, b ≤ (f + ε) * c.1) :
    calcMR ε f none (pre ++ (t, r) :: post) b
      = fullBr (mapT (fun t => (f + ε) * t) (pre ++ [(t, r)])) + r * (b - (f + ε) * t) := by
  have hl := wsorted_thr (rd := none) hf hs
  rw [calcMR_pos hf, mapT_append] at *
  rw [mapT_append]
  exact clipSum_closed _ ((f + ε) * t) r _ b hl hb (forall_mem_mapT hpost)

example : calcMR 0 1 none ([(0, 1/4)] ++ (100, 1/2) :: [(300, 1)]) 150
    = fullBr (mapT (fun t => (1 + 0) * t) ([(0, 1/4)] ++ [(100, 1/2)])) + 1/2 * (150 - (1 + 0) * 100) :=
  C08_marginal_rate_closed 0 1 _ _ _ _ _ (by decide +kernel) (by decide +kernel) (by decide +kernel)
    (by intro c hc; simp at hc; subst hc; decide +kernel)

/-- nothing is due at or below the first threshold -/
theorem C08_marginal_rate_below_first (ε f : Rat) (s : Scale) (b : Rat) (hs : StrictSorted s)
    (hf : 0 < f + ε) (hb : ∀ c ∈ s.head?, b ≤ (f + ε) * c.1) : calcMR ε f none s b = 0 := by
  cases s with
  | nil => rfl
  | cons a rest =>
    rw [calcMR_pos hf]
    exact clipSum_zero_below_head (wsorted_thr hf hs) (hb a rfl)

example : calcMR (1/4503599627370496) 1 none [(50, 1/4), (100, 1/2)] 50 = 0 :=
  C08_marginal_rate_below_first _ _ _ _ (by decide +kernel) (by decide +kernel)
    (by intro c hc; simp at hc; subst hc; decide +kernel)

/-- the reported index `k` satisfies `τ_k ≤ b < τ_{k+1}` with `τ t = round((f + ε)·t)` (no
rounding: `τ t = (f + ε)·t`); more precisely bracket `i` is at or below the reported one iff
its transformed threshold is `≤ b` -/
theorem C08_bracket_contains (ε f : Rat) (rd : Option Nat) (s : Scale) (b : Rat) (hf : 0 < f + ε)
    (hs : StrictSorted s) :
    -1 ≤ bracketIndex ε f rd s b ∧ bracketIndex ε f rd s b < s.length ∧
    ∀ (i : Nat) (t r : Rat), s[i]? = some (t, r) →
      ((i : Int) ≤ bracketIndex ε f rd s b ↔ thrMap ε f rd t ≤ b) := by
  obtain ⟨pre, post, rfl, h1, h2⟩ := exists_split _ s (wsorted_thr (rd := rd) hf hs) b
  rw [bracketIndex_append ε f rd pre post b h1 h2, List.length_append]
  refine ⟨by omega, by omega, fun i t r hi => ?_⟩
  rcases Nat.lt_or_ge i pre.length with h | h
  · rw [List.getElem?_append_left h] at hi
    exact iff_of_true (by omega) (h1 (t, r) (List.mem_of_getElem? hi))
  · rw [List.getElem?_append_right h] at hi
    exact iff_of_false (by omega) (not_le.mpr (h2 (t, r) (List.mem_of_getElem? hi)))

example : bracketIndex (1/4503599627370496) (1/2) (some 0) [(5, 1/4), (10, 1/2)] 3 = 0 ∧
    thrMap (1/4503599627370496) (1/2) (some 0) 5 = 3 := by decide +kernel

/-- explicit form: lower end included, upper end excluded (in the perturbed thresholds) -/
theorem C08_bracket_contains_bounds (ε f : Rat) (s : Scale) (b : Rat) (hf : 0 < f + ε) (hs : StrictSorted s)
    (k : Nat) (hk : bracketIndex ε f none s b = k) :
    (∀ t r, s[k]? = some (t, r) → (f + ε) * t ≤ b) ∧ (∀ t r, s[k + 1]? = some (t, r) → b < (f + ε) * t) := by
  obtain ⟨_, _, h⟩ := C08_bracket_contains ε f none s b hf hs
  simp only [thrMap_none] at h
  constructor
  · intro t r e
    exact (h k t r e).mp (by omega)
  · intro t r e
    have := (h (k + 1) t r e)
    rw [hk] at this
    by_contra hc
    have := this.mpr (not_lt.mp hc)
    omega

/-- lattice-gap form (factor 1): when base and thresholds sit on a lattice of step `g` and the
perturbation `ε·|t|` of every threshold is smaller than `g` (the situation of the code:
`ε = 2⁻⁵²`), the reported bracket satisfies `t_k ≤ b ≤ t_{k+1}` in the *unperturbed* thresholds -/
theorem C08_bracket_contains_lattice (ε : Rat) (s : Scale) (b g : Rat) (hε : 0 ≤ ε) (hs : StrictSorted s)
    (hg : 0 < g) (hlat : ∀ c ∈ s, ∃ n : Int, b - c.1 = n * g) (hgap : ∀ c ∈ s, ε * |c.1| < g)
    (k : Nat) (hk : bracketIndex ε 1 none s b = k) :
    (∀ t r, s[k]? = some (t, r) → t ≤ b) ∧ (∀ t r, s[k + 1]? = some (t, r) → b ≤ t) := by
  obtain ⟨h1, h2⟩ := C08_bracket_contains_bounds ε 1 s b (add_pos_of_pos_of_nonneg one_pos hε) hs k hk
  have hl : ∀ t r i, s[i]? = some (t, r) → ((1 + ε) * t ≤ b → t ≤ b) ∧ (b < (1 + ε) * t → b ≤ t) := fun t r i e =>
    le_of_lattice (t := t) hε hg (hlat (t, r) (List.mem_of_getElem? e)) (hgap (t, r) (List.mem_of_getElem? e))
  exact ⟨fun t r e => (hl t r _ e).1 (h1 t r e), fun t r e => (hl t r _ e).2 (h2 t r e)⟩

example : (∀ t r, [((0 : Rat), (1/4 : Rat)), (100, 1/2), (300, 1)][0]? = some (t, r) → t ≤ 100) ∧
    (∀ t r, [((0 : Rat), (1/4 : Rat)), (100, 1/2), (300, 1)][0 + 1]? = some (t, r) → 100 ≤ t) :=
  C08_bracket_contains_lattice (1/4503599627370496) _ 100 (1/4) (by decide +kernel) (by decide +kernel) (by decide +kernel)
    (by
      intro c hc
      simp at hc
      rcases hc with e | e | e <;> subst e
      · exact ⟨400, by norm_num⟩
      · exact ⟨0, by norm_num⟩
      · exact ⟨-800, by norm_num⟩)
    (by
      intro c hc
      simp at hc
      rcases hc with e | e | e <;> subst e <;> norm_num [abs_of_nonneg])
    0 (by decide +kernel)

/-- `ε = 0`, factor 1: the textbook half-open bracket `t_k ≤ b < t_{k+1}` -/
theorem C08_bracket_contains_textbook (s : Scale) (b : Rat) (hs : StrictSorted s)
    (k : Nat) (hk : bracketIndex 0 1 none s b = k) :
    (∀ t r, s[k]? = some (t, r) → t ≤ b) ∧ (∀ t r, s[k + 1]? = some (t, r) → b < t) := by
  have := C08_bracket_contains_bounds 0 1 s b (by rw [add_zero]; exact one_pos) hs k hk
  simp only [add_zero, one_mul] at this
  exact this

example : bracketIndex (1/4503599627370496) 1 none [(0, 1/4), (100, 1/2), (300, 1)] 200 = 1 ∧
    bracketIndex (1/4503599627370496) 1 none [(0, 1/4), (100, 1/2), (300, 1)] 100 = 0 ∧
    bracketIndex 0 1 none [(0, 1/4), (100, 1/2), (300, 1)] 100 = 1 := by decide +kernel

/-- conversely the bracket containing the base is the one reported, with its rate: if
`s = pre ++ (t, r) :: post` and `τ t ≤ b < τ t'` for every later threshold, then the index is
the position of `(t, r)` and `marginal_rates` returns `r` -/
theorem C08_bracket_reported (ε f : Rat) (pre : Scale) (t r : Rat) (post : Scale) (b : Rat)
    (hf : 0 < f + ε) (hs : StrictSorted (pre ++ (t, r) :: post))
    (hb : (f + ε) * t ≤ b) (hpost : ∀ c ∈ post, b < (f + ε) * c.1) :
    bracketIndex ε f none (pre ++ (t, r) :: post) b = pre.length ∧
    marginalRate ε f none (pre ++ (t, r) :: post) b = .ok r := by
  have hpre : ∀ c ∈ pre ++ [(t, r)], thrMap ε f none c.1 ≤ b :=
    List.forall_mem_append.mpr ⟨fun c hc => le_trans (mul_le_mul_of_nonneg_left
      ((strictSorted_append.mp hs).2.2 c hc (t, r) List.mem_cons_self).le hf.le) hb, List.forall_mem_singleton.mpr hb⟩
  have hidx : bracketIndex ε f none (pre ++ (t, r) :: post) b = pre.length := by
    rw [List.append_cons, bracketIndex_append ε f none _ post b hpre hpost, List.length_append, List.length_singleton]
    omega
  refine ⟨hidx, ?_⟩
  unfold marginalRate
  rw [hidx]
  exact pyIndex_map_split (·.2) pre post (t, r)

example : marginalRate (1/4503599627370496) 1 none ([(0, 1/4)] ++ (100, 1/2) :: [(300, 1)]) 200 = .ok (1/2) :=
  (C08_bracket_reported _ 1 _ _ _ _ 200 (by decide +kernel) (by decide +kernel) (by decide +kernel)
    (by intro c hc; simp at hc; subst hc; decide +kernel)).2

/-- marginal amounts: the sum of the amounts of all thresholds strictly below the base -/
theorem C08_marginal_amount_def (s : Scale) (b : Rat) (hs : StrictSorted s) : calcMA s b = sumBelow s b := by
  induction s with
  | nil => rfl
  | cons a rest ih =>
    obtain ⟨t, r⟩ := a
    rw [strictSorted_cons] at hs
    cases rest with
    | nil =>
      show (if 0 < max (b - t) 0 then r else 0) = (if t < b then r else 0) + 0
      rw [add_zero, if_congr (lt_max_iff.trans (or_iff_left (lt_irrefl 0))) rfl rfl, if_congr sub_pos rfl rfl]
    | cons c rest =>
      show (if 0 < max (min b c.1 - t) 0 then r else 0) + calcMA (c :: rest) b
        = (if t < b then r else 0) + sumBelow (c :: rest) b
      rw [ih hs.2, if_congr (clip_pos_iff b t c.1 (hs.1 c List.mem_cons_self)) rfl rfl]

example : calcMA [(0, 1), (10, 2), (20, 4)] 15 = sumBelow [(0, 1), (10, 2), (20, 4)] 15 :=
  C08_marginal_amount_def _ 15 (by decide +kernel)
example : calcMA [(0, 1), (10, 2), (20, 4)] 10 = 1 ∧ calcMA [(0, 1), (10, 2), (20, 4)] 15 = 3 ∧
    sumBelow [(0, 1), (10, 2), (20, 4)] 15 = 3 := by decide +kernel

/-- single amount: the amount of the one bracket containing the base — `t ≤ b < t'` by default,
`t < b ≤ t'` with `right=True` — and zero below the first threshold -/
theorem C08_single_amount_def (pre : Scale) (t a : Rat) (post : Scale) (b : Rat)
    (hs : StrictSorted (pre ++ (t, a) :: post)) :
    (t ≤ b → (∀ c ∈ post, b < c.1) → calcSA false (pre ++ (t, a) :: post) b = a) ∧
    (t < b → (∀ c ∈ post, b ≤ c.1) → calcSA true (pre ++ (t, a) :: post) b = a) := by
  have hpre : ∀ c ∈ pre, c.1 < t := fun c hc => (strictSorted_append.mp hs).2.2 c hc (t, a) List.mem_cons_self
  constructor
  · intro h1 h2
    exact calcSA_split false pre (t, a) post b (fun c hc => decide_eq_true ((hpre c hc).le.trans h1))
      (decide_eq_true h1) (fun c hc => decide_eq_false (not_le.mpr (h2 c hc)))
  · intro h1 h2
    exact calcSA_split true pre (t, a) post b (fun c hc => decide_eq_true ((hpre c hc).trans h1))
      (decide_eq_true h1) (fun c hc => decide_eq_false (not_lt.mpr (h2 c hc)))

/-- zero below the first threshold (at it too with `right=True`) -/
theorem C08_single_amount_below_first (s : Scale) (b : Rat) :
    ((∀ c ∈ s, b < c.1) → calcSA false s b = 0) ∧ ((∀ c ∈ s, b ≤ c.1) → calcSA true s b = 0) := by
  exact ⟨fun h => calcSA_zero false s b (fun c hc => decide_eq_false (not_le.mpr (h c hc))),
    fun h => calcSA_zero true s b (fun c hc => decide_eq_false (not_lt.mpr (h c hc)))⟩

example : calcSA false [(5, 1), (10, 2)] 4 = 0 ∧ calcSA true [(5, 1), (10, 2)] 5 = 0 :=
  ⟨(C08_single_amount_below_first _ 4).1 (by decide +kernel), (C08_single_amount_below_first _ 5).2 (by decide +kernel)⟩
example : calcSA true ([(0, 1)] ++ (10, 2) :: [(20, 4)]) 20 = 2 :=
  (C08_single_amount_def _ _ _ _ 20 (by decide +kernel)).2 (by decide +kernel)
    (by intro c hc; simp at hc; subst hc; decide +kernel)
example : calcSA false ([(0, 1)] ++ (10, 2) :: [(20, 4)]) 10 = 2 :=
  (C08_single_amount_def _ _ _ _ 10 (by decide +kernel)).1 (by decide +kernel)
    (by intro c hc; simp at hc; subst hc; decide +kernel)

/-- linear average rate on `[t₀, t_last)`: the base times the rate interpolated linearly between
the two thresholds around it -/
theorem C08_linear_average_def (pre : Scale) (t r t' r' : Rat) (post : Scale) (b : Rat)
    (hs : StrictSorted (pre ++ (t, r) :: (t', r') :: post)) (h1 : t ≤ b) (h2 : b < t') :
    calcLA (pre ++ (t, r) :: (t', r') :: post) b = .ok (b * (r + (b - t) * ((r' - r) / (t' - t)))) := by
  rw [calcLA_eq (by simp; omega) b, laSums_split pre t r t' r' post b hs h1 h2]

example : calcLA ([(0, 0)] ++ (100, 1/8) :: (300, 1/2) :: []) 200 = .ok (200 * (1/8 + (200 - 100) * ((1/2 - 1/8) / (300 - 100)))) :=
  C08_linear_average_def _ _ _ _ _ _ 200 (by decide +kernel) (by decide +kernel) (by decide +kernel)

/-- the scale built by `add_bracket` does not depend on the order of insertion: equal
thresholds accumulate their rates (amounts), the others are inserted in order -/
theorem C08_insertion_order (l₁ l₂ : List (Rat × Rat)) (h : l₁.Perm l₂) : build l₁ = build l₂ :=
  sorted_ext (build_sorted l₁) (build_sorted l₂)
    (fun u => by rw [(build_spec l₁ u).1, (build_spec l₂ u).1]; exact h.any_eq)
    (fun u => by rw [(build_spec l₁ u).2, (build_spec l₂ u).2, rateOf_perm h])

example : build [(100, 1/2), (0, 1/4), (100, 1/8)] = build [(100, 1/8), (100, 1/2), (0, 1/4)] :=
  C08_insertion_order _ _ (by decide +kernel)

/-- … and it is strictly sorted, whatever was inserted (the hypothesis of the theorems above) -/
theorem C08_built_sorted (l : List (Rat × Rat)) : StrictSorted (build l) := build_sorted l

example : StrictSorted (build [(100, 1/2), (0, 1/4), (100, 1/8), (-5, 1)]) := C08_built_sorted _

/-- what the built scale is: its thresholds are exactly the inserted ones (each once, by
`C08_built_sorted`) and the rate / amount of a threshold is the sum of those inserted for it -/
theorem C08_build_def (l : List (Rat × Rat)) (u : Rat) :
    hasT (build l) u = hasT l u ∧ rateOf (build l) u = rateOf l u :=
  build_spec l u

example : rateOf (build [(100, 1/2), (0, 1/4), (100, 1/8)]) 100 = 5/8 ∧ hasT (build [(100, 1/2), (0, 1/4), (100, 1/8)]) 0 = true := by
  decide +kernel

/-- `calc` on a vector of bases (one clipped column per bracket, summed over the brackets) gives
for each base the value of that base alone; same for the indices and rates -/
theorem C08_vector_pointwise (ε f : Rat) (rd : Option Nat) (s : Scale) (bs : List Rat) :
    calcMRVec ε f rd s bs = bs.map (calcMR ε f rd s) ∧
    (s ≠ [] → bs ≠ [] → bracketIndices ε f rd s bs = .ok (bs.map (bracketIndex ε f rd s))) := by
  constructor
  · exact calcMRVec_eq_map ε f rd s bs
  · exact bracketIndices_eq ε f rd

example : calcMRVec 0 1 none [(0, 1/4), (100, 1/2)] [50, 150, -5] = [25/2, 50, 0] := by decide +kernel
example : bracketIndices (1/4503599627370496) 1 none [(0, 1/4), (100, 1/2)] [50, 100, 150]
    = .ok ([50, 100, 150].map (bracketIndex (1/4503599627370496) 1 none [(0, 1/4), (100, 1/2)])) :=
  (C08_vector_pointwise _ _ _ _ _).2 (by simp) (by simp)

/-- an array of factors (one per base, `numpy.ones(len) * factor`): element `j` is the scalar
computation with its own factor — and a constant array is the scalar factor -/
theorem C08_vector_factor (rd : Option Nat) (s : Scale) (bs : List Rat) :
    (∀ efs : List (Rat × Rat), efs.length = bs.length →
      calcMRVecF efs rd s bs = .ok (List.zipWith (fun ef b => calcMR ef.1 ef.2 rd s b) efs bs) ∧
      (s ≠ [] → bs ≠ [] →
        bracketIndicesF efs rd s bs = .ok (List.zipWith (fun ef b => bracketIndex ef.1 ef.2 rd s b) efs bs))) ∧
    ∀ ε f : Rat, calcMRVecF (bs.map (fun _ => (ε, f))) rd s bs = .ok (calcMRVec ε f rd s bs) := by
  refine ⟨fun efs hlen => ⟨calcMRVecF_eq hlen rd s, bracketIndicesF_eq hlen rd⟩, fun ε f => ?_⟩
  rw [calcMRVecF_eq (List.length_map _) rd s, calcMRVec_eq_map, List.zipWith_map_left, List.zipWith_self]

example : calcMRVecF [(0, 1), (0, 2), (0, 1/2)] none [(0, 1/4), (100, 1/2), (300, 1)] [50, 150, 400]
    = .ok [25/2, 75/2, 625/2] := by decide +kernel

/-- the tax is monotone in the base when no rate is negative (any factor `f + ε > 0`) -/
theorem C08_calc_monotone (ε f : Rat) (s : Scale) (hf : 0 < f + ε) (hs : StrictSorted s) (hr : ∀ c ∈ s, 0 ≤ c.2)
    (b b' : Rat) (h : b ≤ b') : calcMR ε f none s b ≤ calcMR ε f none s b' := by
  rw [calcMR_pos hf, calcMR_pos hf]
  exact clipSum_mono _ (wsorted_thr hf hs) (forall_mem_mapT hr) b b' h

example : calcMR 0 1 none [(0, 1/4), (100, 0), (300, 1/2)] 150 ≤ calcMR 0 1 none [(0, 1/4), (100, 0), (300, 1/2)] 350 :=
  C08_calc_monotone 0 1 _ (by decide +kernel) (by decide +kernel) (by decide +kernel) 150 350 (by decide +kernel)

/-- the tax function has no jump, in particular not at a threshold (where the closed forms of the two
neighbouring brackets meet): it is Lipschitz, two bases are taxed at most `R × |b' − b|` apart when every
rate lies in `[−R, R]` -/
theorem C08_calc_lipschitz (ε f : Rat) (s : Scale) (hf : 0 < f + ε) (hs : StrictSorted s) (R : Rat) (h0 : 0 ≤ R)
    (hR : ∀ c ∈ s, |c.2| ≤ R) (b b' : Rat) :
    |calcMR ε f none s b' - calcMR ε f none s b| ≤ R * |b' - b| := by
  rw [calcMR_pos hf, calcMR_pos hf]
  exact clipSum_lipschitz _ (wsorted_thr hf hs) R h0 (forall_mem_mapT hR) b b'

example : |calcMR 0 1 none [(0, 1/4), (100, -1/2)] 101 - calcMR 0 1 none [(0, 1/4), (100, -1/2)] 99| ≤ 1/2 * |(101 : Rat) - 99| :=
  C08_calc_lipschitz 0 1 _ (by decide +kernel) (by decide +kernel) (1/2) (by decide +kernel) (by decide +kernel) 99 101

/-- the reported bracket never goes down when the base goes up (any scale, factor, rounding) -/
theorem C08_bracket_index_monotone (ε f : Rat) (rd : Option Nat) (s : Scale) (b b' : Rat) (h : b ≤ b') :
    bracketIndex ε f rd s b ≤ bracketIndex ε f rd s b' := by
  rw [bracketIndex_eq, bracketIndex_eq]
  have : cntLe (mapT (thrMap ε f rd) s) b ≤ cntLe (mapT (thrMap ε f rd) s) b' :=
    List.countP_mono_left (fun c _ hc => by
      simp only [decide_eq_true_eq] at hc ⊢
      exact le_trans hc h)
  omega

example : bracketIndex (1/4503599627370496) (3/2) (some 0) [(0, 1/4), (5, 1/2), (9, 1)] 7
    ≤ bracketIndex (1/4503599627370496) (3/2) (some 0) [(0, 1/4), (5, 1/2), (9, 1)] 14 :=
  C08_bracket_index_monotone _ _ _ _ 7 14 (by decide +kernel)

/-- inside one bracket `(t, r)` — both bases between `τ t` and the next perturbed threshold, ends included — the
tax is affine with slope `r`: the reported marginal rate (`C08_bracket_reported`) is the derivative of `calc` -/
theorem C08_marginal_rate_derivative (ε f : Rat) (pre : Scale) (t r : Rat) (post : Scale) (b b' : Rat)
    (hf : 0 < f + ε) (hs : StrictSorted (pre ++ (t, r) :: post))
    (hb : (f + ε) * t ≤ b) (hb' : (f + ε) * t ≤ b')
    (hpost : ∀ c ∈ post, b ≤ (f + ε) * c.1) (hpost' : ∀ c ∈ post, b' ≤ (f + ε) * c.1) :
    calcMR ε f none (pre ++ (t, r) :: post) b' - calcMR ε f none (pre ++ (t, r) :: post) b = r * (b' - b) := by
  rw [C08_marginal_rate_closed ε f pre t r post b hf hs hb hpost, C08_marginal_rate_closed ε f pre t r post b' hf hs hb' hpost']
  ring

example : calcMR 0 1 none ([(0, 1/4)] ++ (100, 1/2) :: [(300, 1)]) 300 - calcMR 0 1 none ([(0, 1/4)] ++ (100, 1/2) :: [(300, 1)]) 100
    = 1/2 * (300 - 100) :=
  C08_marginal_rate_derivative 0 1 _ _ _ _ 100 300 (by decide +kernel) (by decide +kernel) (by decide +kernel) (by decide +kernel)
    (by intro c hc; simp at hc; subst hc; decide +kernel) (by intro c hc; simp at hc; subst hc; decide +kernel)

/-- the reported marginal rate is the slope of the tax function: between two bases of the same
bracket (no perturbed threshold strictly between `b` and `b'`, `b` not below the first one)
`calc b' − calc b = marginal_rate(b) × (b' − b)` -/
theorem C08_marginal_slope (ε f : Rat) (s : Scale) (b b' ρ : Rat) (hf : 0 < f + ε) (hs : StrictSorted s)
    (hbb : b ≤ b') (hfirst : 0 ≤ bracketIndex ε f none s b)
    (hsame : ∀ c ∈ s, (f + ε) * c.1 ≤ b ∨ b' ≤ (f + ε) * c.1)
    (hρ : marginalRate ε f none s b = .ok ρ) :
    calcMR ε f none s b' - calcMR ε f none s b = ρ * (b' - b) := by
  -- `b` lies in a bracket `(t, r)`, which is the one reported, and `b'` lies in it too
  obtain ⟨pre, t, r, post, rfl, ht, h2⟩ := exists_bracket ε f none s (wsorted_thr hf hs) b hfirst
  rw [(C08_bracket_reported ε f pre t r post b hf hs ht h2).2] at hρ
  cases hρ
  exact C08_marginal_rate_derivative ε f pre t ρ post b b' hf hs ht (ht.trans hbb) (fun c hc => (h2 c hc).le)
    (fun c hc => (hsame c (by simp [hc])).resolve_left (not_le.mpr (h2 c hc)))

example : calcMR 0 1 none [(0, 1/4), (100, 1/2)] 180 - calcMR 0 1 none [(0, 1/4), (100, 1/2)] 120 = 1/2 * (180 - 120) :=
  C08_marginal_slope 0 1 _ 120 180 (1/2) (by decide +kernel) (by decide +kernel) (by decide +kernel) (by decide +kernel)
    (by decide +kernel) (by decide +kernel)

/-- `commons.marginal_rate` (`1 −` the finite difference of the net income over that of the gross income) applied to
the net incomes `b − calc b` of two distinct gross incomes of one bracket returns that bracket's rate -/
theorem C08_finite_difference_rate (ε f : Rat) (pre : Scale) (t r : Rat) (post : Scale) (b b' : Rat)
    (hf : 0 < f + ε) (hs : StrictSorted (pre ++ (t, r) :: post))
    (hb : (f + ε) * t ≤ b) (hb' : (f + ε) * t ≤ b')
    (hpost : ∀ c ∈ post, b ≤ (f + ε) * c.1) (hpost' : ∀ c ∈ post, b' ≤ (f + ε) * c.1) (hne : b ≠ b') :
    marginalRateFD none [b - calcMR ε f none (pre ++ (t, r) :: post) b, b' - calcMR ε f none (pre ++ (t, r) :: post) b'] [b, b']
      = .ok [some r] := by
  have hd := C08_marginal_rate_derivative ε f pre t r post b b' hf hs hb hb' hpost hpost'
  have hbb : b - b' ≠ 0 := sub_ne_zero.mpr hne
  simp only [marginalRateFD, hbb, if_false, trimRate]
  -- the net incomes differ by `(1 − r)(b − b')`
  rw [show b - calcMR ε f none (pre ++ (t, r) :: post) b - (b' - calcMR ε f none (pre ++ (t, r) :: post) b')
      = (1 - r) * (b - b') by linarith, mul_div_cancel_right₀ _ hbb, sub_sub_cancel]

example : marginalRateFD none [120 - calcMR 0 1 none ([(0, 1/4)] ++ (100, 1/2) :: [(300, 1)]) 120,
      180 - calcMR 0 1 none ([(0, 1/4)] ++ (100, 1/2) :: [(300, 1)]) 180] [120, 180] = .ok [some (1/2)] := by decide +kernel

/-- `SingleAmountTaxScale.calc` as written (bins `[-inf, *thresholds, inf]`, amounts `[0, *amounts, 0]`, Python
index `digitize − 1`) is `calcSA` on every finite base: the two guard amounts are met at `±inf` only -/
theorem C08_single_amount_guards (right : Bool) (s : Scale) (b : Rat) : calcSAE right s (.fin b) = .ok (calcSA right s b) :=
  calcSAE_fin right s b

example : calcSAE false [(0, 1), (10, 2)] (.fin 10) = .ok 2 ∧ calcSAE false [(0, 1), (10, 2)] .posInf = .ok 0 ∧
    calcSAE true [(0, 1), (10, 2)] .posInf = .ok 2 ∧ calcSAE true [(0, 1), (10, 2)] .negInf = .ok 0 := by decide +kernel

/-- `to_dict()` of a scale built by `add_bracket` lists exactly its brackets, in threshold order -/
theorem C08_to_dict (l : List (Rat × Rat)) : toDict (build l) = build l := toDict_sorted _ (build_sorted l)

example : toDict (build [(100, 1/2), (0, 1/4), (100, 1/8)]) = [(0, 1/4), (100, 5/8)] := by decide +kernel
/-- thresholds made equal by a rounding `multiply_thresholds` collapse: first position, last rate -/
example : toDict (multiplyThresholds [(0, 1/4), (1, 1/2), (2, 1), (100, 1/8)] (1/8) (some 0)) = [(0, 1), (12, 1/8)] := by decide +kernel

/-- `commons.apply_thresholds`: the choice attached to the first threshold that the input does not exceed
(as many choices as thresholds, or one more) -/
theorem C08_apply_thresholds (x : Rat) (pre : List Rat) (t : Rat) (post cpre : List Rat) (c : Rat) (cpost : List Rat)
    (hlen : cpre.length = pre.length) (hshape : cpost.length = post.length ∨ cpost.length = post.length + 1)
    (hpre : ∀ u ∈ pre, u < x) (ht : x ≤ t) :
    applyThresholds x (pre ++ t :: post) (cpre ++ c :: cpost) = .ok c := by
  have hsel : ∀ (extra : List Bool) (more : List Rat),
      selectFirst (((pre ++ t :: post).map (fun u => decide (x ≤ u)) ++ extra).zip (cpre ++ c :: more)) = c := by
    intro extra more
    rw [List.map_append, List.map_cons, List.append_assoc, List.cons_append,
      List.zip_append (by simp [hlen]), List.zip_cons_cons, decide_eq_true ht]
    exact selectFirst_append _ _ (conds_false hpre cpre)
  rcases hshape with h | h
  · rw [applyThresholds_same x _ _ (by simp [hlen, h]) (by simp), ← List.append_nil (List.map _ _), hsel [] cpost]
  · rw [applyThresholds_extra x _ _ (by simp [hlen, h]; omega), hsel [true] cpost]

example : applyThresholds 6 ([5] ++ 7 :: []) ([10] ++ 15 :: [20]) = .ok 15 :=
  C08_apply_thresholds 6 [5] 7 [] [10] 15 [20] rfl (Or.inr rfl) (by decide +kernel) (by decide +kernel)

/-- … and above every threshold: the extra choice when there is one, else 0 (`numpy.select`'s default) -/
theorem C08_apply_thresholds_above (x : Rat) (ths cs : List Rat) (hx : ∀ u ∈ ths, u < x) (hlen : cs.length = ths.length) :
    (∀ c, applyThresholds x ths (cs ++ [c]) = .ok c) ∧ (ths ≠ [] → applyThresholds x ths cs = .ok 0) := by
  constructor
  · intro c
    rw [applyThresholds_extra x ths _ (by simp [hlen]), List.zip_append (by simp [hlen])]
    exact congrArg _ (selectFirst_append _ [(true, c)] (conds_false hx cs))
  · intro hne
    rw [applyThresholds_same x ths cs hlen hne, selectFirst_none _ (conds_false hx cs)]

example : applyThresholds 8 [5, 7] ([10, 15] ++ [20]) = .ok 20 ∧ applyThresholds 8 [5, 7] [10, 15] = .ok 0 :=
  ⟨(C08_apply_thresholds_above 8 [5, 7] [10, 15] (by decide +kernel) rfl).1 20,
   (C08_apply_thresholds_above 8 [5, 7] [10, 15] (by decide +kernel) rfl).2 (by simp)⟩

/-- `commons.average_rate` of the net income `b − calc b` left by a linear-average-rate scale, over the gross income `b ≠ 0`
inside `[t, t')`, is the interpolated average rate of `C08_linear_average_def` -/
theorem C08_average_rate_linear (pre : Scale) (t r t' r' : Rat) (post : Scale) (b : Rat)
    (hs : StrictSorted (pre ++ (t, r) :: (t', r') :: post)) (h1 : t ≤ b) (h2 : b < t') (hb : b ≠ 0) :
    ∃ v, calcLA (pre ++ (t, r) :: (t', r') :: post) b = .ok v ∧
      averageRate none (b - v) b = .ok (some (r + (b - t) * ((r' - r) / (t' - t)))) := by
  refine ⟨_, C08_linear_average_def pre t r t' r' post b hs h1 h2, ?_⟩
  simp only [averageRate, hb, if_false, trimRate]
  rw [← mul_one_sub, mul_div_cancel_left₀ _ hb, sub_sub_cancel]

example : ∃ v, calcLA ([(0, 0)] ++ (100, 1/8) :: (300, 1/2) :: []) 200 = .ok v ∧
    averageRate none (200 - v) 200 = .ok (some (1/8 + (200 - 100) * ((1/2 - 1/8) / (300 - 100)))) :=
  C08_average_rate_linear _ _ _ _ _ _ 200 (by decide +kernel) (by decide +kernel) (by decide +kernel) (by decide +kernel)

/-- `switch`: the value of the first key equal to the condition, 0 when there is none -/
theorem C08_switch (c : Rat) (pre : List (Rat × Rat)) (v : Rat) (post : List (Rat × Rat)) (hpre : ∀ p ∈ pre, p.1 ≠ c) :
    switchSel c (pre ++ (c, v) :: post) = .ok v ∧
    (∀ table : List (Rat × Rat), table ≠ [] → (∀ p ∈ table, p.1 ≠ c) → switchSel c table = .ok 0) := by
  constructor
  · rw [switchSel_eq c (List.append_ne_nil_of_right_ne_nil _ (List.cons_ne_nil _ _)), List.map_append, List.map_cons,
      decide_eq_true rfl]
    exact congrArg _ (selectFirst_append _ ((true, v) :: _) (keys_false hpre))
  · intro table hne hall
    rw [switchSel_eq c hne, selectFirst_none _ (keys_false hall)]

example : switchSel 2 ([(1, 80)] ++ (2, 90) :: []) = .ok 90 := (C08_switch 2 [(1, 80)] 90 [] (by decide +kernel)).1

/-- below every (perturbed, rounded) threshold no bracket contains the base: the reported index is `−1`, and
`marginal_rates` then wraps around to the LAST rate (`numpy` indexing with `−1`) -/
theorem C08_index_below_first (ε f : Rat) (rd : Option Nat) (s : Scale) (b : Rat) (hne : s ≠ [])
    (hb : ∀ c ∈ s, b < thrMap ε f rd c.1) :
    bracketIndex ε f rd s b = -1 ∧ marginalRate ε f rd s b = .ok ((s.getLast hne).2) := by
  have hidx : bracketIndex ε f rd s b = -1 := by
    rw [bracketIndex_eq, cntLe_zero_of_lt _ b (forall_mem_mapT hb)]
    rfl
  refine ⟨hidx, ?_⟩
  unfold marginalRate rates
  rw [hidx, pyIndex_neg_one _ (mt List.map_eq_nil_iff.mp hne), List.getLast_map]

example : bracketIndex (1/4503599627370496) 1 none [(50, 1/4), (100, 1/2)] 50 = -1 ∧
    marginalRate (1/4503599627370496) 1 none [(50, 1/4), (100, 1/2)] 50 = .ok (1/2) := by decide +kernel

/-- the linear-average scale (two brackets or more) yields 0 below its first threshold and at or above its last one -/
theorem C08_linear_average_outside (a a' : Rat × Rat) (rest : Scale) (b : Rat)
    (hb : (∀ c ∈ a :: a' :: rest, b < c.1) ∨ (∀ c ∈ a :: a' :: rest, c.1 ≤ b)) :
    calcLA (a :: a' :: rest) b = .ok 0 := by
  rw [calcLA_eq (by simp) b, laSums_zero _ b hb]
  congr 1
  ring

example : calcLA [(0, 0), (100, 1/8), (300, 1/2)] 300 = .ok 0 ∧ calcLA [(0, 0), (100, 1/8), (300, 1/2)] (-5) = .ok 0 := by decide +kernel

/-- `marginal_rates`, `threshold_from_tax_base` and `rate_from_tax_base` on a vector are the single-base computations,
element by element (non-empty scale and vector; the empty ones raise, `bracketIndices`) -/
theorem C08_vector_rates (ε f : Rat) (rd : Option Nat) (s : Scale) (bs : List Rat) (h1 : s ≠ []) (h2 : bs ≠ []) :
    marginalRates ε f rd s bs = bs.mapM (marginalRate ε f rd s) ∧
    thresholdFromTaxBase ε s bs = bs.mapM (fun b => pyIndex (thresholds s) (bracketIndex ε 1 none s b)) :=
  ⟨(bracketIndices_bind ε f rd h1 h2 _).trans List.mapM_map,
    (bracketIndices_bind ε 1 none h1 h2 _).trans List.mapM_map⟩

/-- the threshold and the rate reported for a base are those of the bracket containing it (`threshold_from_tax_base`,
`rate_from_tax_base`; factor 1, perturbation `ε`) -/
theorem C08_threshold_rate_from_tax_base (ε : Rat) (pre : Scale) (t r : Rat) (post : Scale) (b : Rat)
    (hf : 0 < 1 + ε) (hs : StrictSorted (pre ++ (t, r) :: post))
    (hb : (1 + ε) * t ≤ b) (hpost : ∀ c ∈ post, b < (1 + ε) * c.1) :
    thresholdFromTaxBase ε (pre ++ (t, r) :: post) [b] = .ok [t] ∧ rateFromTaxBase ε (pre ++ (t, r) :: post) [b] = .ok [r] := by
  obtain ⟨hidx, hr⟩ := C08_bracket_reported ε 1 pre t r post b hf hs hb hpost
  have hne : pre ++ (t, r) :: post ≠ [] := List.append_ne_nil_of_right_ne_nil _ (List.cons_ne_nil _ _)
  obtain ⟨e1, e2⟩ := C08_vector_rates ε 1 none _ [b] hne (List.cons_ne_nil _ _)
  rw [rateFromTaxBase_eq ε hne (List.cons_ne_nil _ _), e1, e2]
  have hT : pyIndex (thresholds (pre ++ (t, r) :: post)) (pre.length : Int) = .ok t :=
    pyIndex_map_split (·.1) pre post (t, r)
  simp only [List.mapM_cons, List.mapM_nil, hidx, hT, hr, bind, Except.bind, pure, Except.pure, and_self]

example : thresholdFromTaxBase (1/4503599627370496) ([(0, 0)] ++ (200, 1/8) :: [(500, 1/4)]) [450] = .ok [200] ∧
    rateFromTaxBase (1/4503599627370496) ([(0, 0)] ++ (200, 1/8) :: [(500, 1/4)]) [450] = .ok [1/8] :=
  C08_threshold_rate_from_tax_base _ _ _ _ _ 450 (by decide +kernel) (by decide +kernel) (by decide +kernel)
    (by intro c hc; simp at hc; subst hc; decide +kernel)

end OFCore
