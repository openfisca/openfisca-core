import OFCore.Lemmas.ParamView
import OFCore.Lemmas.ParamVector
/-!
# C07 — every way of reading parameters returns the tree's current values

Model: `OFCore/ParamView.lean` (the tree WITH the repairs F-C07, F-C07b, F-C07c, F-C07d; successive
modifiers accumulate, repair C14e). A `World` is the whole process: the systems alive (a plain
`TaxBenefitSystem` and the `Reform`s built on it) and the ONE memo `functools.lru_cache` keeps for
`get_parameters_at_instant`, keyed by `(system, spelling of the instant, date)`. Operations (`Op`): `readView`,
`readTree`, `readFormula traced?`, `read`, `newReform`, `modify f` (any modifier function, which may itself read any
system through any route while it runs: a `ModProg`), `reload` (with its `preprocess_parameters` hook, the only user
code that runs inside `load_parameters`), `extend` (`load_extension`), `cloneSys` (`clone`).
Every theorem is for all trees, all histories, all dates, all paths, all key / date vectors, with no
bound on any size; values are an arbitrary type `V`.
-/
namespace OFCore
open OFCore.Param OFCore.PView

variable {V W : Type}

/-- For EVERY finite sequence of operations (reads, reform creations, modifications, reloads,
    extensions, clones of a system), started in a state whose memo is sound (`MemoOK`: every memoised
    view is the snapshot of the current tree of the system it is keyed by — in particular the fresh
    process), the state reached is sound again and
    `get_parameters_at_instant(d)` on any system returns the snapshot at `d` of that system's CURRENT
    tree — also when the same instant was read before the tree was replaced. (`path = []` is the view
    itself: `navView root [] = ok root`.) -/
theorem C07_view_current (w : World V) (hw : MemoOK w) (ops : List (Op V)) (s form : Nat) (d : Int)
    (path : List String) (hs : s < (run w ops).systems.length) :
    MemoOK (run w ops) ∧
    (step (run w ops) (.readView s form d path)).2
      = .value (navView (snapshot ((run w ops).treeOf s) d) path) [] := by
  have hrun := run_memoOK w hw ops
  exact ⟨hrun, (doRead_obs hrun hs form d path).1⟩

/-- the same from the fresh process -/
theorem C07_view_current_init (ops : List (Op V)) (s form : Nat) (d : Int)
    (hs : s < (run (World.init : World V) ops).systems.length) :
    (step (run World.init ops) (.readView s form d [])).2
      = .value (.ok (snapshot ((run (World.init : World V) ops).treeOf s) d)) [] := by
  have := (C07_view_current World.init init_memoOK ops s form d [] hs).2
  rw [this]
  cases snapshot ((run (World.init : World V) ops).treeOf s) d <;> rfl

/-- read, modify, read the same instant again (the F-C07 scenario): 600 before, 777 after, and the
    baseline still reads 600 -/
example :
    let t : PNode Nat := .node [("basic_income", .param [⟨10, some 600⟩])]
    let w0 : World Nat := ⟨[t], [⟨some 0, none⟩], []⟩
    let f : PNode Nat → Except String (PNode Nat) := fun _ => .ok (.node [("basic_income", .param [⟨20, some 777⟩, ⟨10, some 600⟩])])
    let ops : List (Op Nat) := [.newReform 0, .readView 1 0 25 [], .modify 1 (pureMod f)]
    (step (run w0 ops) (.readView 1 0 25 ["basic_income"])).2 = .value (.ok (some (.val 777))) [] ∧
    (step (run w0 ops) (.readView 0 0 25 ["basic_income"])).2 = .value (.ok (some (.val 600))) [] ∧
    (step (run w0 (ops.take 2)) (.readView 1 0 25 ["basic_income"])).2 = .value (.ok (some (.val 600))) [] := by
  refine ⟨rfl, rfl, rfl⟩

/-- In any sound state, for a system whose tree is a node with distinct child names (a Python
    `dict`), the at-instant view, a formula's `parameters(…)` argument without tracing and with
    tracing all return the SAME result `r` — the navigation of the snapshot at `d` of the current
    tree — whatever the spelling of the instant; and the parameter object itself
    (`parameters.<path>(d)`) agrees with it: it yields a value `x` exactly when they yield `x`, and
    when it yields `None` (undefined at `d`) or the path does not exist, they raise. -/
theorem C07_all_paths_agree (w : World V) (hw : MemoOK w) (s : Nat) (hs : s < w.systems.length)
    (cs : List (String × PNode V)) (ht : w.treeOf s = some (.node cs)) (hwf : treeWF (.node cs) = true)
    (f1 f2 f3 : Nat) (d : Int) (path : List String) :
    ∃ r log,
      r = navView ((PNode.node cs).atInstant d) path ∧
      (step w (.readView s f1 d path)).2 = .value r [] ∧
      (step w (.readFormula s false f2 d path)).2 = .value r [] ∧
      (step w (.readFormula s true f3 d path)).2 = .value r log ∧
      (step w (.readTree s path d)).2 = .value (readTreeAt (.node cs) path d) [] ∧
      (∀ x, readTreeAt (.node cs) path d = .ok (some x) ↔ r = .ok (some x)) ∧
      ((readTreeAt (.node cs) path d = .ok none ∨ ∃ e, readTreeAt (.node cs) path d = .error e) →
        ∃ e, r = .error e) := by
  obtain ⟨log, h3⟩ := (allRoutesRead_of hw hs ht f3 d path).2.2.1
  refine ⟨_, log, rfl, (allRoutesRead_of hw hs ht f1 d path).1, (allRoutesRead_of hw hs ht f2 d path).2.1, h3,
    (allRoutesRead_of hw hs ht f1 d path).2.2.2, ?_⟩
  clear h3
  -- what the object yields is what the path yields in the snapshot: compare the two outcomes
  have E := readTreeAt_eq_sdescend (.node cs) hwf d path
  simp only [PNode.atInstant, Option.bind_some, navView] at E ⊢
  cases hx : sdescend (Snap.node (childrenAt cs d)) path with
  | error e =>
    -- nothing there in the snapshot: the object has no value there, and the view raises
    rw [hx] at E
    refine ⟨fun x => ⟨fun hr => ?_, nofun⟩, fun _ => ⟨e, rfl⟩⟩
    rw [hr] at E
    cases E
  | ok y =>
    -- `y` there in the snapshot: the object yields `y` as well
    rw [hx] at E
    have hr : readTreeAt (.node cs) path d = .ok (some y) := by
      cases hr : readTreeAt (.node cs) path d with
      | error e => rw [hr] at E; cases E
      | ok o =>
        rw [hr] at E
        cases o with
        | none => cases E
        | some z => cases E; rfl
    rw [hr]
    exact ⟨fun x => Iff.rfl, fun h => h.elim nofun fun ⟨e, he⟩ => nomatch he⟩

example : treeWF (PNode.node [("a", .param [(⟨10, some 1⟩ : Entry Nat)]), ("g", .node [("z1", .param [⟨12, none⟩, ⟨5, some 2⟩])])]) = true := by
  decide +kernel
example :
    let t : PNode Nat := .node [("a", .param [⟨10, some 1⟩]), ("g", .node [("z1", .param [⟨12, none⟩, ⟨5, some 2⟩])])]
    readTreeAt t ["g", "z1"] 11 = .ok (some (.val 2)) ∧ navView (t.atInstant 11) ["g", "z1"] = .ok (some (.val 2)) ∧
    readTreeAt t ["g", "z1"] 12 = .ok none ∧ navView (t.atInstant 12) ["g", "z1"] = .error "ParameterNotFoundError" := by
  refine ⟨rfl, rfl, rfl, rfl⟩

/-- `TracingParameterNodeAtInstant` forwards every read unchanged and only appends to the tracer's
    log: at most one entry, dated with the view's instant, carrying the value of the leaf reached. -/
theorem C07_traced_same (d : Int) (name : String) (s : Snap V) (path : List String) (log : List (LogEntry V)) :
    (tracedDescend d name s path log).1 = sdescend s path ∧
    ∃ extra, (tracedDescend d name s path log).2 = log ++ extra ∧ extra.length ≤ 1 ∧
      ∀ e ∈ extra, e.date = d ∧ ∃ pre post, path = pre ++ post ∧ sdescend s pre = .ok (.val e.value) := by
  obtain ⟨extra, he, h⟩ := tracedDescend_spec d name s path log
  rw [he]
  exact ⟨rfl, extra, rfl, h⟩

/-- the same for what a formula receives (`None` when the system has no parameters) -/
theorem C07_traced_same_formula (d : Int) (root : Option (Snap V)) (path : List String) (log : List (LogEntry V)) :
    (navTraced d root path log).1 = navView root path ∧
    ∃ extra, (navTraced d root path log).2 = log ++ extra ∧ extra.length ≤ 1 :=
  navTraced_spec d root path log

/-- and for what follows a vector index (`P[keys].name`, `P[keys][keys']`): the wrapper around a
    vectorial node returns what the bare vectorial node returns and appends at most one entry -/
theorem C07_traced_same_vector (cls : Bool) (d : Int) (name : String) (rows : List (VRow W)) (steps : List VStep)
    (log : List (LogEntry (List (VRow W)))) :
    (tracedVec cls d name rows steps log).1 = vsteps cls rows steps ∧
    ∃ extra, (tracedVec cls d name rows steps log).2 = log ++ extra ∧ extra.length ≤ 1 := by
  induction steps generalizing rows with
  | nil =>
    unfold tracedVec
    by_cases hl : leafRows rows = true
    · rw [if_pos hl]; exact ⟨rfl, [_], rfl, Nat.le_refl _⟩
    · rw [if_neg hl]; exact ⟨rfl, [], (List.append_nil _).symm, Nat.zero_le _⟩
  | cons st r ih =>
    unfold tracedVec
    by_cases hl : leafRows rows = true
    · rw [if_pos hl]; exact ⟨rfl, [_], rfl, Nat.le_refl _⟩
    · rw [if_neg hl]
      simp only [vsteps]
      cases hv : vstep cls rows st with
      | ok rows' => exact ih rows'
      | error e => exact ⟨rfl, [], (List.append_nil _).symm, Nat.zero_le _⟩

example : tracedDescend 7 "" (Snap.node [("g", .node [("a", .val (5 : Nat))])]) ["g", "a"] []
    = (.ok (.val 5), [⟨"g.a", 7, 5⟩]) := by rfl

/-- `node_at_instant[keys]` (keys already stringified, `KeyVec.strs`), for every key vector of any
    length: the result has one row per key and row `i` is the (vectorised) value of the child named
    `keys[i]`; it raises iff the node is not homogeneous as `check_node_vectorisable` defines it
    (`homog`), or the vector is empty, or some key is not a child. -/
theorem C07_fancy_pointwise (num : V → Option W) (cs : List (String × Snap V)) (ks : List String) :
    (∀ rows, fancy num (.node cs) ks = .ok rows →
      rows.length = ks.length ∧
      ∀ i (hi : i < ks.length), ∃ c x, assoc ks[i] cs = some c ∧ vectorise plainLt num c = .ok x ∧ rows[i]? = some x) ∧
    ((∃ e, fancy num (.node cs) ks = .error e) ↔
      homog num (cs.map (·.2)) ≠ .ok () ∨ ks = [] ∨ ∃ k ∈ ks, assoc k cs = none) := by
  refine ⟨fun rows h => ?_, fancy_error_iff num cs ks⟩
  obtain ⟨hl, hrows⟩ := mapM_get (fancy_ok h)
  refine ⟨hl, fun i hi => ?_⟩
  obtain ⟨x, hout, hri⟩ := hrows i hi
  obtain ⟨c, hc, hx⟩ := Option.bind_eq_some_iff.mp hri
  exact ⟨c, x, hc, toOption_eq_some.mp hx, hout⟩

/-- for a group of plain parameters: element `i` is the float value of child `keys[i]` -/
theorem C07_fancy_pointwise_leaf (num : V → Option W) (cs : List (String × Snap V)) (ks : List String)
    (rows : List (VRow W)) (h : fancy num (.node cs) ks = .ok rows) (i : Nat) (hi : i < ks.length) (v : V)
    (hc : assoc ks[i] cs = some (.val v)) : ∃ w, num v = some w ∧ rows[i]? = some (.leaf w) := by
  obtain ⟨c, x, hc', hx, hr⟩ := ((C07_fancy_pointwise num cs ks).1 rows h).2 i hi
  rw [hc] at hc'
  cases hc'
  simp only [vectorise] at hx
  cases hn : num v with
  | none => rw [hn] at hx; cases hx
  | some w => rw [hn] at hx; cases hx; exact ⟨w, rfl, hr⟩

/-- F-C07b: a sub-node reached by NAME after a vector index (`P[keys].name`, `P[keys]["name"]`) is,
    row by row, the (vectorised) grand-child `keys[i].name`. -/
theorem C07_fancy_subnode (num : V → Option W) (cs : List (String × Snap V)) (ks : List String) (f : String)
    (rows rows' : List (VRow W)) (h : fancy num (.node cs) ks = .ok rows) (h' : vfield rows f = .ok rows') :
    rows'.length = ks.length ∧
    ∀ i (hi : i < ks.length), ∃ cs' c' x, assoc ks[i] cs = some (.node cs') ∧ assoc f cs' = some c' ∧
      vectorise plainLt num c' = .ok x ∧ rows'[i]? = some x := by
  -- `P[keys].f`: one read per key, of the field `f` of the vectorised child
  have hboth := mapM_bind (fun k => (assoc k cs).bind (fun c => (vectorise plainLt num c).toOption)) (fieldOf f) ks
  rw [fancy_ok h, Option.bind_some, ← vfield_eq, toOption_eq_some.mpr h'] at hboth
  obtain ⟨hl, hrows⟩ := mapM_get hboth.symm
  refine ⟨hl, fun i hi => ?_⟩
  obtain ⟨x, hout, hri⟩ := hrows i hi
  obtain ⟨r, hr, hx⟩ := Option.bind_eq_some_iff.mp hri
  obtain ⟨c, hc, hv⟩ := Option.bind_eq_some_iff.mp hr
  obtain ⟨cs', c', rfl, hc', hv'⟩ := fieldOf_vectorised plainLt_irrefl (toOption_eq_some.mp hv) hx
  exact ⟨cs', c', x, hc, hc', hv', hout⟩

/-- the stringification of `Enum` members / `EnumArray` codes / integers keeps one key per element,
    the member's name for a valid member index, the decimal text for an integer -/
theorem C07_keys_stringified (ns : List String) (is : List Nat) (js : List Int) :
    (KeyVec.members ns is).strs.length = is.length ∧ (KeyVec.codes ns is).strs.length = is.length ∧
    (KeyVec.ints js).strs.length = js.length ∧
    (∀ i (hi : i < is.length) (hn : is[i] < ns.length),
      (KeyVec.members ns is).strs[i]? = some ns[is[i]] ∧ (KeyVec.codes ns is).strs[i]? = some ns[is[i]]) ∧
    (∀ i (hi : i < js.length), (KeyVec.ints js).strs[i]? = some (toString js[i])) := by
  refine ⟨by simp [KeyVec.strs], by simp [KeyVec.strs], by simp [KeyVec.strs], ?_, ?_⟩
  · intro i hi hn
    simp only [KeyVec.strs, List.getElem?_map, List.getElem?_eq_getElem hi, Option.map_some, List.getD_eq_getElem?_getD,
      List.getElem?_eq_getElem hn, Option.getD_some, and_self]
  · intro i hi
    simp only [KeyVec.strs, List.getElem?_map, List.getElem?_eq_getElem hi, Option.map_some]

example : shownRows (fancy (W := Nat) some (Snap.node [("z2", .node [("tenant", .val 4), ("owner", .val 3)]),
      ("z1", .node [("owner", .val 1), ("tenant", .val 2)])]) ["z1", "z2", "z1"])
    = some [[1, 2], [3, 4], [1, 2]] := by decide +kernel
example : shownRows ((fancy (W := Nat) some (Snap.node [("z2", .node [("tenant", .val 4), ("owner", .val 3)]),
      ("z1", .node [("owner", .val 1), ("tenant", .val 2)])]) ["z1", "z2", "z1"]).bind (vfield · "owner"))
    = some [[1], [3], [1]] := by decide +kernel
example : (homog (W := Nat) some [Snap.node [("tenant", .val 4), ("owner", .val 3)], .node [("owner", .val 1), ("tenant", .val 2)]]).isOk = true := by
  decide +kernel
example : shownRows (fancy (W := Nat) some (Snap.node [("z1", .val 1), ("z2", .node [("a", .val 2)])]) ["z1"]) = none := by
  decide +kernel
example : shownRows (fancy (W := Nat) some (Snap.node [("z1", .val 1), ("z2", .val 2)]) ["z1", "zz"]) = none := by
  decide +kernel

/-- F-C07c: `node_at_instant[dates]` for a homogeneous group whose child names are in the claim
    domain `AsofWF` (one `before…` child, `after_YYYY_MM_DD` children with distinct dates): one element
    per date, and element `i` is the (vectorised) value of the child IN FORCE at `dates[i]` — the
    `before…` child when the date precedes every `after_` date, else the `after_` child with the
    greatest date not after it. `cs` is the children in ANY declaration order: the statement does
    not mention the order. -/
theorem C07_asof_pointwise (num : V → Option W) (cs : List (String × Snap V)) (dates : List Int)
    (hwf : AsofWF (cs.map (·.1))) (hh : homog num (cs.map (·.2)) = .ok ()) :
    ∃ out, asof num (.node cs) dates = .ok out ∧ out.length = dates.length ∧
      ∀ i (hi : i < dates.length), ∃ k c x, (k, c) ∈ cs ∧ vectorise asofLt num c = .ok x ∧
        out[i]? = some x ∧ InForce (cs.map (·.1)) dates[i] k := by
  obtain ⟨fs, a, ads, hrow, hads, hone⟩ := asofOne_inForce num cs hwf hh
  have heq : (asof num (.node cs) dates).toOption = List.mapM (fun t => (asofOne (.record fs) t).toOption) dates := by
    simp only [asof, buildVec, hh, hrow]; exact asofIndex_eq hads dates
  -- every date reads something, so the whole index does
  cases hr : List.mapM (fun t => (asofOne (.record fs) t).toOption) dates with
  | none =>
    obtain ⟨t, _, ht⟩ := mapM_eq_none.mp hr
    obtain ⟨x, _, _, hx, _⟩ := hone t
    rw [hx] at ht; cases ht
  | some out =>
    obtain ⟨hl, hrows⟩ := mapM_get hr
    refine ⟨out, toOption_eq_some.mp (heq.trans hr), hl, fun i hi => ?_⟩
    obtain ⟨x, k, c, hx, hc, hv, hin⟩ := hone dates[i]
    obtain ⟨y, hout, hy⟩ := hrows i hi
    cases (toOption_eq_some.mp hy).symm.trans hx
    exact ⟨k, c, x, hc, hv, hout, hin⟩

/-- the declaration order of the finding: `after_1990, before_1980, after_1980` gives `[1,2,2,3,3]` -/
example : shownRows (asof (W := Nat) some (Snap.node [("after_1990_01_01", .val 3), ("before_1980_01_01", .val 1), ("after_1980_01_01", .val 2)])
      [722814, 722815, 726467, 726468, 737550])
    = some [[1], [2], [2], [3], [3]] := by decide +kernel
example : AsofWF ["after_1990_01_01", "before_1980_01_01", "after_1980_01_01"] := by decide +kernel

/-- Chained as-of-date indexing, `P[dates₁][dates₂]` on nested `before…/after_…` groups (the F-C07d repair:
    `values[conditions, rows]`). `rows` is what the first index returned (two rows or more; one row is
    `C07_asof_pointwise`), `ds` the second date vector, of the same length: the result has one element per
    date, and element `i` is read in ROW `i`, at date `ds[i]` (`asofOne`: the field number `#{after_ dates ≤
    ds[i]}` of that row) — not in the first row. -/
theorem C07_asof_chained_pointwise (r0 r1 : VRow W) (rest : List (VRow W)) (ds : List Int)
    (hleaf : leafRows (r0 :: r1 :: rest) = false) (hlen : (r0 :: r1 :: rest).length = ds.length)
    (out : List (VRow W)) (h : vstep true (r0 :: r1 :: rest) (.dates ds) = .ok out) :
    out.length = ds.length ∧
    ∀ i (hi : i < ds.length) (hi' : i < (r0 :: r1 :: rest).length),
      ∃ x, out[i]? = some x ∧ asofOne (r0 :: r1 :: rest)[i] ds[i] = .ok x := by
  simp only [vstep, hleaf, Bool.false_eq_true, if_false, if_true, asofRows, broadcast, hlen] at h
  obtain ⟨hl, hrows⟩ := mapM_get ((asofPairs_eq _).symm.trans (toOption_eq_some.mpr h))
  have hzl : ((r0 :: r1 :: rest).zip ds).length = ds.length := by
    rw [List.length_zip, hlen]; exact Nat.min_self _
  refine ⟨hl.trans hzl, fun i hi hi' => ?_⟩
  obtain ⟨x, hout, hx⟩ := hrows i (by omega)
  rw [List.getElem_zip] at hx
  exact ⟨x, hout, toOption_eq_some.mp hx⟩

/-- … and what is read in a row is the child in force: when row `i` is the record of a group `cs'` in the
    claim domain (`AsofWF` names, homogeneous), `asofOne` at `t` gives the vectorised value of the child of
    `cs'` in force at `t`. Together with `C07_asof_pointwise` for the first index: element `i` of
    `P[dates₁][dates₂]` is the grand-child in force at `dates₂[i]` of the child in force at `dates₁[i]`. -/
theorem C07_asof_chained_in_force (num : V → Option W) (cs' : List (String × Snap V)) (t : Int)
    (hwf : AsofWF (cs'.map (·.1))) (hh : homog num (cs'.map (·.2)) = .ok ())
    (row x : VRow W) (hrow : vectorise asofLt num (.node cs') = .ok row) (hx : asofOne row t = .ok x) :
    ∃ k c, (k, c) ∈ cs' ∧ vectorise asofLt num c = .ok x ∧ InForce (cs'.map (·.1)) t k := by
  obtain ⟨_, _, _, hrow', _, hone⟩ := asofOne_inForce num cs' hwf hh
  cases hrow.symm.trans hrow'
  obtain ⟨x', k, c, hx', h⟩ := hone t
  cases hx.symm.trans hx'
  exact ⟨k, c, h⟩

/-- born before / after 1980, date of the claim before / after 2000: row by row (before the repair the
    code answered `[1, 1, 2]`: the first row for every element) -/
example :
    let node : Snap Nat := .node [("before_1980_01_01", .node [("before_2000_01_01", .val 1), ("after_2000_01_01", .val 2)]),
                                  ("after_1980_01_01", .node [("before_2000_01_01", .val 3), ("after_2000_01_01", .val 4)])]
    shownRows ((asof (W := Nat) some node [719163, 726468, 726468]).bind (vstep true · (.dates [729755, 729755, 731947])))
      = some [[1], [3], [4]] := by
  decide +kernel

/-- `modify_parameters` is three sub-steps in the code's order — copy the reform's tree, run the
    modifier (which may read ANY system through ANY route and spelling, any number of times, each read
    depending on the earlier ones: `f t` is an arbitrary `ModProg`), install the result and only then
    empty the memo. Whatever the modifier read on the way, once the modification completes the memo
    is empty, the state is sound, and every route of the reform — view in every spelling, formula,
    traced formula, parameter object — reads the NEW tree, at every date and path. -/
theorem C07_modify_nested_reads (w : World V) (hw : RefsOK w) (s b : Nat) (r : SysRec) (t t' : PNode V)
    (hr : w.systems[s]? = some r) (hb : r.baseline = some b) (ht : w.treeOf s = some t)
    (f : PNode V → ModProg V) (w1 : World V) (hrun : runProg w (f t) = (w1, .ok t'))
    (hn : isNode t' = true) :
    (step w (.modify s f)).2 = .done ∧
    (step w (.modify s f)).1.memo = [] ∧ MemoOK (step w (.modify s f)).1 ∧
    (step w (.modify s f)).1.treeOf s = some t' ∧
    AllRoutesRead (step w (.modify s f)).1 s t' := by
  have hfr := runProg_framed w (f t)
  rw [hrun] at hfr
  have hstep : step w (.modify s f) = (install w1 s t', .done) := by
    simp only [step, hr, hb, ht, hrun, hn, if_true]
  rw [hstep]
  exact ⟨rfl, allRoutesRead_install w1 (hfr.refs hw) s (by rw [hfr.systems]; exact lt_of_get hr) t'⟩

/-- The same for `load_parameters`. No user code runs inside it except the system's
    `preprocess_parameters` hook (a plain caller cannot interleave a read with it); that hook runs on the
    freshly built tree BEFORE it is installed, and the memo is emptied after the installation: whatever
    the hook read, every route reads the new tree afterwards. -/
theorem C07_reload_nested_reads (w : World V) (hw : RefsOK w) (s : Nat) (hs : s < w.systems.length)
    (cs : List (String × PNode V)) (hook : PNode V → ModProg V) (w1 : World V) (t' : PNode V)
    (hrun : runProg w (hook (.node cs)) = (w1, .ok t')) :
    (step w (.reload s cs hook)).1.memo = [] ∧ MemoOK (step w (.reload s cs hook)).1 ∧
    (step w (.reload s cs hook)).1.treeOf s = some t' ∧
    AllRoutesRead (step w (.reload s cs hook)).1 s t' := by
  have hfr := runProg_framed w (hook (.node cs))
  rw [hrun] at hfr
  have hstep : step w (.reload s cs hook) = (install w1 s t', .done) := by
    simp only [step, List.getElem?_eq_getElem hs, hrun]
  rw [hstep]
  exact allRoutesRead_install w1 (hfr.refs hw) s (by rw [hfr.systems]; exact hs) t'

/-- While the modifier runs, every system — the reform included — still has the tree it had at entry,
    and that is what the modifier's reads return: after any number of nested reads the state is still
    sound, the trees are unchanged, and a view read returns the snapshot of the tree in place. -/
theorem C07_nested_read_sees_former_tree (w : World V) (hw : MemoOK w) (p : ModProg V)
    (s form : Nat) (d : Int) (path : List String) (hs : s < w.systems.length) :
    MemoOK (runProg w p).1 ∧ (runProg w p).1.systems = w.systems ∧
    (doRead (runProg w p).1 (.view s form d path)).2 = .value (navView (snapshot (w.treeOf s) d) path) [] := by
  have hfr := runProg_framed w p
  refine ⟨hfr.memo hw, hfr.systems, ?_⟩
  rw [← hfr.treeOf s]
  exact (doRead_obs (hfr.memo hw) (by rw [hfr.systems]; exact hs) form d path).1

/-- A modifier that looks up the value in force through the reform's own view, then raises it: 7
    while it runs, 70 through every route once it is done — and the order of the sub-steps matters:
    emptying the memo BEFORE running the modifier (`stepClearFirst`) leaves the view read by the
    modifier in the memo, and the same read gives the stale 7 after the modification. -/
example :
    let w0 : World Nat := ⟨[.node [("x", .param [⟨10, some 7⟩])]], [⟨some 0, none⟩, ⟨some 0, some 0⟩], []⟩
    let f : PNode Nat → ModProg Nat := fun _ =>
      .read (.view 1 0 12 ["x"]) (fun _ => .ret (.ok (.node [("x", .param [⟨10, some 70⟩])])))
    (step (step w0 (.modify 1 f)).1 (.readView 1 0 12 ["x"])).2 = .value (.ok (some (.val 70))) [] ∧
    (step (step w0 (.modify 1 f)).1 (.readFormula 1 true 0 12 ["x"])).2
      = .value (.ok (some (.val 70))) [⟨".x", 12, 70⟩] ∧
    (step (step w0 (.modify 1 f)).1 (.readTree 1 ["x"] 12)).2 = .value (.ok (some (.val 70))) [] ∧
    (step (stepClearFirst w0 1 f) (.readView 1 0 12 ["x"])).2 = .value (.ok (some (.val 7))) [] ∧
    (step (stepClearFirst w0 1 f) (.readTree 1 ["x"] 12)).2 = .value (.ok (some (.val 70))) [] :=
  ⟨rfl, rfl, rfl, rfl, rfl⟩

/-- `ParameterNode.merge` completes exactly when no merged name is already present (nor repeated), and
    then the children are the former ones followed by the merged ones; when it stops, what it added
    before stays. -/
theorem C07_merge_spec (cs ext : List (String × PNode V)) :
    ((∀ p ∈ ext, assoc p.1 cs = none) → (ext.map (·.1)).Nodup → mergeInto cs ext = (cs ++ ext, true)) ∧
    (∃ pre, (mergeInto cs ext).1 = cs ++ pre ∧ pre <+: ext) := by
  induction ext generalizing cs with
  | nil => exact ⟨fun _ _ => by simp [mergeInto], [], by simp [mergeInto], List.prefix_refl _⟩
  | cons p r ih =>
    obtain ⟨k, c⟩ := p
    constructor
    · intro hfree hnd
      have hk : assoc k cs = none := hfree (k, c) (List.mem_cons_self ..)
      simp only [List.map_cons, List.nodup_cons] at hnd
      simp only [mergeInto, hk, Option.isSome_none, Bool.false_eq_true, if_false]
      rw [(ih (cs ++ [(k, c)])).1 ?_ hnd.2]
      · simp
      · intro q hq
        rw [assoc_append_single, hfree q (List.mem_cons_of_mem _ hq)]
        simp only
        rw [if_neg]
        intro hkq
        exact hnd.1 (List.mem_map.mpr ⟨q, hq, hkq.symm⟩)
    · simp only [mergeInto]
      by_cases hk : (assoc k cs).isSome = true
      · rw [if_pos hk]; exact ⟨[], by simp, List.nil_prefix⟩
      · rw [if_neg hk]
        obtain ⟨pre, h1, h2⟩ := (ih (cs ++ [(k, c)])).2
        exact ⟨(k, c) :: pre, by rw [h1]; simp, by simpa using h2⟩

/-- `load_extension` merges into the tree OBJECT, after emptying the memo: whatever the outcome of the
    merge — completed, or stopped half-way by a name conflict, which has already changed the object —
    the state is sound afterwards, so every route of EVERY system (the systems that share the object
    included) reads that system's current tree. -/
theorem C07_extend_reads_current (w : World V) (hw : MemoOK w) (s : Nat) (ext : List (String × PNode V)) :
    MemoOK (step w (.extend s ext)).1 ∧
    (s < w.systems.length → (step w (.extend s ext)).1.memo = []) ∧
    ∀ s' t, s' < (step w (.extend s ext)).1.systems.length → (step w (.extend s ext)).1.treeOf s' = some t →
      AllRoutesRead (step w (.extend s ext)).1 s' t := by
  have hok := step_memoOK w hw (.extend s ext)
  exact ⟨hok, (step_extend_ok w s ext).2, fun _ _ hs' ht => allRoutesRead_of hok hs' ht⟩

/-- An extension loaded on a reform (any system with a baseline) never changes the tree of ANY other
    system: the reform is given a copy of its own before the merge (repairs C14f/C14g), whatever systems
    it shared its tree with — its baseline, the baselines above, other reforms of them. Only an extension
    loaded on a root system changes an object other systems may refer to. -/
theorem C07_extend_spares_others (w : World V) (hw : RefsOK w) (s b s' : Nat) (r : SysRec)
    (hr : w.systems[s]? = some r) (hb : r.baseline = some b) (hne : s' ≠ s) (hs' : s' < w.systems.length)
    (ext : List (String × PNode V)) :
    (step w (.extend s ext)).1.treeOf s' = w.treeOf s' := by
  apply step_treeOf_other w hw _ s' hs'
  simp only [Op.spares, Bool.and_eq_true, bne_iff_ne, ne_eq]
  refine ⟨fun c => hne c.symm, ?_⟩
  rw [hr, List.getElem?_eq_getElem hs']
  simp [isReform, hb]

/-- A reform that has not replaced its tree refers to its baseline's object: an extension loaded on the
    ROOT system 0 after the views were read shows through every route of all three (reforms 1 and 2
    follow); an extension loaded on a REFORM (system 1, or system 2 stacked on it) goes to a copy of its
    own — nobody else changes. A conflicting extension (`x` exists) stops, having added `a` — and the
    views still follow the tree. -/
example :
    let w0 : World Nat := ⟨[.node [("x", .param [⟨10, some 7⟩])]], [⟨some 0, none⟩, ⟨some 0, some 0⟩, ⟨some 0, some 1⟩], []⟩
    let ext : List (String × PNode Nat) := [("a", .param [⟨10, some 1⟩]), ("x", .param [⟨10, some 2⟩]), ("b", .param [⟨10, some 3⟩])]
    let reads : List (Op Nat) := [.readView 0 0 12 [], .readView 1 0 12 [], .readView 2 0 12 []]
    (step (run w0 (reads ++ [.extend 0 ext])) (.readView 1 0 12 ["a"])).2 = .value (.ok (some (.val 1))) [] ∧
    (step (run w0 (reads ++ [.extend 0 ext])) (.readView 0 0 12 ["a"])).2 = .value (.ok (some (.val 1))) [] ∧
    (step (run w0 (reads ++ [.extend 0 ext])) (.readView 0 0 12 ["x"])).2 = .value (.ok (some (.val 7))) [] ∧
    (step (run w0 (reads ++ [.extend 0 ext])) (.readView 0 0 12 ["b"])).2 = .value (.error "ParameterNotFoundError") [] ∧
    (step (run w0 (reads ++ [.extend 1 ext])) (.readView 1 0 12 ["a"])).2 = .value (.ok (some (.val 1))) [] ∧
    (step (run w0 (reads ++ [.extend 1 ext])) (.readView 0 0 12 ["a"])).2 = .value (.error "ParameterNotFoundError") [] ∧
    (step (run w0 (reads ++ [.extend 1 ext])) (.readView 2 0 12 ["a"])).2 = .value (.error "ParameterNotFoundError") [] ∧
    (step (run w0 (reads ++ [.extend 1 ext])) (.readTree 0 ["a"] 12)).2 = .value (.error "AttributeError") [] ∧
    (step (run w0 (reads ++ [.extend 1 ext, .extend 2 ext])) (.readView 2 0 12 ["a"])).2 = .value (.ok (some (.val 1))) [] ∧
    (step (run w0 (reads ++ [.extend 1 ext, .extend 2 ext])) (.readView 0 0 12 ["a"])).2 = .value (.error "ParameterNotFoundError") [] ∧
    (step (run w0 (reads ++ [.extend 0 ext])) (.readView 2 0 12 ["a"])).2 = .value (.ok (some (.val 1))) [] :=
  ⟨rfl, rfl, rfl, rfl, rfl, rfl, rfl, rfl, rfl, rfl, rfl⟩

/-- `_get_baseline_parameters_at_instant` is the view of the root of the chain of baselines: it reads
    that system's current tree. -/
theorem C07_base_view (w : World V) (hw : MemoOK w) (s form : Nat) (d : Int) (path : List String)
    (hroot : rootOf w.systems w.systems.length s < w.systems.length) :
    (step w (.read (.baseView s form d path))).2
      = .value (navView (snapshot (w.treeOf (rootOf w.systems w.systems.length s)) d) path) [] := by
  exact (doRead_obs hw hroot form d path).1

example : rootOf [⟨some 0, none⟩, ⟨some 0, some 0⟩, ⟨some 1, some 1⟩] 3 2 = 0 := by decide +kernel

/-- `system.clone()` makes a new system whose tree is a copy (`parameters.clone()`, a new object) and for which
    nothing is memoised (the memo is keyed by the system object): the state stays sound, the clone reads through
    every route the tree the original had when it was cloned, and every existing system keeps its tree. What is
    done to the clone afterwards never targets the original (`C07_reform_isolated` applies: `cloneSys` spares
    everybody). -/
theorem C07_clone_system (w : World V) (hw : MemoOK w) (s : Nat) (r : SysRec) (t : PNode V)
    (hr : w.systems[s]? = some r) (ht : w.treeOf s = some t) :
    (step w (.cloneSys s)).2 = .created w.systems.length ∧
    MemoOK (step w (.cloneSys s)).1 ∧
    (step w (.cloneSys s)).1.treeOf w.systems.length = some t ∧
    AllRoutesRead (step w (.cloneSys s)).1 w.systems.length t ∧
    (∀ s', s' < w.systems.length → (step w (.cloneSys s)).1.treeOf s' = w.treeOf s') := by
  have hok := step_memoOK w hw (.cloneSys s)
  have hstep : step w (.cloneSys s) =
      ({ w with heap := w.heap ++ [t], systems := w.systems ++ [⟨some w.heap.length, r.baseline⟩] },
        .created w.systems.length) := by
    simp only [step, hr, ht]
  rw [hstep] at hok ⊢
  have hnew := treeOf_append_new w t r.baseline
  refine ⟨rfl, hok, hnew, ?_, fun s' hs' => treeOf_append_both w hw.1 _ _ hs'⟩
  exact allRoutesRead_of hok (by simp) hnew

/-- clone the baseline after its view was read, reload the ORIGINAL: the clone still reads 7, the original 70 -/
example :
    let w0 : World Nat := ⟨[.node [("x", .param [⟨10, some 7⟩])]], [⟨some 0, none⟩], []⟩
    let ops : List (Op Nat) := [.readView 0 0 12 [], .cloneSys 0, .reload 0 [("x", .param [⟨10, some 70⟩])] noHook]
    (step (run w0 ops) (.readView 1 0 12 ["x"])).2 = .value (.ok (some (.val 7))) [] ∧
    (step (run w0 ops) (.readView 0 0 12 ["x"])).2 = .value (.ok (some (.val 70))) [] := ⟨rfl, rfl⟩

/-- Whatever is done through reforms — creating them, running any modifier functions on them,
    reloading them, reading anything anywhere — as long as no operation of the history replaces the
    tree of system `b` itself, nor merges an extension into the object `b` refers to (`Spared`: an
    extension loaded on a reform always goes to a copy and never reaches anybody else —
    `C07_extend_spares_others`; one loaded on `b` itself, or on a root system whose object `b` still
    refers to, is excluded), `b` keeps its tree and every read of `b` after the history returns what the
    same read returns before it. -/
theorem C07_reform_isolated (w : World V) (hw : MemoOK w) (ops : List (Op V)) (b : Nat)
    (hb : b < w.systems.length) (hops : Spared b w ops)
    (form form' : Nat) (d : Int) (path : List String) :
    (run w ops).treeOf b = w.treeOf b ∧
    (step (run w ops) (.readView b form d path)).2 = (step w (.readView b form' d path)).2 ∧
    (step (run w ops) (.readTree b path d)).2 = (step w (.readTree b path d)).2 ∧
    (∀ traced, (step (run w ops) (.readFormula b traced form d path)).2
        = (step w (.readFormula b traced form' d path)).2) := by
  obtain ⟨htree, hlen⟩ := run_treeOf_other w hw ops b hb hops
  -- both states are sound: each route reads the tree of `b`, which is the same in both
  have h := doRead_obs (run_memoOK w hw ops) hlen form d path
  have h' := doRead_obs hw hb form' d path
  rw [htree] at h
  exact ⟨htree, h.1.trans h'.1.symm, h.2.2.trans h'.2.2.symm, fun traced => (h.2.1 traced).trans (h'.2.1 traced).symm⟩

/-- a history that spares the baseline although it loads extensions: on its reform (a copy first), then
    again on the reform (in place, on the reform's own object) and on a reform stacked on it -/
example :
    let w0 : World Nat := ⟨[.node [("x", .param [⟨10, some 7⟩])]], [⟨some 0, none⟩], []⟩
    let ext : List (String × PNode Nat) := [("a", .param [⟨10, some 1⟩])]
    Spared 0 w0 [.newReform 0, .readView 0 0 12 [], .extend 1 ext, .extend 1 [("b", .param [])], .newReform 1,
      .extend 2 [("c", .param [])], .readView 0 0 12 []] :=
  ⟨rfl, rfl, rfl, rfl, rfl, rfl, rfl, trivial⟩

/-- the static sufficient condition: no operation of the history replaces the tree of `b` nor changes a
    tree object in place -/
theorem C07_reform_isolated_static (w : World V) (hw : MemoOK w) (ops : List (Op V)) (b : Nat)
    (hb : b < w.systems.length) (hops : ∀ op ∈ ops, op.target ≠ some b ∧ op.inPlace = false)
    (form : Nat) (d : Int) (path : List String) :
    (run w ops).treeOf b = w.treeOf b ∧
    (step (run w ops) (.readView b form d path)).2 = (step w (.readView b form d path)).2 :=
  ⟨(C07_reform_isolated w hw ops b hb (spared_of_static w ops b hops) form form d path).1,
   (C07_reform_isolated w hw ops b hb (spared_of_static w ops b hops) form form d path).2.1⟩

example :
    let f : PNode Nat → Except String (PNode Nat) := fun _ => .ok (.node [("x", .param [⟨10, some 70⟩])])
    ∀ op ∈ ([.newReform 0, .readView 0 0 12 [], .modify 1 (pureMod f), .reload 1 [] noHook, .readView 1 0 12 []] : List (Op Nat)),
      op.target ≠ some 0 ∧ op.inPlace = false := by
  intro f op hop
  simp only [List.mem_cons, List.not_mem_nil, or_false] at hop
  rcases hop with rfl | rfl | rfl | rfl | rfl <;> simp [Op.target, Op.inPlace]

/-- the baseline was read before the reform's modifier ran; it still reads 7, the reform reads 70 -/
example :
    let w0 : World Nat := ⟨[.node [("x", .param [⟨10, some 7⟩])]], [⟨some 0, none⟩], []⟩
    let f : PNode Nat → Except String (PNode Nat) := fun _ => .ok (.node [("x", .param [⟨10, some 70⟩])])
    let ops : List (Op Nat) := [.newReform 0, .readView 0 0 12 [], .modify 1 (pureMod f)]
    (step (run w0 ops) (.readView 0 0 12 ["x"])).2 = .value (.ok (some (.val 7))) [] ∧
    (step (run w0 ops) (.readView 1 0 12 ["x"])).2 = .value (.ok (some (.val 70))) [] := ⟨rfl, rfl⟩

end OFCore

#print axioms OFCore.C07_view_current
#print axioms OFCore.C07_view_current_init
#print axioms OFCore.C07_all_paths_agree
#print axioms OFCore.C07_traced_same
#print axioms OFCore.C07_traced_same_formula
#print axioms OFCore.C07_traced_same_vector
#print axioms OFCore.C07_fancy_pointwise
#print axioms OFCore.C07_fancy_pointwise_leaf
#print axioms OFCore.C07_fancy_subnode
#print axioms OFCore.C07_keys_stringified
#print axioms OFCore.C07_asof_pointwise
#print axioms OFCore.C07_asof_chained_pointwise
#print axioms OFCore.C07_asof_chained_in_force
#print axioms OFCore.C07_modify_nested_reads
#print axioms OFCore.C07_reload_nested_reads
#print axioms OFCore.C07_nested_read_sees_former_tree
#print axioms OFCore.C07_merge_spec
#print axioms OFCore.C07_extend_reads_current
#print axioms OFCore.C07_base_view
#print axioms OFCore.C07_extend_spares_others
#print axioms OFCore.C07_clone_system
#print axioms OFCore.C07_reform_isolated_static
#print axioms OFCore.C07_reform_isolated
