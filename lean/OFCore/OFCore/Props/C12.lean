import OFCore.Lemmas.BuilderFlush
import OFCore.Lemmas.BuilderSpelling
import OFCore.Lemmas.BuilderAxes
import OFCore.Lemmas.BuilderJoin
import OFCore.Lemmas.BuilderGroup
import OFCore.Props.C05
/-!
# C12 — a described situation becomes exactly that simulation

Theorems about the model `OFCore/Builder.lean` (the REPAIRED builder, fixes C12a … C12f, C12gh,
C12i, C12j, C12k, C12l, C12n, C12-errclass-axes), for all
tax-benefit systems and all documents, of any size (`C12_refuses_class` and `C12_refuses` ask that every
group kind of the system has a role, `Sys.RolesOK`).  `Holder.set_input` is a parameter
(`SetInput`); what `C12_longer_fills_gaps` assumes of it is `SetInputOK`.
-/
namespace OFCore.Bld

example : SetInputOK plainSetInput where
  exact := by
    intro s var n p a _ hu hs _ _
    unfold plainSetInput; rw [if_pos ⟨hu, hs⟩]
  keeps := by
    intro s s' var n p a _ h k x hk hx
    unfold plainSetInput at h
    split at h
    · cases h; rw [alGet_alSet_ne _ _ _ _ hk]; exact hx
    · cases h
  fresh := by
    intro s s' var n p a _ h k hk hk'
    unfold plainSetInput at h
    split at h
    · cases h
      by_cases e : k = (var.name, p)
      · subst e; exact ⟨rfl, Or.inl rfl⟩
      · rw [alGet_alSet_ne _ _ _ _ e] at hk'; exact absurd hk hk'
    · cases h

end OFCore.Bld
namespace OFCore

open Bld in
/-- **C12_value_placed** (person entity).  Whatever the document, if the persons are accepted,
then for every instance, every variable entry of it and every `(period key, value)` pair with a
non-null value — provided no later pair of the same entry spells the same period and no later
entry of the instance repeats the variable — the array buffered (`resolveKeys`: `get_buffer_key`)
under `(variable, canonical text of the period the key denotes)` has one slot per declared person
and holds the value, converted by `checkSetValue`, at the index of the instance.  For a variable
that is not defined for eternity; an eternal variable has ONE entry whatever the keys:
`C12_eternal_one_entry`. -/
theorem C12_value_placed (sys : Sys) (dp : Option String) (kvs : List (DKey × Doc))
    (ids : List String) (ws : List Write) (h : addPersonEntity sys dp (.obj kvs) = .ok (ids, ws))
    (ipre ipost : List (DKey × Doc)) (idk : DKey) (vars : List (DKey × Doc))
    (hkvs : kvs = ipre ++ (idk, .obj vars) :: ipost)
    (hids : ∀ kv ∈ ipost, kv.1.text ≠ idk.text)
    (vpre vpost : List (DKey × Doc)) (vk : DKey) (vd : Doc) (hvars : vars = vpre ++ (vk, vd) :: vpost)
    (hvk : ∀ kv ∈ vpost, kv.1.text ≠ vk.text)
    (var : Var) (hvar : sys.var? vk.text = some var) (hne : var.defUnit ≠ .eternity)
    (pvs ppre ppost : List (DKey × Doc)) (hp : variablePairs dp vd = some pvs)
    (k : DKey) (x : Doc) (hpvs : pvs = ppre ++ (k, x) :: ppost) (hx : x.isNull = false)
    (p : Period) (hk : parseKey k = .ok p)
    (hlater : ∀ kx ∈ ppost, canonKey kx.1 = .ok p.text → kx.2.isNull = true) :
    ids = kvs.map (fun kv => kv.1.text) ∧
    ∃ val arr, checkSetValue var x = .ok val ∧
      alGet (applyWrites [] (resolveKeys sys ws)) (var.name, p.text) = some arr ∧
      arr.length = kvs.length ∧ arr[ids.idxOf idk.text]? = some val := by
  obtain ⟨hidseq, wss, hall, rfl⟩ := addPersonEntity_spec.of_ok h _ rfl
  exact ⟨hidseq, (entity_value_placed (proj := id) hall hidseq [] ⟨ipre, ipost, hkvs, hids⟩
    ⟨vpre, vpost, hvars, hvk⟩ hvar hne hp ⟨hx, canonKey_of_parseKey hk, ppre, ppost, hpvs, hlater⟩ rfl).2⟩

open Bld in
/-- **C12_value_default** (person entity): default elsewhere.  Where the instances with a given id
declare no non-null value for a variable at a period (whatever the spelling), the array buffered
for that variable and period — if some other person declared one — holds the variable's default
at that person's index. -/
theorem C12_value_default (sys : Sys) (dp : Option String) (kvs : List (DKey × Doc))
    (ids : List String) (ws : List Write) (h : addPersonEntity sys dp (.obj kvs) = .ok (ids, ws))
    (id : String) (hid : id ∈ ids) (var : Var) (hvar : sys.var? var.name = some var)
    (hne : var.defUnit ≠ .eternity) (ck : List Char)
    (hnone : ∀ idk vars, (idk, Doc.obj vars) ∈ kvs → idk.text = id → ∀ vk vd, (vk, vd) ∈ vars →
      vk.text = var.name → ∀ pvs, variablePairs dp vd = some pvs →
      ∀ kx ∈ pvs, canonKey kx.1 = .ok ck → kx.2.isNull = true) :
    ∀ arr, alGet (applyWrites [] (resolveKeys sys ws)) (var.name, ck) = some arr →
      arr.length = kvs.length ∧ arr[ids.idxOf id]? = some var.default := by
  obtain ⟨hids, wss, hall, rfl⟩ := addPersonEntity_spec.of_ok h _ rfl
  exact entity_value_default hall hids [] hid hvar hne hnone rfl

open Bld in
/-- **C12_value_placed_group**: the same placement for the variables of a group kind, with the
groups appended for the persons left out (repair C12f): the array buffered for
`(variable, canonical period)` has one slot per group INCLUDING the own-groups, holds the declared
value at the index of the declaring group, and the default in every own-group.  The buffer the group
kind is added to holds nothing yet for that variable and period (`hbuf`). -/
theorem C12_value_placed_group (sys : Sys) (dp : Option String) (g : GroupKind) (personsIds : List String)
    (kvs : List (DKey × Doc)) (buf buf' : Buffer) (e : Ent)
    (h : addGroupEntity sys dp g personsIds (.obj kvs) buf = .ok (e, buf'))
    (ipre ipost : List (DKey × Doc)) (gk : DKey) (ikvs : List (DKey × Doc))
    (hkvs : kvs = ipre ++ (gk, .obj ikvs) :: ipost) (hpost : ∀ kv ∈ ipost, kv.1.text ≠ gk.text)
    (vpre vpost : List (DKey × Doc)) (vk : DKey) (vd : Doc)
    (hvars : variablesJson g ikvs = vpre ++ (vk, vd) :: vpost) (hvk : ∀ kv ∈ vpost, kv.1.text ≠ vk.text)
    (var : Var) (hvar : sys.var? vk.text = some var) (hne : var.defUnit ≠ .eternity)
    (pvs ppre ppost : List (DKey × Doc)) (hp : variablePairs dp vd = some pvs)
    (k : DKey) (x : Doc) (hpvs : pvs = ppre ++ (k, x) :: ppost) (hx : x.isNull = false)
    (p : Period) (hk : parseKey k = .ok p)
    (hlater : ∀ kx ∈ ppost, canonKey kx.1 = .ok p.text → kx.2.isNull = true)
    (hbuf : alGet buf (var.name, p.text) = none) :
    ∃ val arr, checkSetValue var x = .ok val ∧ alGet buf' (var.name, p.text) = some arr ∧
      arr.length = e.ids.length ∧
      arr[(kvs.map (fun kv => kv.1.text)).idxOf gk.text]? = some val ∧
      ∀ j, kvs.length ≤ j → j < e.ids.length → arr[j]? = some var.default := by
  obtain ⟨hb, wss, hall, hbuf'⟩ := addGroupEntity_built h
  obtain ⟨hent, val, arr, hval, harr, hlenarr, hget⟩ :=
    entity_value_placed (proj := variablesJson g) hall rfl buf ⟨ipre, ipost, hkvs, hpost⟩
      ⟨vpre, vpost, hvars, hvk⟩ hvar hne hp ⟨hx, canonKey_of_parseKey hk, ppre, ppost, hpvs, hlater⟩ hbuf
  have hidx : (kvs.map (fun kv => kv.1.text)).idxOf gk.text < arr.length :=
    hlenarr ▸ idxOf_text_lt (hkvs ▸ List.mem_append_right _ List.mem_cons_self)
  have helen := hb.ids_length
  -- without own-groups nothing is appended; with them the array is padded with the default
  have hget' : alGet buf' (var.name, p.text)
      = some (arr ++ List.replicate (e.ids.length - arr.length) var.default) := by
    by_cases hl : leftOut g personsIds kvs = []
    · have h0 : e.ids.length - arr.length = 0 := by
        rw [helen, hl, hlenarr]; exact Nat.sub_self _
      rw [hbuf', if_pos hl, harr, h0, List.replicate_zero, List.append_nil]
    · rw [hbuf', if_neg hl, alGet_padBuffer, harr]
      simp only [Option.map_some, padFn, Sys.var?_self hvar, hent, if_true]
  have hle : arr.length ≤ e.ids.length := by rw [hlenarr, helen]; exact Nat.le_add_right _ _
  refine ⟨val, _, hval, hget', ?_, ?_, ?_⟩
  · rw [List.length_append, List.length_replicate, Nat.add_sub_of_le hle]
  · rw [List.getElem?_append_left hidx]; exact hget
  · intro j h1 h2
    rw [← hlenarr] at h1
    rw [List.getElem?_append_right h1, List.getElem?_replicate, if_pos (Nat.sub_lt_sub_right h1 h2)]

open Bld in
/-- **C12_eternal_one_entry** (repair C12j).  A variable defined for eternity holds one value per
instance whatever period it is given for: all its inputs are buffered in ONE entry, under the key of
the first of them in document order (`resolveKeys`), so that a value given under a dated key by one
instance and a value given under `ETERNITY` by another are both kept — the last write of an instance
is what the entry holds at that instance's index, and no second entry of the variable exists that a
later flush could write over it. -/
theorem C12_eternal_one_entry (sys : Sys) (ws : List Write) (v : String) (hv : isEternal sys v = true) :
    (∀ w ∈ resolveKeys sys ws, ∀ w' ∈ resolveKeys sys ws, w.var = v → w'.var = v → w.key = w'.key) ∧
    (∀ (pre post : List Write) (w : Write) (n : Nat), ws = pre ++ w :: post → w.var = v →
      (∀ w' ∈ ws, w'.var = v → w'.size = n) → w.idx < n →
      (∀ w' ∈ post, w'.var = v → w'.idx ≠ w.idx) →
      ∃ k arr, firstKeyOf ws v = some k ∧ alGet (applyWrites [] (resolveKeys sys ws)) (v, k) = some arr ∧
        arr.length = n ∧ arr[w.idx]? = some w.val ∧
        ∀ k', k' ≠ k → alGet (applyWrites [] (resolveKeys sys ws)) (v, k') = none) := by
  have hkey := resolveKeys_key sys ws v hv
  refine ⟨?_, ?_⟩
  · intro w hw w' hw' h1 h2
    have e1 := hkey w hw h1
    have e2 := hkey w' hw' h2
    rw [← e2] at e1
    exact Option.some.inj e1
  · intro pre post w n hws hwv hsized hidx hlast
    subst hwv
    have hlw : Behind (fun w' => w'.var = w.var → w'.idx ≠ w.idx) w ws := ⟨pre, post, hws, hlast⟩
    obtain ⟨k, hk⟩ := firstKeyOf_some hlw.mem
    have hgw : (resolveKey sys ws w).cell = (w.var, k) :=
      Write.cell_eq_iff.mpr ⟨resolveKey_var sys ws w, resolveKey_key hv hk⟩
    have hvar_of_cell : ∀ x : Write, (resolveKey sys ws x).cell = (resolveKey sys ws w).cell → x.var = w.var := by
      intro x hc
      rw [hgw] at hc
      rw [← resolveKey_var sys ws x]; exact (Write.cell_eq_iff.mp hc).1
    obtain ⟨arr, harr, hlen, hval⟩ := applyWrites_last (w := resolveKey sys ws w) n []
      (hlw.map (resolveKey sys ws) fun x _ hx hc =>
        hx (hvar_of_cell x hc.1) (by simpa only [resolveKey_idx] using hc.2))
      (by
        intro x hx hc
        obtain ⟨x₀, hx₀, rfl⟩ := List.mem_map.mp hx
        rw [resolveKey_size]
        exact hsized x₀ hx₀ (hvar_of_cell x₀ hc))
      (by intro a ha; cases ha) (by rw [resolveKey_idx]; exact hidx)
    rw [hgw, ← resolveKeys_eq_map] at harr
    rw [resolveKey_idx, resolveKey_val] at hval
    refine ⟨k, arr, hk, harr, hlen, hval, ?_⟩
    intro k' hk'
    rw [alGet_applyWrites_frame (w.var, k') (resolveKeys sys ws) []]
    · rfl
    · intro x hx hc
      obtain ⟨hxv, hxk⟩ := Write.cell_eq_iff.mp hc
      have := hkey x hx hxv
      rw [hk, hxk] at this
      exact hk' (Option.some.inj this)

open Bld in
/-- **C12_entities.**  One entity per declared instance, ids in declaration order: the persons
are the keys of the persons object; a declared group kind has its declared instances followed by
one fresh group per person left out (named after the person, in person order); a group kind the
document omits has one group per person. -/
theorem C12_entities (sys : Sys) (dp : Option String) :
    (∀ (kvs : List (DKey × Doc)) (ids : List String) (ws : List Write),
      addPersonEntity sys dp (.obj kvs) = .ok (ids, ws) →
      ids = kvs.map (fun kv => kv.1.text) ∧ ids.length = kvs.length) ∧
    (∀ (g : GroupKind) (personsIds : List String) (kvs : List (DKey × Doc)) (buf buf' : Buffer) (e : Ent),
      addGroupEntity sys dp g personsIds (.obj kvs) buf = .ok (e, buf') →
      e.key = g.key ∧ e.ids = kvs.map (fun kv => kv.1.text) ++ leftOut g personsIds kvs ∧
      e.count = kvs.length + (leftOut g personsIds kvs).length ∧
      e.memb.length = personsIds.length ∧ e.roles.length = personsIds.length) ∧
    (∀ (g : GroupKind) (personsIds : List String) (e : Ent), addDefaultGroupEntity g personsIds = .ok e →
      e.key = g.key ∧ e.ids = personsIds ∧ e.memb = List.range personsIds.length ∧
      ∃ r0, g.flatRoles.head? = some r0 ∧ e.roles = List.replicate personsIds.length r0) := by
  refine ⟨?_, ?_, ?_⟩
  · intro kvs ids ws h
    have hi : ids = _ := (addPersonEntity_spec.of_ok h _ rfl).1
    exact ⟨hi, by rw [hi]; simp⟩
  · intro g personsIds kvs buf buf' e h
    obtain ⟨hb, _⟩ := addGroupEntity_built h
    exact ⟨hb.key, hb.ids, hb.ids_length, hb.memb_length⟩
  · intro g personsIds e h
    unfold addDefaultGroupEntity at h
    cases hr : g.flatRoles.head? with
    | none => rw [hr] at h; cases h
    | some r0 => rw [hr] at h; cases h; exact ⟨rfl, rfl, rfl, r0, rfl, rfl⟩

open Bld in
/-- **C12_membership_roles.**  If a group kind is accepted then
(1) the persons listed by its instances are pairwise distinct and declared;
(2) the `t`-th person listed under role `r` of an instance belongs to that instance's group, with
the role `r` — or its `t`-th sub-role when `r` has sub-roles;
(3) a person left out belongs to the fresh group appended for that person after the declared ones
(repair C12i: located by position, whatever the ids of the declared groups — see `C12_own_group`),
with the first role of the kind. -/
theorem C12_membership_roles (sys : Sys) (dp : Option String) (g : GroupKind) (personsIds : List String)
    (hpn : personsIds.Nodup) (kvs : List (DKey × Doc)) (buf buf' : Buffer) (e : Ent)
    (h : addGroupEntity sys dp g personsIds (.obj kvs) buf = .ok (e, buf')) :
    ((listedPersons g kvs).Nodup ∧ ∀ p ∈ listedPersons g kvs, p ∈ personsIds) ∧
    (∀ (gk : DKey) (ikvs : List (DKey × Doc)) (r : Role) (t : Nat) (pid : String),
      (gk, Doc.obj ikvs) ∈ kvs → r ∈ g.roles →
      (strictSyntax ((lookupS r.docKey ikvs).getD (.arr []))).strs[t]? = some pid →
      e.memb[personsIds.idxOf pid]? = some ((kvs.map (fun kv => kv.1.text)).idxOf gk.text) ∧
      e.roles[personsIds.idxOf pid]? = some (r.roleAt t)) ∧
    (∀ pid ∈ leftOut g personsIds kvs,
      e.memb[personsIds.idxOf pid]? = some (kvs.length + (leftOut g personsIds kvs).idxOf pid) ∧
      ∃ r0, g.flatRoles.head? = some r0 ∧ e.roles[personsIds.idxOf pid]? = some r0) := by
  obtain ⟨hb, _⟩ := addGroupEntity_built h
  have hland := hb.lands hpn
  refine ⟨⟨hb.listed_nodup, hb.listed_mem⟩, ?_, ?_⟩
  · intro gk ikvs r t pid hkv hrm hstr
    exact hland _ (mem_groupMWrites_listed hkv hrm hstr)
  · intro pid hpid
    have := hland _ (mem_groupMWrites_own hpid)
    exact ⟨this.1, _, hb.own_role (List.ne_nil_of_mem hpid), this.2⟩

open Bld in
/-- **C12_own_group.**  A person left out of a group kind is the only member of a fresh group
appended after the declared ones, which bears the person's id; different persons left out get
different groups — whatever the ids of the declared groups (repair C12i; before it, a declared
group named after the person received the person). -/
theorem C12_own_group (sys : Sys) (dp : Option String) (g : GroupKind) (personsIds : List String)
    (hpn : personsIds.Nodup) (kvs : List (DKey × Doc)) (buf buf' : Buffer) (e : Ent)
    (h : addGroupEntity sys dp g personsIds (.obj kvs) buf = .ok (e, buf'))
    (pid : String) (hleft : pid ∈ leftOut g personsIds kvs) :
    e.memb[personsIds.idxOf pid]? = some (kvs.length + (leftOut g personsIds kvs).idxOf pid) ∧
    kvs.length ≤ kvs.length + (leftOut g personsIds kvs).idxOf pid ∧
    e.ids[kvs.length + (leftOut g personsIds kvs).idxOf pid]? = some pid ∧
    (∀ q ∈ personsIds, q ≠ pid →
      e.memb[personsIds.idxOf q]? ≠ some (kvs.length + (leftOut g personsIds kvs).idxOf pid)) := by
  obtain ⟨_, hids, _, _, _⟩ := (C12_entities sys dp).2.1 g personsIds kvs buf buf' e h
  obtain ⟨⟨hnd, hlm⟩, hdecl, hown⟩ := C12_membership_roles sys dp g personsIds hpn kvs buf buf' e h
  refine ⟨(hown pid hleft).1, Nat.le_add_right _ _, ?_, ?_⟩
  · rw [hids, List.getElem?_append_right (by simp)]
    simp only [List.length_map, Nat.add_sub_cancel_left]
    exact getElem?_idxOf hleft
  · intro q hq hne hcontra
    by_cases hql : q ∈ leftOut g personsIds kvs
    · have hq' := (hown q hql).1
      rw [hq'] at hcontra
      have hqi : (leftOut g personsIds kvs).idxOf q = (leftOut g personsIds kvs).idxOf pid := by
        have := Option.some.inj hcontra; omega
      exact hne (idxOf_inj_of_mem hql hleft hqi)
    · -- q is listed by some instance: its group index is below the number of declared groups
      have hqlisted : q ∈ listedPersons g kvs := Decidable.not_not.mp fun hn => hql (mem_leftOut.mpr ⟨hq, hn⟩)
      obtain ⟨⟨gk, d⟩, hkv, hin⟩ := List.mem_flatMap.mp hqlisted
      obtain ⟨ikvs, r, t, rfl, hr, hget⟩ := mem_instListed.mp hin
      rw [(hdecl gk ikvs r t q hkv hr hget).1] at hcontra
      have hlt' := idxOf_text_lt hkv
      have := Option.some.inj hcontra
      omega

open Bld in
/-- **C12_longer_fills_gaps.**  For every buffer and every variable, the periods handed to
`set_input` are a permutation of the buffered ones, sorted by (length in days, unit weight),
`ETERNITY` last: a period is never written before a shorter one (repairs C12b — numeric key — and
C12l — the length, not the size in its own unit).  Consequently, under `SetInputOK`, whatever is
declared on longer periods, the value declared on ONE definition period is what the simulation
holds for it (when the period does not start after the variable's `end`, `endGuard`, and no two
buffered keys denote the same period, `ps.Nodup`): a longer period only fills what is still unknown. -/
theorem C12_longer_fills_gaps (buf : Buffer) (v : String) (ps : List Period)
    (h : sortedPeriods buf v = .ok ps) :
    ps.Pairwise (fun p q => flushLe p q = true) ∧
    (∃ qs, All₂ (fun ck q => parsePeriod ck = .ok q) (varKeys buf v) qs ∧ ps.Perm qs) ∧
    (∀ (si : SetInput), SetInputOK si → ∀ (var : Var) (count : Nat) (s s' : Store),
      var.name = v → var.defUnit ≠ .eternity → ps.Nodup →
      foldE (callStep si buf var count) s ps = .ok s' →
      ∀ q ∈ ps, alGet s (v, q) = none → endGuard var q = .ok true →
      q.unit = var.defUnit → q.size = 1 →
      ∀ values, alGet buf (v, q.text) = some values → values.length ≠ 0 →
      (tile (count / values.length) values).length = count →
      alGet s' (v, q) = some (tile (count / values.length) values)) := by
  obtain ⟨hsorted, hperm⟩ := sortedPeriods_sorted h
  refine ⟨hsorted, hperm, ?_⟩
  intro si hsi var count s s' hname hne hnd hfold q hqm hunk hguard hunit hsize values hvals hz hlen
  subst hname
  -- the periods before `q` are shorter and leave it unknown, `q` is written as given, the rest keep it
  obtain ⟨pre, post, rfl⟩ := List.append_of_mem hqm
  obtain ⟨m, m₁, hpre, hq, hpost⟩ := foldE_split hfold
  rw [List.pairwise_append] at hsorted
  rw [List.nodup_append] at hnd
  exact flush_keeps hsi hne (List.nodup_cons.mp hnd.2.1).1 hpost
    (flush_exact hsi hne hq hguard hunit hsize hvals hlen
      (flush_unknown hsi hne (fun q' hq' => ⟨hnd.2.2 q' hq' q List.mem_cons_self,
        hsorted.2.2 q' hq' q List.mem_cons_self⟩) hpre hunk))

open Bld in
/-- **C12_spelling_invariant.**  Two fully specified documents that differ only in how period keys
are spelt (`TopEq`: same entities, same instances in the same order, same variables, pairwise
`parseKey k = parseKey k'` and equal values) give the same result — the same simulation or the
same refusal — whatever `set_input` does.  The same holds for one `set_input` of the
variables-only form and for the `period` of an axis: keys are read through `parseKey` only. -/
theorem C12_spelling_invariant (sys : Sys) (dp : Option String) (si : SetInput) :
    (∀ (kvs kvs' : List (DKey × Doc)), All₂ TopEq kvs kvs' →
      buildFromEntities sys dp si kvs = buildFromEntities sys dp si kvs') ∧
    (∀ (count : Nat) (store : Store) (name k k' : DKey) (value : Doc), parseKey k = parseKey k' →
      setInputDoc sys si count store name k value = setInputDoc sys si count store name k' value) ∧
    (∀ (entKey : String) (step cell cnt : Nat) (multi : Bool) (coords : List Nat) (buf : Buffer) (a : Axis)
      (k k' : DKey), parseKey k = parseKey k' →
      layAxis sys dp entKey step cell cnt multi coords buf { a with period := some k } =
      layAxis sys dp entKey step cell cnt multi coords buf { a with period := some k' }) :=
  ⟨buildFromEntities_congr sys dp si, setInputDoc_congr sys si, layAxis_congr sys dp⟩

open Bld in
/-- **C12_spelling_invariant_dict** (the statement for `build_from_dict`, every shape).  Two
documents with the same keys everywhere except period keys, where corresponding period keys denote
the same period (`parseKey k = parseKey k'`) and carry equal values, give the same result — the same
simulation or the same refusal — whatever the shape the dispatch recognises (`DictEq` reads the entry
under a key the way that shape does): short form (an instance under a singular entity key, lifted
through `explicit_singular_entities`), fully specified form and the fall-through of repair C12d
(instances under an entity plural), variables-only form (`{period: values}` under a variable name,
lifted through `build_from_variables`). -/
theorem C12_spelling_invariant_dict (sys : Sys) (dp : Option String) (si : SetInput)
    (kvs kvs' : List (DKey × Doc)) (h : All₂ (DictEq sys kvs) kvs kvs') :
    buildFromDict sys dp si (.obj kvs) = buildFromDict sys dp si (.obj kvs') := by
  have hkey := fun (f : DKey → Bool) =>
    h.any_eq (fun kv => f kv.1) (fun kv => f kv.1) (fun _ _ hab => by rw [hab.1])
  have hall : kvs.all (fun kv => isEntityKey sys kv.1) = kvs'.all (fun kv => isEntityKey sys kv.1) :=
    h.all_eq _ _ (fun _ _ hab => by rw [hab.1])
  have hemp : kvs.isEmpty = kvs'.isEmpty := by cases h <;> rfl
  unfold buildFromDict
  simp only [Doc.asObj?]
  rw [← hkey isIntKey, ← hkey (fun k => keyIn (sys.singulars.map (·.1)) k),
    ← hkey (fun k => keyIn (sys.vars.map (·.name)) k), ← hall, ← hemp]
  -- the same dispatch on both sides; in each branch `DictEq` reads as the relation of that shape
  refine ite_congr rfl (fun _ => rfl) fun _ => ite_congr rfl (fun hs => ?_) fun hs =>
    ite_congr rfl (fun hf => ?_) fun hf => ite_congr rfl (fun hv => ?_) fun hv => ?_
  · have hshort : All₂ (ShortEq sys) kvs kvs' :=
      h.imp (fun a b hab => ⟨hab.1, by have := hab.2; rw [if_pos hs] at this; exact this⟩)
    exact buildFromEntities_congr sys dp si _ _ (explicitSingular_rel sys hshort)
  · have htop : All₂ TopEq kvs kvs' :=
      h.imp (fun a b hab => ⟨hab.1, by have := hab.2; rw [if_neg hs, if_pos hf] at this; exact this⟩)
    exact buildFromEntities_congr sys dp si _ _ htop
  · have hvars : All₂ EntryEq kvs kvs' :=
      h.imp (fun a b hab => ⟨hab.1, by have := hab.2; rw [if_neg hs, if_neg hf, if_pos hv] at this; exact this⟩)
    exact buildFromVariables_congr sys dp si _ _ hvars
  · have htop : All₂ TopEq kvs kvs' :=
      h.imp (fun a b hab => ⟨hab.1, by have := hab.2; rw [if_neg hs, if_neg hf, if_neg hv] at this; exact this⟩)
    exact buildFromEntities_congr sys dp si _ _ htop

open Bld in
/-- **C12_axes_concat.**  Expanding over axes is concatenating the copies:
(1) every entity has `cell` times its instances; the ids of copy `c` are the prototype's ids
followed by the running index `c·n + i`; the roles of every copy are the prototype's; the
memberships of copy `c` are the prototype's shifted by `c` times the number of groups;
(2) when an axis is laid (`layAxis` succeeds, index inside the prototype, array buffered at
prototype size or absent; a variable that is not eternal — an eternal one is laid on its single
entry, `bufferKey`), the array of its variable at its period is the concatenation over the
copies of the prototype array with the axis value of that copy on the indexed instance — and no
other buffered array changes (they are replicated when flushed: `callStep` tiles). -/
theorem C12_axes_concat :
    (∀ (cell : Nat) (e : Ent),
      (expandEnt cell e).count = cell * e.count ∧
      (expandEnt cell e).ids = copies cell (fun c =>
        List.zipWith (fun id (i : Nat) => id ++ toString (c * e.count + i)) e.ids (List.range e.count)) ∧
      (expandEnt cell e).roles = copies cell (fun _ => e.roles) ∧
      (e.isPerson = false → (expandEnt cell e).memb = copies cell (fun c => e.memb.map (· + c * e.count)))) ∧
    (∀ (sys : Sys) (dp : Option String) (entKey : String) (step cell cnt : Nat) (multi : Bool)
      (coords : List Nat) (buf buf' : Buffer) (a : Axis) (var : Var) (ck : List Char) (proto : Vec),
      layAxis sys dp entKey step cell cnt multi coords buf a = .ok buf' →
      sys.var? a.name = some var → var.defUnit ≠ .eternity →
      ∀ (k : DKey), axisKey dp a = some k → canonKey k = .ok ck → a.index < step →
      ((alGet buf (a.name, ck) = none ∧ proto = List.replicate step var.default) ∨
       (alGet buf (a.name, ck) = some proto ∧ proto.length = step)) →
      ∃ vals, mapE (fun c => axisCast var (axisValue a cnt c)) coords = .ok vals ∧
        alGet buf' (a.name, ck) = some (copies cell (fun c =>
          proto.set a.index (vals.getD c (proto.getD a.index default)))) ∧
        ∀ k, k ≠ (a.name, ck) → alGet buf' k = alGet buf k) := by
  refine ⟨?_, ?_⟩
  · intro cell e
    have hids : (expandEnt cell e).ids = copies cell (fun c =>
        List.zipWith (fun id (i : Nat) => id ++ toString (c * e.count + i)) e.ids (List.range e.count)) := by
      unfold expandEnt Ent.count; exact ids_copies e.ids cell
    refine ⟨?_, hids, ?_, ?_⟩
    · show (expandEnt cell e).ids.length = cell * e.count
      rw [hids, copies_length _ e.count (fun c => by simp [Ent.count])]
    · unfold expandEnt; exact tile_eq_copies e.roles cell
    · intro hp
      unfold expandEnt Ent.count
      simp only [hp, Bool.false_eq_true, if_false]
      exact memb_copies e.memb e.ids.length cell
  · intro sys dp entKey step cell cnt multi coords buf buf' a var ck proto h hvar hne k hkey hck hidx hproto
    exact layAxis_copies h hvar (isEternal_false_of_var hvar hne) hkey hck hidx hproto

open Bld in
/-- **C12_axes_parallel_concat.**  Any number of parallel axes (one list of `axes`; also the
parallel axes of one perpendicular dimension): when the whole list is laid (`foldE layAxis`
succeeds), none of its variables is eternal and no two of its axes write the same variable at the same
period (`axisCell`: variable, canonical period text), then EVERY axis of the list — with its index inside the prototype and its
array buffered at prototype size or absent BEFORE the expansion — ends with the concatenation over
the copies of its prototype array carrying that copy's axis value on the indexed instance, and every
buffered array no axis of the list names is left as it was. -/
theorem C12_axes_parallel_concat (sys : Sys) (dp : Option String) (entKey : String) (step cell cnt : Nat)
    (multi : Bool) (coords : List Nat) :
    ∀ (axes : List Axis) (buf buf' : Buffer),
    foldE (layAxis sys dp entKey step cell cnt multi coords) buf axes = .ok buf' →
    (axes.map (axisCell dp)).Nodup → (∀ a ∈ axes, isEternal sys a.name = false) →
    (∀ a ∈ axes, ∀ (var : Var) (ck : List Char) (proto : Vec),
      sys.var? a.name = some var → axisCell dp a = some (a.name, ck) → a.index < step →
      ((alGet buf (a.name, ck) = none ∧ proto = List.replicate step var.default) ∨
       (alGet buf (a.name, ck) = some proto ∧ proto.length = step)) →
      ∃ vals, mapE (fun c => axisCast var (axisValue a cnt c)) coords = .ok vals ∧
        alGet buf' (a.name, ck) = some (copies cell (fun c =>
          proto.set a.index (vals.getD c (proto.getD a.index default))))) ∧
    (∀ k, (∀ a ∈ axes, axisCell dp a ≠ some k) → alGet buf' k = alGet buf k) := by
  intro axes buf buf' h hnd hdated
  refine ⟨?_, layAxes_frame h hdated⟩
  intro a ha var ck proto hvar hcell hidx hproto
  -- the axes before `a` and those after it write other cells; `a` itself is `layAxis_copies`
  obtain ⟨pre, post, rfl⟩ := List.append_of_mem ha
  obtain ⟨m, m', hpre, hstep, hpost⟩ := foldE_split h
  rw [List.map_append, List.map_cons, List.nodup_append, List.nodup_cons] at hnd
  have hdpre : ∀ a' ∈ pre, isEternal sys a'.name = false := fun a' ha' => hdated a' (List.mem_append_left _ ha')
  have hdpost : ∀ a' ∈ post, isEternal sys a'.name = false :=
    fun a' ha' => hdated a' (List.mem_append_right _ (List.mem_cons_of_mem _ ha'))
  have hm : alGet m (a.name, ck) = alGet buf (a.name, ck) :=
    layAxes_frame hpre hdpre _ fun a' ha' e =>
      hnd.2.2 _ (List.mem_map_of_mem ha') _ List.mem_cons_self (e.trans hcell.symm)
  obtain ⟨k, hk1, hk2, _⟩ := axisCell_some hcell
  obtain ⟨vals, hvals, hget, _⟩ := layAxis_copies hstep hvar (hdated a ha) hk1 hk2 hidx (by rw [hm]; exact hproto)
  refine ⟨vals, hvals, ?_⟩
  rw [layAxes_frame hpost hdpost _ fun a' ha' e => hnd.2.1.1 (hcell ▸ e ▸ List.mem_map_of_mem ha')]
  exact hget

open Bld in
/-- **C12_refuses_class.**  Whatever the document, in a system all of whose group kinds have a role
(`hsys`: `flattened_roles[0]` of a kind without roles is an ordinary exception), an error of the entity phase of
`build_from_entities` (persons, groups, memberships, buffered values) is never an ordinary
exception: it is a situation error (or the document uses a value form outside the model). -/
theorem C12_refuses_class (sys : Sys) (hsys : sys.RolesOK) (dp : Option String)
    (params : List (DKey × Doc)) (hasAxes : Bool) (e : BErr)
    (h : buildEntities sys dp params hasAxes = .error e) : e ≠ .other :=
  (buildEntities_spec hsys).noOther e h

open Bld in
/-- **C12_refuses** (1): unknown entity, no person.  A key that is no entity plural, a missing,
empty or null persons object: situation error, before anything else is looked at. -/
theorem C12_refuses_unknown_entity (sys : Sys) (dp : Option String) (params : List (DKey × Doc)) (hasAxes : Bool) :
    (params.any (fun kv => unexpectedKey sys kv.1) = true →
      buildEntities sys dp params hasAxes = .error .situation) ∧
    (params.any (fun kv => unexpectedKey sys kv.1) = false →
      (lookupS sys.personPlural params = none ∨ ∃ pj, lookupS sys.personPlural params = some pj ∧ pj.truthy = false) →
      buildEntities sys dp params hasAxes = .error .situation) := by
  refine ⟨?_, ?_⟩
  · intro h; unfold buildEntities; rw [if_pos h]
  · intro h hp
    unfold buildEntities
    rw [h]
    simp only [Bool.false_eq_true, if_false]
    rcases hp with hn | ⟨pj, hs, ht⟩
    · rw [hn]
    · rw [hs]; simp [ht]

open Bld in
/-- a group kind is refused as soon as its instances list an unknown person, list a person twice
(in one role, two roles or two groups), give too many holders to a role, or list something that
is not text -/
theorem C12_refuses_membership (sys : Sys) (dp : Option String) (g : GroupKind) (personsIds : List String)
    (kvs : List (DKey × Doc)) (buf : Buffer)
    (hbad : (∃ p ∈ listedPersons g kvs, p ∉ personsIds) ∨ ¬ (listedPersons g kvs).Nodup ∨
      (∃ kv ∈ kvs, ∃ ikvs, kv.2.asObj? = some ikvs ∧ (roleDocs g ikvs).all maxOk = false) ∨
      (∃ kv ∈ kvs, kv.2.asObj? = none)) :
    ∀ r, addGroupEntity sys dp g personsIds (.obj kvs) buf ≠ .ok r := by
  intro ⟨e, buf'⟩ h
  obtain ⟨hb, _⟩ := addGroupEntity_built h
  rcases hbad with ⟨p, hp, hn⟩ | hn | ⟨kv, hkv, ikvs, ho, hm⟩ | ⟨kv, hkv, ho⟩
  · exact hn (hb.listed_mem p hp)
  · exact hn hb.listed_nodup
  · obtain ⟨ikvs', ho', hm'⟩ := hb.insts kv hkv
    rw [ho] at ho'; cases ho'
    rw [hm] at hm'; cases hm'
  · obtain ⟨ikvs', ho', _⟩ := hb.insts kv hkv
    rw [ho] at ho'; cases ho'

open Bld in
/-- the persons are refused as soon as one instance names an unknown variable or a variable of
another entity, spells a period that does not parse, or gives a value that `checkSetValue`
refuses (text for a number, unknown enum name, impossible date, a list or an object as a value:
see `C12_refuses_value`) -/
theorem C12_refuses_person_input (sys : Sys) (dp : Option String) (kvs : List (DKey × Doc))
    (idk : DKey) (vars : List (DKey × Doc)) (hi : (idk, Doc.obj vars) ∈ kvs)
    (vk : DKey) (vd : Doc) (hv : (vk, vd) ∈ vars)
    (hbad : sys.var? vk.text = none ∨ (∃ var, sys.var? vk.text = some var ∧ var.entity ≠ sys.personKey) ∨
      (∃ var pvs k x, sys.var? vk.text = some var ∧ variablePairs dp vd = some pvs ∧ (k, x) ∈ pvs ∧
        ((∃ err, parseKey k = .error err) ∨ (x.isNull = false ∧ ∃ e, checkSetValue var x = .error e))) ∨
      (∃ var, sys.var? vk.text = some var ∧ variablePairs dp vd = none)) :
    ∀ r, addPersonEntity sys dp (.obj kvs) ≠ .ok r := by
  intro ⟨ids, ws⟩ h
  obtain ⟨_, wss, hall, _⟩ := addPersonEntity_spec.of_ok h _ rfl
  -- a successful pass went through the instance, its entry and every pair of the entry
  obtain ⟨_, _, vars', ho, hiw⟩ := hall.exists_right hi
  cases ho
  obtain ⟨wss', hm', _⟩ := instanceWrites_spec.of_ok hiw
  obtain ⟨_, _, hvw⟩ := (mapE_forall₂ hm').exists_right hv
  obtain ⟨var, pvs, os, hvar, hent, hpairs, hmo, _⟩ := variableWrites_spec.of_ok hvw
  rcases hbad with hn | ⟨var', hs, hne⟩ | ⟨var', pvs', k, x, hs, hp', hkx, hb⟩ | ⟨var', hs, hp'⟩
  · rw [hn] at hvar; cases hvar
  · rw [hs] at hvar; cases hvar; exact hne hent
  · rw [hs] at hvar; cases hvar
    rw [hp'] at hpairs; cases hpairs
    obtain ⟨o, _, ho⟩ := (mapE_forall₂ hmo).exists_right hkx
    obtain ⟨ck, hck, hcase⟩ := valueWrite_spec.of_ok ho
    rcases hb with ⟨err, herr⟩ | ⟨hnn, e, he⟩
    · unfold canonKey at hck; rw [herr] at hck; cases hck
    · rcases hcase with ⟨hnull, _⟩ | ⟨_, val, hval, _⟩
      · simp only at hnull; rw [hnn] at hnull; cases hnull
      · simp only at hval; rw [he] at hval; cases hval
  · rw [hs] at hvar; cases hvar
    rw [hp'] at hpairs; cases hpairs

open Bld in
/-- what `checkSetValue` refuses with a situation error, class by class of the statement -/
theorem C12_refuses_value (var : Var) :
    -- a name that is not a member of the enumeration
    (∀ names s, var.vtype = .enum names → s ∉ names → checkSetValue var (.str s) = .error .situation) ∧
    -- a list of two or more items where one value is expected (repair C12c), whatever the type but text
    (∀ xs : List Doc, 2 ≤ xs.length → var.vtype ≠ .str → checkSetValue var (.arr xs) = .error .situation) ∧
    -- an object where a number, a date or an enum member is expected
    (∀ kvs, var.vtype = .float ∨ var.vtype = .int ∨ var.vtype = .date ∨ (∃ n, var.vtype = .enum n) →
      checkSetValue var (.obj kvs) = .error .situation) ∧
    -- a word for a number
    (∀ s : String, var.vtype = .float ∨ var.vtype = .int → s.toList.all exprAlphabet = false →
      isPlainWord s.toList = true → checkSetValue var (.str s) = .error .situation) ∧
    -- text over the arithmetic alphabet that is not an expression (`1 +`, `2018-01-01`, ``)
    (∀ s : String, var.vtype = .float ∨ var.vtype = .int → s.toList.all exprAlphabet = true →
      hasPower s.toList = false → s.toList.head? ≠ some ' ' →
      (lexExpr (s.toList.length + 1) s.toList = none ∨
        ∃ toks, lexExpr (s.toList.length + 1) s.toList = some toks ∧ parseUnary toks = none) →
      checkSetValue var (.str s) = .error .situation) ∧
    -- an impossible calendar date in ISO form
    (∀ (s : String) (y m d : Nat), var.vtype = .date → lexIso s.toList = some (.ymd y m d) → y ≠ 0 →
      dateOk ⟨y, m, d⟩ = false → checkSetValue var (.str s) = .error .situation) := by
  have hnum : ∀ s : String, var.vtype = .float ∨ var.vtype = .int → numOfText s = .error .situation →
      checkSetValue var (.str s) = .error .situation := by
    intro s hv hs
    unfold checkSetValue
    rcases hv with h | h <;> rw [h] <;> simp only [hs] <;> rfl
  refine ⟨?_, ?_, ?_, ?_, ?_, ?_⟩
  · intro names s hv hs
    unfold checkSetValue; rw [hv]; exact if_neg hs
  · intro xs hl hv
    have hlist : listAsScalar xs = .error .situation := by
      unfold listAsScalar; rw [if_neg (by omega)]
    unfold checkSetValue
    cases hvt : var.vtype with
    | str => exact absurd hvt hv
    | float => exact hlist
    | int => exact hlist
    | enum n => exact hlist
    | bool => exact if_pos hl
    | date => rfl
  · intro kvs hv
    unfold checkSetValue
    rcases hv with h | h | h | ⟨n, h⟩ <;> rw [h]
  · intro s hv ha hw
    refine hnum s hv ?_
    unfold numOfText
    simp only [ha, hw, Bool.false_eq_true, if_false, if_true]
  · intro s hv ha hp hh hl
    refine hnum s hv ?_
    unfold numOfText
    simp only [ha, if_true, hp, Bool.false_eq_true, if_false, hh]
    rcases hl with hn | ⟨toks, hs, hu⟩
    · rw [hn]
    · rw [hs]; simp only [hu]
  · intro s y m d hv hl hy hd
    unfold checkSetValue
    rw [hv]
    simp only [dateOfText, hl, hy, hd, if_false, Bool.false_eq_true]
    rfl

open Bld in
/-- more refusals of `checkSetValue` (repair C12n): for an integer variable an integer or a float
outside the `int32` range is a situation error, and inside it the integer is placed exactly (a
float is truncated); for an enum an integer or a float outside the `int16` range of the index is a
situation error; a date variable refuses an integer that does not fit a C `long`; a
`datetime.date` is refused for a number or an enum and accepted for a date. -/
theorem C12_refuses_value_range (var : Var) :
    (∀ i : Int, var.vtype = .int →
      checkSetValue var (.int i) = if -2147483648 ≤ i ∧ i ≤ 2147483647 then .ok (.int i) else .error .situation) ∧
    (∀ r : Rat, var.vtype = .int →
      checkSetValue var (.num r) =
        if (-2147483648 : Rat) ≤ r ∧ r ≤ 2147483647 then .ok (.int (truncR r)) else .error .situation) ∧
    (∀ (n : List String) (i : Int), var.vtype = .enum n → ¬ (-32768 ≤ i ∧ i ≤ 32767) →
      checkSetValue var (.int i) = .error .situation) ∧
    (∀ (n : List String) (r : Rat), var.vtype = .enum n → ¬ ((-32768 : Rat) ≤ r ∧ r ≤ 32767) →
      checkSetValue var (.num r) = .error .situation) ∧
    (∀ i : Int, var.vtype = .date → inInt64 i = false → checkSetValue var (.int i) = .error .situation) ∧
    (∀ o : Int, var.vtype = .float ∨ var.vtype = .int ∨ (∃ n, var.vtype = .enum n) →
      checkSetValue var (.date o) = .error .situation) ∧
    (∀ o : Int, var.vtype = .date → checkSetValue var (.date o) = .ok (.date o)) := by
  have hcast : ∀ (lo hi i : Int), ratIn lo hi (i : Rat) = decide (lo ≤ i ∧ i ≤ hi) := by
    intro lo hi i
    unfold ratIn
    simp only [Rat.intCast_le_intCast]
  refine ⟨?_, ?_, ?_, ?_, ?_, ?_, ?_⟩
  · intro i hv
    unfold checkSetValue
    rw [hv]
    simp only [ratInInt32, hcast, decide_eq_true_eq]
  · intro r hv
    unfold checkSetValue
    rw [hv]
    simp only [ratInInt32, ratIn]
    by_cases h : (-2147483648 : Rat) ≤ r ∧ r ≤ 2147483647
    · simp [h]
    · simp [h]
  · intro n i hv hi
    unfold checkSetValue
    rw [hv]
    simp only [ratInInt16, hcast]
    simp [hi]
  · intro n r hv hr
    unfold checkSetValue
    rw [hv]
    simp only [ratInInt16, ratIn]
    simp [hr]
  · intro i hv hi
    unfold checkSetValue
    rw [hv]; simp [hi]
  · intro o hv
    unfold checkSetValue
    rcases hv with h | h | ⟨n, h⟩ <;> rw [h]
  · intro o hv
    unfold checkSetValue
    rw [hv]

open Bld in
/-- **period mismatch** (the instance of `set_input` run by the driver): a variable without
`set_input` attribute that is not eternal refuses — with the situation error the builder makes of
`PeriodMismatchError` — a period of another unit or of more than one unit, and `ETERNITY`;
consequently the flush of that variable does not produce a simulation. -/
theorem C12_refuses_period_mismatch (var : Var) (hr : var.rule = .absent) (hne : var.defUnit ≠ .eternity)
    (count : Nat) (p : Period) (hp : p.unit ≠ var.defUnit ∨ 1 < p.size) :
    (∀ (store : Store) (arr : Vec), arr.length = count →
      stdSetInput store var count p arr = .error .situation) ∧
    (endGuard var p = .ok true → ∀ (buf : Buffer) (ps : List Period) (store : Store), p ∈ ps →
      ∀ s', foldE (callStep stdSetInput buf var count) store ps ≠ .ok s') := by
  -- the length test of `_to_array` comes first (an ordinary exception), then the period test
  have hstd : ∀ (store : Store) (arr : Vec), ∃ e, stdSetInput store var count p arr = .error e ∧
      (arr.length = count → e = .situation) := by
    intro store arr
    unfold stdSetInput
    by_cases he : p.unit = .eternity ∧ var.defUnit ≠ .eternity
    · exact ⟨.situation, by rw [if_pos he], fun _ => rfl⟩
    · rw [if_neg he, hr]
      simp only
      unfold holderSet
      by_cases hl : arr.length ≠ count
      · exact ⟨.other, by rw [if_pos hl], fun h => absurd h hl⟩
      · have : var.defUnit ≠ .eternity ∧ (var.defUnit ≠ p.unit ∨ p.size > 1) :=
          ⟨hne, hp.imp (fun h e => h e.symm) id⟩
        exact ⟨.situation, by rw [if_neg hl, if_pos this], fun _ => rfl⟩
  refine ⟨fun store arr hl => ?_, ?_⟩
  · obtain ⟨e, h, he⟩ := hstd store arr
    rw [h, he hl]
  · intro hguard buf ps store hmem s'
    refine foldE_not_ok_of_mem ?_ hmem store s'
    intro s s'' hc
    obtain ⟨values, _, _, ⟨hg, _⟩ | ⟨_, hc⟩⟩ := callStep_ok hc
    · rw [hguard] at hg; cases hg
    · obtain ⟨e, h, _⟩ := hstd s (tile (count / values.length) values)
      rw [h] at hc; cases hc

open Bld in
/-- **C12_end_inclusive.**  A variable's `end` date is inclusive for the inputs of a situation: a
buffered value whose period starts on or before the end date — in particular EXACTLY on it — is
handed to `set_input` like any other (`callStep`; the variables-only form reads the same
`endGuard` in `setInputDoc`); one whose period starts after it is ignored and leaves the store as
it is. -/
theorem C12_end_inclusive (si : SetInput) (var : Var) (e : Date) (hstop : var.stop = some e)
    (q : Period) (hq : q.unit ≠ .eternity) :
    (q.start.le e → endGuard var q = .ok true) ∧ (q.start = e → endGuard var q = .ok true) ∧
    (¬ q.start.le e → endGuard var q = .ok false) ∧
    (∀ (buf : Buffer) (count : Nat) (store : Store) (values : Vec),
      alGet buf (var.name, q.text) = some values → values.length ≠ 0 →
      callStep si buf var count store q =
        if q.start.le e then si store var count q (tile (count / values.length) values) else .ok store) := by
  have hg : endGuard var q = .ok (decide (q.start.le e)) := by
    unfold endGuard; rw [hstop]; simp only [if_neg hq]
  refine ⟨?_, ?_, ?_, ?_⟩
  · intro h; rw [hg, decide_eq_true h]
  · intro h
    have : q.start.le e := Or.inl h
    rw [hg, decide_eq_true this]
  · intro h; rw [hg, decide_eq_false h]
  · intro buf count store values hv hz
    unfold callStep
    rw [hv]
    simp only [if_neg hz, hg]
    by_cases h : q.start.le e
    · rw [decide_eq_true h, if_pos h]
    · rw [decide_eq_false h, if_neg h]

open Bld in
/-- **C12_refuses.**  The two halves together, for the inputs of the persons: a document whose
persons object holds an instance with an unknown variable, a variable of another entity, a period
key that does not parse or a value `checkSetValue` refuses is not built, and the error is not an
ordinary exception (situation error; `unmodelled` only when the document leaves the value forms of
the model).  The other classes: `C12_refuses_unknown_entity` (exactly `situation`),
`C12_refuses_membership` with `C12_refuses_class`, `C12_refuses_value`, `C12_refuses_period_mismatch`. -/
theorem C12_refuses (sys : Sys) (hsys : sys.RolesOK) (dp : Option String) (params : List (DKey × Doc))
    (hasAxes : Bool) (kvs : List (DKey × Doc)) (hpersons : lookupS sys.personPlural params = some (.obj kvs))
    (idk : DKey) (vars : List (DKey × Doc)) (hi : (idk, Doc.obj vars) ∈ kvs)
    (vk : DKey) (vd : Doc) (hv : (vk, vd) ∈ vars)
    (hbad : sys.var? vk.text = none ∨ (∃ var, sys.var? vk.text = some var ∧ var.entity ≠ sys.personKey) ∨
      (∃ var pvs k x, sys.var? vk.text = some var ∧ variablePairs dp vd = some pvs ∧ (k, x) ∈ pvs ∧
        ((∃ err, parseKey k = .error err) ∨ (x.isNull = false ∧ ∃ e, checkSetValue var x = .error e))) ∨
      (∃ var, sys.var? vk.text = some var ∧ variablePairs dp vd = none)) :
    ∃ e, buildEntities sys dp params hasAxes = .error e ∧ e ≠ .other := by
  cases hb : buildEntities sys dp params hasAxes with
  | error e => exact ⟨e, rfl, C12_refuses_class sys hsys dp params hasAxes e hb⟩
  | ok st =>
    obtain ⟨_, pj, pids, pws, hpj, _, hp, _⟩ := (buildEntities_spec hsys).of_ok hb
    rw [hpersons] at hpj; cases hpj
    exact absurd hp (C12_refuses_person_input sys dp kvs idk vars hi vk vd hv hbad (pids, pws))

open Bld in
/-- **C12_canon_key.**  The buffer key is canonical: whatever the spelling `k` of a period `p`
(well-formed, aligned to its own unit, four-digit years — what every spelling of the quantifier
denotes), the key under which its value is buffered is `p`'s own text, that text read again as a key
lands on the same key (canonicalisation is idempotent), and any two spellings of one period land on
one key. -/
theorem C12_canon_key (k : DKey) (p : Period) (hk : parseKey k = .ok p)
    (hwf : p.WF) (hal : OwnAligned p) (hdom : InTextDomain p) :
    canonKey k = .ok p.text ∧
    canonKey (.s (String.ofList p.text)) = .ok p.text ∧
    (∀ k', parseKey k' = .ok p → canonKey k' = canonKey k) := by
  have h1 := canonKey_of_parseKey hk
  refine ⟨h1, ?_, fun k' hk' => (canonKey_of_parseKey hk').trans h1.symm⟩
  obtain ⟨p', hp', _, _, ht, _⟩ := C05_parse_print p hwf hal hdom
  have hp : parseKey (.s (String.ofList p.text)) = .ok p' := by
    show parsePeriod (String.ofList p.text).toList = .ok p'
    rw [String.toList_ofList]; exact hp'
  exact (canonKey_of_parseKey hp).trans (congrArg _ ht)

open Bld in
/-- **C12_default_simulation.**  `build_default_simulation(system, count)` and the variables-only
form: `count` persons `0 … count-1`; of every group kind `count` groups bearing the same ids, person
`i` alone in group `i` with the first role of the kind; `build_default_simulation` stores no input;
the variables-only form has the entities of the default simulation for `_person_count` persons. -/
theorem C12_default_simulation (sys : Sys) (count : Nat) :
    (buildDefault sys count).store = [] ∧
    (∃ pe rest, (buildDefault sys count).ents = pe :: rest ∧ pe.key = sys.personKey ∧ pe.isPerson = true ∧
      pe.count = count ∧ (∀ i, i < count → pe.ids[i]? = some (toString i)) ∧
      rest.length = sys.groups.length ∧
      ∀ (j : Nat) (g : GroupKind), sys.groups[j]? = some g → ∃ e, rest[j]? = some e ∧ e.key = g.key ∧
        e.count = count ∧ e.ids = pe.ids ∧
        ∀ i, i < count → e.memb[i]? = some i ∧ e.roles[i]? = some (g.flatRoles.headD "")) ∧
    (∀ (dp : Option String) (si : SetInput) (kvs : List (DKey × Doc)) (sim : Sim),
      buildFromVariables sys dp si kvs = .ok sim →
      ∃ n, personCount kvs = .ok n ∧ sim.ents = (buildDefault sys n).ents) := by
  refine ⟨rfl, ?_, ?_⟩
  · refine ⟨_, _, rfl, rfl, rfl, by simp [Ent.count], ?_, by simp, ?_⟩
    · intro i hi; simp [hi]
    · intro j g hg
      refine ⟨⟨g.key, g.plural, false, (List.range count).map (fun (k : Nat) => toString k), List.range count,
        List.replicate count (g.flatRoles.headD "")⟩, by simp only [List.getElem?_map, hg, Option.map_some],
        rfl, by simp [Ent.count], rfl, ?_⟩
      intro i hi
      simp [hi]
  · intro dp si kvs sim h
    unfold buildFromVariables at h
    split at h
    · cases h
    next n hn =>
      split at h
      · cases h
      · split at h
        · cases h
        · cases h; exact ⟨n, hn, rfl⟩

open Bld in
/-- **C12_join.**  `declare_entity` + `join_with_persons` (repair F-C11b): when the declarations are
accepted, the group ids are the declared ones, every person is recorded in THE declared group that
bears the id given for that person — whatever the order of the declared ids, and whether or not some
declared group stays without member — with the role given for that person: the key itself, or the
flattened role at the given index. -/
theorem C12_join (sys : Sys) (npersons : Nat) (j : Joined) (e : Ent) (h : joinOne sys npersons j = .ok e) :
    e.ids = j.ids ∧ e.memb.length = npersons ∧ e.roles.length = npersons ∧
    (∀ (i : Nat) (a : String), j.assign[i]? = some a →
      ∃ m, e.memb[i]? = some m ∧ j.ids[m]? = some a ∧ ∀ m', j.ids[m']? = some a → m' = m) ∧
    (∃ g, sys.groups.find? (fun g => g.key == j.kind) = some g ∧ e.key = g.key ∧
      ∀ (i : Nat) (r : RoleRef), j.roles[i]? = some r →
        (∀ k, r = .key k → e.roles[i]? = some k ∧ k ∈ g.flatRoles) ∧
        (∀ t, r = .idx t → e.roles[i]? = g.flatRoles[t]? ∧ t < g.flatRoles.length)) := by
  obtain ⟨g, memb, roles, hg, hla, hlr, hm, hr, rfl⟩ := joinOne_ok h
  obtain ⟨hnd, hml, hmemb⟩ := joinMemb_ok hm
  obtain ⟨hrl, hroles⟩ := joinRoles_ok hr
  refine ⟨rfl, hml.trans hla, hrl.trans hlr, ?_, g, hg, rfl, hroles⟩
  intro i a ha
  obtain ⟨hmem, hget⟩ := hmemb i a ha
  refine ⟨_, hget, getElem?_idxOf hmem, fun m' hm' => ?_⟩
  -- the declared ids are pairwise distinct: only one position bears `a`
  exact (List.getElem?_inj (List.getElem?_eq_some_iff.mp hm').1 hnd).mp (hm'.trans (getElem?_idxOf hmem).symm)

open Bld in
/-- **C12_refuses_axis** (repair C12-errclass-axes).  A fully specified document whose entities are
accepted and whose `axes` have the documented shape, but one of whose axes — any axis of any
dimension — names a variable the system does not have, gives no period when the builder has no
default period, or spells a period that does not parse, is refused with a SITUATION error (before
anything is expanded), never with an ordinary exception. -/
theorem C12_refuses_axis (sys : Sys) (dp : Option String) (si : SetInput) (kvs : List (DKey × Doc))
    (st : BState) (ad : Doc) (dims : List (List Axis))
    (haxes : getEntityDoc "axes" kvs = some ad)
    (hb : buildEntities sys dp (kvs.filter (fun kv => !isAxesKey kv.1)) true = .ok st)
    (hp : parseAxes ad = .ok dims)
    (a : Axis) (ha : a ∈ dims.flatten)
    (hbad : sys.var? a.name = none ∨ axisKey dp a = none ∨ ∃ k err, axisKey dp a = some k ∧ parseKey k = .error err) :
    buildFromEntities sys dp si kvs = .error .situation := by
  have hcheck : ∀ u, checkAxis sys dp a ≠ .ok u := by
    intro u h
    obtain ⟨var, k, ck, hv, hk, hc⟩ := checkAxis_ok h
    rcases hbad with hn | hn | ⟨k', err, hk', hpk⟩
    · rw [hn] at hv; cases hv
    · rw [hn] at hk; cases hk
    · rw [hk'] at hk; cases hk
      unfold canonKey at hc; rw [hpk] at hc; cases hc
  unfold buildFromEntities
  simp only [haxes, Option.isSome_some, hb, hp]
  cases hf : foldE (fun (_ : Unit) a => checkAxis sys dp a) () dims.flatten with
  | ok u => exact absurd hf (foldE_not_ok_of_mem (fun _ s' => hcheck s') ha () u)
  | error e =>
    rw [foldE_error (· = .situation) (fun _ _ _ _ h => checkAxis_error h) hf]

end OFCore
namespace OFCore.Bld

def exHousehold : GroupKind := ⟨"household", "households",
  [⟨"parent", some "parents", some 2, ["first_parent", "second_parent"]⟩, ⟨"child", some "children", none, []⟩]⟩
def exSalary : Var := ⟨"salary", "person", .float, .month, .num 0, .absent, none⟩
def exStatus : Var := ⟨"status", "person", .enum ["single", "couple"], .month, .enum 0, .absent, none⟩
def exSys : Sys := ⟨"person", "persons", [exHousehold],
  [exSalary, ⟨"rent", "household", .float, .month, .num 0, .absent, none⟩, exStatus,
   ⟨"birth", "person", .date, .eternity, .date 719163, .absent, none⟩]⟩
def exPersons : List (DKey × Doc) :=
  [(.s "a", .obj [(.s "salary", .obj [(.s "month:2018-01", .int 100)])]),
   (.s "b", .obj [(.s "salary", .obj [(.s "2018-01", .num (5/2))])]), (.s "c", .obj [])]
def exPersons' : List (DKey × Doc) :=
  [(.s "a", .obj [(.s "salary", .obj [(.s "2018-01", .int 100)])]),
   (.s "b", .obj [(.s "salary", .obj [(.s "month:2018-01:1", .num (5/2))])]), (.s "c", .obj [])]
def exHouseholds : List (DKey × Doc) :=
  [(.s "h", .obj [(.s "parents", .arr [.str "b", .str "a"]), (.s "rent", .obj [(.s "2018-01", .int 5)])])]
def exJan : Period := ⟨.month, ⟨2018, 1, 1⟩, 1⟩
def exWs : List Write :=
  [⟨"salary", "2018-01".toList, 0, .num 100, 3, .num 0⟩, ⟨"salary", "2018-01".toList, 1, .num (5/2), 3, .num 0⟩]

/-- three spellings of January 2018 -/
theorem exJan_spelt : parseKey (.s "month:2018-01") = .ok exJan := by decide +kernel
theorem exJan_plain : parseKey (.s "2018-01") = .ok exJan := by decide +kernel
theorem exJan_sized : parseKey (.s "month:2018-01:1") = .ok exJan := by decide +kernel
theorem exPersons_ok : addPersonEntity exSys none (.obj exPersons) = .ok (["a", "b", "c"], exWs) := by
  decide +kernel

-- C12_value_placed, C12_entities: three persons, two values under two spellings of January 2018
example : addPersonEntity exSys none (.obj exPersons) = .ok (["a", "b", "c"], exWs) := exPersons_ok
example : parseKey (.s "month:2018-01") = .ok exJan ∧ exJan.text = "2018-01".toList := ⟨exJan_spelt, by decide +kernel⟩
example : alGet (applyWrites [] exWs) ("salary", exJan.text) = some [.num 100, .num (5/2), .num 0] := by
  decide +kernel
example : ∃ val arr, checkSetValue exSalary (.int 100) = .ok val ∧
    alGet (applyWrites [] (resolveKeys exSys exWs)) (exSalary.name, exJan.text) = some arr ∧
    arr.length = exPersons.length ∧ arr[(["a", "b", "c"] : List String).idxOf "a"]? = some val :=
  (C12_value_placed exSys none exPersons ["a", "b", "c"] exWs exPersons_ok [] _ (.s "a") _ rfl
    (by decide) [] [] (.s "salary") _ rfl (by simp) exSalary (by decide +kernel) (by decide) _ [] [] rfl
    (.s "month:2018-01") (.int 100) rfl rfl exJan exJan_spelt (by simp)).2
-- C12_eternal_one_entry (repair C12j): a's birth under a dated key, b's under ETERNITY: one entry, both kept
example : isEternal exSys "birth" = true ∧
    applyWrites [] (resolveKeys exSys [⟨"birth", "2018-01".toList, 0, .date 722848, 2, .date 719163⟩,
      ⟨"birth", "ETERNITY".toList, 1, .date 726501, 2, .date 719163⟩]) =
    [(("birth", "2018-01".toList), [.date 722848, .date 726501])] := by decide +kernel
example : (buildFromDict exSys none stdSetInput (.obj [(.s "persons", .obj [
      (.s "a", .obj [(.s "birth", .obj [(.s "2018-01", .str "1980-02-03")])]),
      (.s "b", .obj [(.s "birth", .obj [(.s "ETERNITY", .str "1990-02-03")])])])])
    ).toOption.map (fun s => s.store.map (fun e => (e.1.1, e.1.2.text, e.2))) =
    some [("birth", "ETERNITY".toList, [.date 722848, .date 726501])] := by decide +kernel
-- C12_value_default: c declares nothing: the default at c's index
example : (alGet (applyWrites [] (resolveKeys exSys exWs)) ("salary", exJan.text)).map (fun a => a[(["a", "b", "c"] : List String).idxOf "c"]?)
    = some (some exSalary.default) := by decide +kernel
theorem exHouseholds_ok : addGroupEntity exSys none exHousehold ["a", "b", "c"] (.obj exHouseholds) [] =
    .ok (⟨"household", "households", false, ["h", "c"], [0, 0, 1], ["second_parent", "first_parent", "first_parent"]⟩,
      [(("rent", "2018-01".toList), [.num 5, .num 0])]) := by decide +kernel
-- C12_value_placed_group: the rent of h at index 0, the default in the group appended for c (repair C12f)
example : (addGroupEntity exSys none exHousehold ["a", "b", "c"] (.obj exHouseholds) []).toOption.map
    (fun r => alGet r.2 ("rent", exJan.text)) = some (some [.num 5, .num 0]) := by
  rw [exHouseholds_ok]; decide +kernel
-- C12_membership_roles, C12_own_group: b and a are the two parents of h (sub-roles by index), c is left out
example : (addGroupEntity exSys none exHousehold ["a", "b", "c"] (.obj exHouseholds) []).toOption.map
    (fun r => (r.1.ids, r.1.memb, r.1.roles)) =
    some (["h", "c"], [0, 0, 1], ["second_parent", "first_parent", "first_parent"]) := by
  rw [exHouseholds_ok]; rfl
example : leftOut exHousehold ["a", "b", "c"] exHouseholds = ["c"] := by decide +kernel
-- repair C12i: a declared group named after a person left out does not receive that person
example : (addGroupEntity exSys none exHousehold ["a", "b"] (.obj [(.s "a", .obj [(.s "parents", .arr [.str "b"])])]) []
    ).toOption.map (fun r => (r.1.ids, r.1.memb)) = some (["a", "a"], [1, 0]) := by decide +kernel
-- C12_longer_fills_gaps: month, three months, year are flushed in that order
example : (sortedPeriods [(("dv", "2018".toList), [.num 120]), (("dv", "month:2018-01:3".toList), [.num 30]),
    (("dv", "2018-01".toList), [.num 5])] "dv").toOption.map (fun ps => ps.map Period.text) =
    some ["2018-01".toList, "month:2018-01:3".toList, "2018".toList] := by decide +kernel
-- repair C12l: the year is flushed before the 24 months that contain it
example : (sortedPeriods [(("dv", "month:2018-01:24".toList), [.num 2400]), (("dv", "2018".toList), [.num 600])] "dv"
    ).toOption.map (fun ps => ps.map Period.text) = some ["2018".toList, "month:2018-01:24".toList] := by decide +kernel
-- repair C12gh: the short form keeps `axes` and unknown keys (which `build_from_entities` then refuses)
example : (explicitSingular exSys [(.s "household", .obj []), (.s "axes", .arr []), (.s "companies", .obj [])]).map (·.1)
    = [.s "households", .s "axes", .s "companies"] := by decide +kernel
-- repair C12k: both parallel axes of the perpendicular dimension are kept
example : (parseAxes (.arr [.arr [.obj [(.s "name", .str "salary"), (.s "count", .int 2), (.s "min", .int 0), (.s "max", .int 1)]],
    .arr [.obj [(.s "name", .str "rent"), (.s "count", .int 2), (.s "min", .int 0), (.s "max", .int 1)],
          .obj [(.s "name", .str "salary"), (.s "count", .int 2), (.s "min", .int 5), (.s "max", .int 6)]]])
    ).toOption.map (fun dims => dims.map List.length) = some [1, 2] := by decide +kernel
-- C12_end_inclusive: a month variable ending on 2018-02-01 takes the input of 2018-02, ignores 2018-03
example : let v : Var := ⟨"bonus", "person", .float, .month, .num 0, .absent, some ⟨2018, 2, 1⟩⟩
    (callStep plainSetInput [(("bonus", "2018-02".toList), [.num 7])] v 1 [] ⟨.month, ⟨2018, 2, 1⟩, 1⟩).toOption
      = some [(("bonus", ⟨.month, ⟨2018, 2, 1⟩, 1⟩), [.num 7])] ∧
    (callStep plainSetInput [(("bonus", "2018-03".toList), [.num 7])] v 1 [] ⟨.month, ⟨2018, 3, 1⟩, 1⟩).toOption
      = some [] := by decide +kernel
-- C12_spelling_invariant: the two spellings of the same document are related, and both are built
theorem exPersons_rel : EntEq (.obj exPersons) (.obj exPersons') := by
  refine Or.inr ⟨_, _, rfl, rfl, ?_⟩
  refine .cons ⟨rfl, Or.inr ⟨_, _, rfl, rfl, ?_⟩⟩ (.cons ⟨rfl, Or.inr ⟨_, _, rfl, rfl, ?_⟩⟩ (.cons ⟨rfl, Or.inl rfl⟩ .nil))
  · exact .cons ⟨rfl, Or.inr ⟨_, _, rfl, rfl, .cons ⟨exJan_spelt.trans exJan_plain.symm, rfl⟩ .nil⟩⟩ .nil
  · exact .cons ⟨rfl, Or.inr ⟨_, _, rfl, rfl, .cons ⟨exJan_plain.trans exJan_sized.symm, rfl⟩ .nil⟩⟩ .nil
example : All₂ TopEq [(.s "persons", .obj exPersons)] [(.s "persons", .obj exPersons')] :=
  .cons ⟨rfl, exPersons_rel⟩ .nil
example : (buildFromDict exSys none stdSetInput (.obj [(.s "persons", .obj exPersons), (.s "households", .obj exHouseholds)])
    ).toOption.map (fun s => s.store.map (fun e => (e.1.1, e.1.2.text, e.2))) =
    some [("salary", "2018-01".toList, [.num 100, .num (5/2), .num 0]), ("rent", "2018-01".toList, [.num 5, .num 0])] := by
  decide +kernel
-- C12_spelling_invariant_dict: a short-form document and a variables-only document under two spellings
example : All₂ (DictEq exSys [(.s "persons", .obj exPersons), (.s "household", .obj [(.s "parents", .arr [.str "a", .str "b"]),
      (.s "rent", .obj [(.s "month:2018-01", .int 5)])])])
    [(.s "persons", .obj exPersons), (.s "household", .obj [(.s "parents", .arr [.str "a", .str "b"]),
      (.s "rent", .obj [(.s "month:2018-01", .int 5)])])]
    [(.s "persons", .obj exPersons'), (.s "household", .obj [(.s "parents", .arr [.str "a", .str "b"]),
      (.s "rent", .obj [(.s "2018-01", .int 5)])])] := by
  refine .cons ⟨rfl, ?_⟩ (.cons ⟨rfl, ?_⟩ .nil)
  · rw [if_pos (by decide +kernel), if_neg (by decide +kernel)]
    exact exPersons_rel
  · rw [if_pos (by decide +kernel), if_pos (by decide +kernel)]
    refine Or.inr ⟨_, _, rfl, rfl, ?_⟩
    exact .cons ⟨rfl, Or.inl rfl⟩
      (.cons ⟨rfl, Or.inr ⟨_, _, rfl, rfl, .cons ⟨exJan_spelt.trans exJan_plain.symm, rfl⟩ .nil⟩⟩ .nil)
example : (buildFromDict exSys none stdSetInput (.obj [(.s "persons", .obj exPersons), (.s "household", .obj [(.s "parents", .arr [.str "a", .str "b"]),
      (.s "rent", .obj [(.s "month:2018-01", .int 5)])])])).toOption.map (fun s => s.ents.map (·.ids)) =
    some [["a", "b", "c"], ["household", "c"]] := by decide +kernel
example : All₂ (DictEq exSys [(.s "salary", .obj [(.s "month:2018-01", .arr [.int 1, .int 2])])])
    [(.s "salary", .obj [(.s "month:2018-01", .arr [.int 1, .int 2])])]
    [(.s "salary", .obj [(.s "2018-01", .arr [.int 1, .int 2])])] := by
  refine .cons ⟨rfl, ?_⟩ .nil
  rw [if_neg (by decide +kernel), if_neg (by decide +kernel), if_pos (by decide +kernel)]
  exact Or.inr ⟨_, _, rfl, rfl, .cons ⟨exJan_spelt.trans exJan_plain.symm, rfl⟩ .nil⟩
example : (buildFromDict exSys none stdSetInput (.obj [(.s "salary", .obj [(.s "month:2018-01", .arr [.int 1, .int 2])])])
    ).toOption.map (fun s => s.store.map (fun e => (e.1.1, e.1.2.text, e.2))) =
    some [("salary", "2018-01".toList, [.num 1, .num 2])] := by decide +kernel
-- C12_canon_key: January 2018 under the spelling "month:2018-01"
example : parseKey (.s "month:2018-01") = .ok exJan ∧ exJan.WF ∧ OwnAligned exJan ∧ InTextDomain exJan ∧
    canonKey (.s (String.ofList exJan.text)) = .ok "2018-01".toList := by
  refine ⟨exJan_spelt, by decide, rfl, ⟨by decide, by decide, by intro h; rcases h with h | h <;> cases h⟩, by decide +kernel⟩
-- C12_axes_parallel_concat: two parallel axes (salary of a, salary of b at another month) over 2 copies of 3 persons
def exAxes : List Axis := [⟨"salary", 2, 0, 10, 0, some (.s "2018-01")⟩, ⟨"salary", 2, 5, 7, 1, some (.s "month:2018-02")⟩]
example : (exAxes.map (axisCell none)).Nodup ∧
    (foldE (layAxis exSys none "person" 3 2 2 false [0, 1]) [(("salary", "2018-01".toList), [.num 100, .num (5/2), .num 0])] exAxes
      ).toOption = some [(("salary", "2018-01".toList), [.num 0, .num (5/2), .num 0, .num 10, .num (5/2), .num 0]),
        (("salary", "2018-02".toList), [.num 0, .num 5, .num 0, .num 0, .num 7, .num 0])] := by decide +kernel
-- C12_default_simulation, C12_join
example : (buildDefault exSys 2).ents = [⟨"person", "persons", true, ["0", "1"], [], []⟩,
    ⟨"household", "households", false, ["0", "1"], [0, 1], ["first_parent", "first_parent"]⟩] := by decide +kernel
example : joinOne exSys 3 ⟨"household", ["h9", "h10", "a"], ["a", "h9", "a"], [.idx 2, .idx 1, .idx 0]⟩ =
    .ok ⟨"household", "households", false, ["h9", "h10", "a"], [2, 0, 2], ["child", "second_parent", "first_parent"]⟩ := by
  decide +kernel
-- C12_axes_concat: two copies, the axis value on the first person of each copy
example : strideSet (tile 2 [.num 9, .num 0]) 0 2 [.num 1, .num 3] = .ok [.num 1, .num 0, .num 3, .num 0] := by
  decide +kernel
example : (expandEnt 2 ⟨"household", "households", false, ["h", "c"], [0, 0, 1], ["p", "p", "q"]⟩).memb
    = [0, 0, 1, 2, 2, 3] := by decide +kernel
-- C12_refuses: unknown entity, unknown variable, unknown enum name, impossible date, text for a number,
-- unparsable period, duplicate membership, too many parents
example : buildEntities exSys none [(.s "persons", .obj exPersons), (.s "companies", .obj [])] false = .error .situation :=
  (C12_refuses_unknown_entity exSys none _ false).1 (by decide +kernel)
-- repair C12-errclass-axes: an axis over an unknown variable, or without any period, is a situation error
example : (match buildFromDict exSys none stdSetInput (.obj [(.s "persons", .obj exPersons), (.s "households", .obj exHouseholds),
      (.s "axes", .arr [.arr [.obj [(.s "name", .str "zz"), (.s "count", .int 2), (.s "min", .int 0), (.s "max", .int 1),
        (.s "period", .str "2018-01")]]])]) with | .error e => some e | .ok _ => none) = some .situation ∧
    (match buildFromDict exSys none stdSetInput (.obj [(.s "persons", .obj exPersons), (.s "households", .obj exHouseholds),
      (.s "axes", .arr [.arr [.obj [(.s "name", .str "salary"), (.s "count", .int 2), (.s "min", .int 0), (.s "max", .int 1)]]])])
      with | .error e => some e | .ok _ => none) = some .situation := by
  constructor <;> decide +kernel
example : exSys.RolesOK := by intro g hg; simp [exSys] at hg; subst hg; decide
example : exSys.var? "zzz" = none := by decide +kernel
example : checkSetValue exStatus (.str "widowed") = .error .situation := by decide +kernel
example : checkSetValue ⟨"birth", "person", .date, .eternity, .date 719163, .absent, none⟩ (.str "2018-02-30") = .error .situation := by
  decide +kernel
example : checkSetValue exSalary (.str "abc") = .error .situation ∧ checkSetValue exSalary (.str "1 +") = .error .situation ∧
    checkSetValue exSalary (.str "2018-01-01") = .error .situation ∧ checkSetValue exSalary (.str "2*3+1.5") = .ok (.num (15/2)) := by
  decide +kernel
example : checkSetValue ⟨"age", "person", .int, .month, .int 0, .absent, none⟩ (.int 9223372036854775808) = .error .situation ∧
    checkSetValue ⟨"age", "person", .int, .month, .int 0, .absent, none⟩ (.int 2147483648) = .error .situation ∧
    checkSetValue ⟨"age", "person", .int, .month, .int 0, .absent, none⟩ (.int (-2147483648)) = .ok (.int (-2147483648)) ∧
    checkSetValue ⟨"age", "person", .int, .month, .int 0, .absent, none⟩ (.num (2147483647 + 1/2)) = .error .situation ∧
    checkSetValue exStatus (.int 32768) = .error .situation ∧ checkSetValue exStatus (.int 1) = .ok (.enum 1) ∧
    checkSetValue exSalary (.date 722848) = .error .situation := by decide +kernel
example : (parseKey (.s "2018-13")).toOption = none ∧ (parseKey (.s "month:2018")).toOption = none ∧
    (parseKey (.s "abc")).toOption = none := by decide +kernel
example : ¬ (listedPersons exHousehold [(.s "h", .obj [(.s "parents", .arr [.str "a"]), (.s "children", .arr [.str "a"])])]).Nodup := by
  decide +kernel
example : (roleDocs exHousehold [(.s "parents", .arr [.str "a", .str "b", .str "c"])]).all maxOk = false := by decide +kernel
example : stdSetInput [] exSalary 1 ⟨.year, ⟨2018, 1, 1⟩, 1⟩ [.num 3] = .error .situation := by decide +kernel

end OFCore.Bld
