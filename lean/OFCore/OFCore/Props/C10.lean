import OFCore.Lemmas.GroupRank
/-!
# C10 — group aggregations and projections equal their per-group definitions

Theorems about the model `OFCore/Group.lean`, for every population size, every membership map
(any storage order, groups without member anywhere — the last ones included), every role
assignment and every value array; no bound on sizes.

Vocabulary: `valuesOf p role g a` is the list of the values of `a` carried by exactly the
members of group `g` (holding `role`, if given), in storage order — a `filter` on the membership
list zipped with the array.  Well-formedness: `a.length = p.ms.length` (one value per person),
`∀ m ∈ p.ms, m.group < p.n` (every person belongs to a group of the simulation) and, for the
operations that go through `members_position`, `p.ms ≠ []` (`numpy.max` of an empty array raises).
-/
namespace OFCore
open OFCore.Grp

/-! Concrete population used by the non-vacuity examples: five persons stored interleaved in
groups 0 and 2 of a simulation with four groups (groups 1 and 3 — the last — have no member);
roles: parent = {first_parent 0, second_parent 1} (max 2), child 2, ref 3 (max 1). -/
def exPop : Pop := ⟨4, [⟨0, 0⟩, ⟨2, 2⟩, ⟨0, 3⟩, ⟨2, 2⟩, ⟨0, 1⟩]⟩
def exVals : List Int := [3, -1, 4, 1, -5]
def exBools : List Bool := [true, false, true, true, false]
def exParent : Role := ⟨1000000, [0, 1], some 2⟩
def exChild : Role := ⟨2, [], none⟩
def exRef : Role := ⟨3, [], some 1⟩

namespace TestVectors
/-- equality of results is decidable, so that test vectors can be checked by evaluation -/
scoped instance {ε α : Type} [DecidableEq ε] [DecidableEq α] : DecidableEq (Except ε α)
  | .ok a, .ok b => decidable_of_iff (a = b) ⟨congrArg _, Except.ok.inj⟩
  | .error a, .error b => decidable_of_iff (a = b) ⟨congrArg _, Except.error.inj⟩
  | .ok _, .error _ => isFalse nofun
  | .error _, .ok _ => isFalse nofun
end TestVectors

/-- the example population satisfies the well-formedness hypotheses of every theorem below -/
example : exVals.length = exPop.ms.length ∧ exBools.length = exPop.ms.length ∧
    (∀ m ∈ exPop.ms, m.group < exPop.n) ∧ exPop.ms ≠ [] := by decide

theorem C10_sum_def (p : Pop) (a : List Int) (role : Option Role) (hlen : a.length = p.ms.length)
    (hg : ∀ m ∈ p.ms, m.group < p.n) :
    ∃ r, groupSum p a role = .ok r ∧ r.length = p.n ∧
      ∀ g, g < p.n → r[g]? = some (valuesOf p role g a).sum :=
  ok_range_map (groupSum_eq p a role hlen hg)

example : groupSum exPop exVals none = .ok [2, 0, 0, 0] ∧
    groupSum exPop exVals (some exParent) = .ok [-2, 0, 0, 0] ∧
    valuesOf exPop (some exChild) 2 exVals = [-1, 1] := by open TestVectors in decide +kernel

theorem C10_count_def (p : Pop) (role : Option Role) (hg : ∀ m ∈ p.ms, m.group < p.n) :
    ∃ r, nbPersons p role = .ok r ∧ r.length = p.n ∧
      ∀ g, g < p.n →
        r[g]? = some ((p.ms.filter fun m => m.group == g && roleOk role m).length : Int) :=
  ok_range_map (nbPersons_eq p role hg)

example : nbPersons exPop none = .ok [3, 0, 2, 0] ∧ nbPersons exPop (some exParent) = .ok [2, 0, 0, 0] := by open TestVectors in decide +kernel

theorem C10_any_def (p : Pop) (b : List Bool) (role : Option Role) (hlen : b.length = p.ms.length)
    (hg : ∀ m ∈ p.ms, m.group < p.n) :
    ∃ r, groupAny p b role = .ok r ∧ r.length = p.n ∧
      ∀ g, g < p.n → r[g]? = some ((valuesOf p role g b).any id) :=
  ok_range_map (groupAny_eq p b role hlen hg)

example : groupAny exPop exBools none = .ok [true, false, true, false] := by open TestVectors in decide +kernel

theorem C10_all_def (p : Pop) (b : List Bool) (role : Option Role) (hlen : b.length = p.ms.length)
    (hne : p.ms ≠ []) (hg : ∀ m ∈ p.ms, m.group < p.n) :
    ∃ r, groupAll p b role = .ok r ∧ r.length = p.n ∧
      ∀ g, g < p.n → r[g]? = some ((valuesOf p role g b).all id) :=
  ok_range_map (groupAll_eq p b role hlen hne hg)

example : groupAll exPop exBools none = .ok [false, true, false, true] ∧
    groupAll exPop exBools (some exChild) = .ok [true, true, false, true] := by open TestVectors in decide +kernel

/-- `min` / `max`: least / greatest value of the members, `+inf` / `-inf` when the group has no
member holding the role -/
theorem C10_min_def (p : Pop) (a : List Int) (role : Option Role) (hlen : a.length = p.ms.length)
    (hne : p.ms ≠ []) (hg : ∀ m ∈ p.ms, m.group < p.n) :
    ∃ r, groupMin p a role = .ok r ∧ r.length = p.n ∧
      ∀ g, g < p.n →
        r[g]? = some (((valuesOf p role g a).map EInt.fin).foldl EInt.min .posInf) ∧
        (valuesOf p role g a = [] → r[g]? = some .posInf) ∧
        (valuesOf p role g a ≠ [] →
          ∃ m ∈ valuesOf p role g a, r[g]? = some (.fin m) ∧ ∀ x ∈ valuesOf p role g a, m ≤ x) :=
  pickFold_min.of_eq (groupMin_eq p a role hlen hne hg)

example : groupMin exPop exVals none = .ok [.fin (-5), .posInf, .fin (-1), .posInf] := by open TestVectors in decide +kernel

theorem C10_max_def (p : Pop) (a : List Int) (role : Option Role) (hlen : a.length = p.ms.length)
    (hne : p.ms ≠ []) (hg : ∀ m ∈ p.ms, m.group < p.n) :
    ∃ r, groupMax p a role = .ok r ∧ r.length = p.n ∧
      ∀ g, g < p.n →
        r[g]? = some (((valuesOf p role g a).map EInt.fin).foldl EInt.max .negInf) ∧
        (valuesOf p role g a = [] → r[g]? = some .negInf) ∧
        (valuesOf p role g a ≠ [] →
          ∃ m ∈ valuesOf p role g a, r[g]? = some (.fin m) ∧ ∀ x ∈ valuesOf p role g a, x ≤ m) :=
  pickFold_max.of_eq (groupMax_eq p a role hlen hne hg)

example : groupMax exPop exVals (some exChild) = .ok [.negInf, .negInf, .fin 1, .negInf] := by open TestVectors in decide +kernel

/-- value of the n-th member (storage order), of the first member -/
theorem C10_nth_def {α} (p : Pop) (k : Nat) (a : List α) (d : α) (hlen : a.length = p.ms.length)
    (hne : p.ms ≠ []) (hg : ∀ m ∈ p.ms, m.group < p.n) :
    (∃ r, valueNth p k a d = .ok r ∧ r.length = p.n ∧
      ∀ g, g < p.n → r[g]? = some ((valuesOf p none g a)[k]?.getD d)) ∧
    valueFromFirst p a d = valueNth p 0 a d :=
  ⟨ok_range_map (valueNth_eq p k a d hlen hne hg), rfl⟩

example : valueNth exPop 2 exVals (-7) = .ok [-5, -7, -7, -7] ∧
    valueFromFirst exPop exVals 0 = .ok [3, 0, -1, 0] := by open TestVectors in decide +kernel

/-- `members_position` explicitly assigned (any order inside each group, not the order of
appearance): the n-th member is the member whose assigned position is `n`; no result depends on
which permutation sorting the persons by group `ordered_members_map` is -/
theorem C10_nth_assigned_positions {α} (p : Pop) (pos mp : List Nat) (hv : ValidPositions p pos)
    (hmp : SortsByGroup p.ids mp) (k : Nat) (a : List α) (d : α) (hlen : a.length = p.ms.length)
    (hg : ∀ m ∈ p.ms, m.group < p.n) :
    (∃ r, valueNthCore p pos mp k a d = .ok r ∧ r.length = p.n ∧
      ∀ g, g < p.n → r[g]? = some
        ((((membersOf p g).find? fun i => pos.getD i 0 == k).map fun i => a.getD i d).getD d)) ∧
    valueNthAssigned p pos k a d = valueNthCore p pos mp k a d ∧
    -- the positions the counter loop computes are one instance
    (p.ms ≠ [] → ∃ pos₀, membersPosition p.ids = .ok pos₀ ∧ ValidPositions p pos₀ ∧
      valueNth p k a d = valueNthCore p pos₀ (orderedMap p.ids) k a d) :=
  ⟨ok_range_map (valueNthCore_assigned p pos mp hv hmp k a d hlen hg),
   valueNthCore_map_irrelevant p pos _ mp hv (orderedMap_sorts p.ids) hmp k a d,
   fun hne => ⟨_, membersPosition_eq _ (p.ids_ne_nil hne), computed_positions_valid p,
     valueNthWith_computed p _ k a d hne⟩⟩

example : ValidPositions exPop [2, 1, 0, 0, 1] ∧
    valueNthAssigned exPop [2, 1, 0, 0, 1] 0 exVals 0 = .ok [4, 0, 1, 0] ∧
    valueNthAssigned exPop [2, 1, 0, 0, 1] 2 exVals (-7) = .ok [3, -7, -7, -7] :=
  ⟨validPositions_of_ids _ _ rfl (by decide), by open TestVectors in decide +kernel, by open TestVectors in decide +kernel⟩

/-- value of the member holding a unique role -/
theorem C10_from_role_def {α} (p : Pop) (a : List α) (r : Role) (d : α) (hmax : r.max = some 1)
    (hlen : a.length = p.ms.length) (hg : ∀ m ∈ p.ms, m.group < p.n)
    (hu : ∀ g, g < p.n → (valuesOf p (some r) g a).length ≤ 1) :
    ∃ res, valueFromPerson p a r d = .ok res ∧ res.length = p.n ∧
      ∀ g, g < p.n → res[g]? = some ((valuesOf p (some r) g a).head?.getD d) :=
  ok_range_map (valueFromPerson_eq p a r d hmax hlen hg hu)

/-- a role that is not declared unique (`max != 1`), or that two members of some group hold, is
refused -/
theorem C10_from_role_refused {α} (p : Pop) (a : List α) (r : Role) (d : α) :
    (r.max ≠ some 1 → ∃ e, valueFromPerson p a r d = .error e) ∧
    (a.length = p.ms.length → (∀ m ∈ p.ms, m.group < p.n) →
      (∃ g, g < p.n ∧ 2 ≤ (valuesOf p (some r) g a).length) →
      ∃ e, valueFromPerson p a r d = .error e) :=
  ⟨fun hmax => error_of_ite hmax,
   fun hlen hg ⟨g, hgn, h2⟩ => valueFromPerson_nonunique p a r d hlen hg g hgn h2⟩

example : (∃ e, valueFromPerson exPop exVals exChild 0 = .error e) ∧
    (∃ e, valueFromPerson ⟨2, [⟨0, 3⟩, ⟨0, 3⟩, ⟨1, 3⟩]⟩ [1, 2, 3] exRef (0 : Int) = .error e) :=
  ⟨⟨_, rfl⟩, ⟨_, rfl⟩⟩

example : exRef.max = some 1 ∧ (∀ g, g < exPop.n → (valuesOf exPop (some exRef) g exVals).length ≤ 1) ∧
    valueFromPerson exPop exVals exRef 0 = .ok [4, 0, 0, 0] := ⟨rfl, by decide, rfl⟩

/-- value of the partner (the holder of the other sub-role of a two-sub-role role) -/
theorem C10_partner_def {α} (p : Pop) (a : List α) (role : Role) (zero : α) (s1 s2 : Nat)
    (hsubs : role.subs = [s1, s2]) (hlen : a.length = p.ms.length)
    (hg : ∀ m ∈ p.ms, m.group < p.n)
    (hu1 : ∀ g, g < p.n → (valuesOf p (some ⟨s1, [], some 1⟩) g a).length ≤ 1)
    (hu2 : ∀ g, g < p.n → (valuesOf p (some ⟨s2, [], some 1⟩) g a).length ≤ 1) :
    ∃ r, valueFromPartner p a role zero = .ok r ∧ r.length = p.ms.length ∧
      ∀ i (hi : i < p.ms.length),
        r[i]? = some
          (if p.ms[i].role = s1 then (valuesOf p (some ⟨s2, [], some 1⟩) p.ms[i].group a).head?.getD zero
           else if p.ms[i].role = s2 then (valuesOf p (some ⟨s1, [], some 1⟩) p.ms[i].group a).head?.getD zero
           else zero) :=
  ok_map (valueFromPartner_eq p a role zero s1 s2 hsubs hlen hg hu1 hu2)

/-- only roles with exactly two sub-roles have partners -/
theorem C10_partner_refused {α} (p : Pop) (a : List α) (role : Role) (zero : α)
    (h : ∀ s1 s2, role.subs ≠ [s1, s2]) : ∃ e, valueFromPartner p a role zero = .error e := by
  unfold valueFromPartner
  by_cases hlen : a.length ≠ p.ms.length
  · exact error_of_ite hlen
  · rw [if_neg hlen]
    match hs : role.subs with
    | [] => exact ⟨_, rfl⟩
    | [_] => exact ⟨_, rfl⟩
    | [s1, s2] => exact absurd hs (h s1 s2)
    | _ :: _ :: _ :: _ => exact ⟨_, rfl⟩

example : valueFromPartner exPop exVals exParent 0 = .ok [-5, 0, 0, 0, 3] ∧
    (∃ e, valueFromPartner exPop exVals exChild 0 = .error e) := ⟨rfl, ⟨_, rfl⟩⟩

/-! The order `numpy.argsort` gives to the members of one group does not matter.
`numpy.argsort` (introsort / SIMD sort) is not stable; the model's `orderedMap` is a stable sort.
For every other permutation that sorts the persons by group the two operations that read the
map return the same arrays (they select at most one person per group). -/

theorem C10_members_map_irrelevant {α} (p : Pop) (mp : List Nat) (hmp : SortsByGroup p.ids mp)
    (a : List α) (d : α) :
    (∀ k, valueNthWith p mp k a d = valueNth p k a d) ∧
    (∀ r : Role, a.length = p.ms.length → (∀ m ∈ p.ms, m.group < p.n) →
      (∀ g, g < p.n → (valuesOf p (some r) g a).length ≤ 1) →
      valueFromPersonWith p mp a r d = valueFromPerson p a r d) :=
  ⟨fun k => valueNthWith_eq p mp hmp k a d,
   fun r => valueFromPersonWith_eq p mp hmp a r d⟩

/-- an unstable but sorting map on the example population (members of group 0 in the order
4, 0, 2): same result -/
example : SortsByGroup exPop.ids [4, 0, 2, 3, 1] ∧
    valueNthWith exPop [4, 0, 2, 3, 1] 1 exVals 0 = valueNth exPop 1 exVals 0 :=
  ⟨⟨by decide, by decide⟩, rfl⟩

/-- projection of a group-level array onto persons -/
theorem C10_project_def {α} (p : Pop) (x : List α) (zero : α) (role : Option Role)
    (hx : x.length = p.n) (hg : ∀ m ∈ p.ms, m.group < p.n) :
    ∃ r, project p x zero role = .ok r ∧ r.length = p.ms.length ∧
      ∀ i (hi : i < p.ms.length),
        r[i]? = some (if roleOk role p.ms[i] then x.getD p.ms[i].group zero else zero) ∧
        x[p.ms[i].group]? ≠ none := by
  obtain ⟨r, h1, h2, h3⟩ := ok_map (project_eq p x zero role hx hg)
  refine ⟨r, h1, h2, fun i hi => ⟨h3 i hi, ?_⟩⟩
  have := hg p.ms[i] (List.getElem_mem hi)
  rw [List.getElem?_eq_getElem (by omega)]
  simp

example : project exPop [10, 20, 30, 40] (0 : Int) none = .ok [10, 30, 10, 30, 10] ∧
    project exPop [10, 20, 30, 40] (0 : Int) (some exChild) = .ok [0, 30, 0, 30, 0] := by open TestVectors in decide +kernel

theorem C10_positions_def (p : Pop) (hne : p.ms ≠ []) :
    ∃ pos, membersPosition p.ids = .ok pos ∧ pos.length = p.ms.length ∧
      ∀ i (hi : i < p.ms.length),
        pos[i]? = some ((p.ms.take i).filter fun m => m.group == p.ms[i].group).length := by
  refine ⟨_, membersPosition_eq _ (p.ids_ne_nil hne), by simp [p.ids_length], fun i hi => ?_⟩
  rw [List.getElem?_map, List.getElem?_range (by rw [p.ids_length]; exact hi)]
  simp only [Option.map_some, Option.some.injEq, posOf]
  rw [p.ids_getD, List.getD_of_lt _ _ hi, List.count_eq_length_filter]
  simp [Pop.ids, ← List.map_take, List.filter_map, Function.comp_def]

example : membersPosition exPop.ids = .ok [0, 0, 1, 1, 2] := by open TestVectors in decide +kernel

theorem C10_rank_perm (p : Pop) (crit : List Int) (cond : List Bool)
    (hc : crit.length = p.ms.length) (hb : cond.length = p.ms.length) (hne : p.ms ≠ [])
    (hg : ∀ m ∈ p.ms, m.group < p.n) :
    ∃ r, getRank p crit cond = .ok r ∧ r.length = p.ms.length ∧
      -- -1 outside the condition
      (∀ i, i < p.ms.length → cond.getD i false = false → r[i]? = some (-1)) ∧
      -- within a group, a permutation of 0 .. k-1
      (∀ g, ((rankedIn p cond g).map fun i => r.getD i 0).Perm
              ((List.range (rankedIn p cond g).length).map Int.ofNat)) ∧
      -- monotone in the criterion
      (∀ i j, i < p.ms.length → j < p.ms.length →
        (p.ms.getD i default).group = (p.ms.getD j default).group →
        cond.getD i false = true → cond.getD j false = true →
        crit.getD i 0 < crit.getD j 0 → r.getD i 0 < r.getD j 0) := by
  refine ⟨_, getRank_count p crit cond hc hb hne hg, by simp, ?_, ?_, ?_⟩
  · intro i hi hci
    rw [List.getElem?_map, List.getElem?_range hi]
    simp only [Option.map_some, hci]
    rfl
  · intro g
    have hperm := (rankCount_perm p crit cond g).map Int.ofNat
    rw [List.map_map] at hperm
    refine (List.Perm.of_eq (List.map_congr_left fun i hi => ?_)).trans hperm
    -- a ranked person satisfies the condition: its entry is its rank
    obtain ⟨hiM, hci⟩ := mem_rankedIn.mp hi
    rw [List.getD_range_map _ _ (p.ids_length ▸ (mem_membersIdx.mp hiM).1), if_pos hci]
    rfl
  · intro i j hi hj hgrp hci hcj hlt
    rw [List.getD_range_map _ _ hi, List.getD_range_map _ _ hj, if_pos hci, if_pos hcj]
    exact Int.ofNat_lt.mpr (rankCount_mono p crit cond i j hi hgrp hci hlt)

example : getRank exPop exVals [true, true, true, true, true] = .ok [1, 0, 2, 1, 0] ∧
    getRank exPop exVals exBools = .ok [0, -1, 1, 0, -1] ∧
    rankedIn exPop exBools 0 = [0, 2] := by open TestVectors in decide +kernel

/-- `numpy.argsort` is not stable and every row of the position matrix has ties (the `inf`
paddings and the persons outside the condition).  With criteria that are distinct among the
persons of a group satisfying the condition — the claim domain — any permutation sorting the
rows gives the same ranks as the model's stable sort. -/
theorem C10_rank_ties_irrelevant (sort1 : List EInt → List Nat)
    (hsort : ∀ row, SortsRow row (sort1 row)) (p : Pop) (crit : List Int) (cond : List Bool)
    (hc : crit.length = p.ms.length) (hb : cond.length = p.ms.length) (hne : p.ms ≠ [])
    (hg : ∀ m ∈ p.ms, m.group < p.n)
    (hdist : ∀ i j, i < p.ms.length → j < p.ms.length →
      (p.ms.getD i default).group = (p.ms.getD j default).group →
      cond.getD i false = true → cond.getD j false = true → crit.getD i 0 = crit.getD j 0 → i = j) :
    getRankWith sort1 p crit cond = getRank p crit cond :=
  (getRankWith_count sort1 hsort p crit cond hc hb hne hg hdist).trans
    (getRank_count p crit cond hc hb hne hg).symm

/-- the hypotheses are satisfiable (the stable sort is a sorting permutation; the example has
distinct criteria), a row has several sorting permutations (ties in either order), and a sorter
that breaks ties the other way round gives the same ranks on the example -/
example : (∀ row, SortsRow row (argsortE row)) ∧
    (∀ i j, i < exPop.ms.length → j < exPop.ms.length →
      (exPop.ms.getD i default).group = (exPop.ms.getD j default).group →
      exBools.getD i false = true → exBools.getD j false = true →
      exVals.getD i 0 = exVals.getD j 0 → i = j) ∧
    argsortE [.fin 3, .posInf, .fin 4, .posInf] = [0, 2, 1, 3] ∧
    SortsRow [.fin 3, .posInf, .fin 4, .posInf] [0, 2, 3, 1] ∧
    getRankWith (fun row => (argsortE row.reverse).map (row.length - 1 - ·)) exPop exVals exBools
      = getRank exPop exVals exBools :=
  ⟨argsortE_sortsRow,
   fun i j hi hj => (by decide +kernel : ∀ i ∈ List.range 5, ∀ j ∈ List.range 5,
      (exPop.ms.getD i default).group = (exPop.ms.getD j default).group →
      exBools.getD i false = true → exBools.getD j false = true →
      exVals.getD i 0 = exVals.getD j 0 → i = j) i (List.mem_range.mpr hi) j (List.mem_range.mpr hj),
   by decide +kernel, ⟨by decide, by decide⟩, by open TestVectors in decide +kernel⟩

/-- `get_rank` builds a matrix with one column per position up to the size of the biggest group
(`numpy.max(positions) + 1`).  Any greater width gives the same ranks: the extra columns hold the
`inf` padding, which a stable sort leaves behind every member.  (So a change of that `+ 1` into a
greater constant is not observable; a smaller one leaves the last member of the biggest group
without a column.) -/
theorem C10_rank_width_irrelevant (extra : Nat) (p : Pop) (crit : List Int) (cond : List Bool)
    (hc : crit.length = p.ms.length) (hb : cond.length = p.ms.length) (hne : p.ms ≠ [])
    (hg : ∀ m ∈ p.ms, m.group < p.n) :
    getRankWide extra p crit cond = getRank p crit cond ∧ getRankWide 0 p crit cond = getRank p crit cond :=
  ⟨(getRankWide_count extra p crit cond hc hb hne hg).trans
    (getRank_count p crit cond hc hb hne hg).symm, rfl⟩

example : getRankWide 3 exPop exVals exBools = .ok [0, -1, 1, 0, -1] ∧
    getRank exPop exVals exBools = .ok [0, -1, 1, 0, -1] := by open TestVectors in decide +kernel

theorem C10_chain_compose {α} (w : World) (e : Nat) (p : Pop) (hp : w.pop e = p) (z : α)
    (hg : ∀ m ∈ p.ms, m.group < p.n) :
    -- (a) bubbling a result up a chain of projectors is the composition of their transforms
    (∀ (ps qs : List Proj) (x : List α),
      bubbleUp w z (ps ++ qs) x
        = match bubbleUp w z ps x with
          | .error e => .error e
          | .ok y => bubbleUp w z qs y) ∧
    (∀ (start : Level) (ss : List Shortcut) (method : Level → Except String (List α)) ps lvl r,
      resolveChain w start ss = .ok (ps, lvl) → method lvl = .ok r →
      chainCall w z start ss true method = bubbleUp w z ps.reverse r ∧
      chainCall w z start ss false method = .ok r) ∧
    -- (b) person.group.<aggregate>: every person receives the value of the group it belongs to
    (∀ x : List α, x.length = p.n →
      bubbleUp w z [.toPerson e] x = .ok (p.ms.map fun m => x.getD m.group z)) ∧
    -- (c) group.first_person.group.<aggregate>: the group's own value, the default if no member
    (∀ x : List α, x.length = p.n → p.ms ≠ [] →
      bubbleUp w z [.toPerson e, .firstPerson e] x
        = .ok ((List.range p.n).map fun g =>
            if (p.ms.any fun m => m.group == g) then x.getD g z else z)) ∧
    -- (d) group.<unique role>.group.<aggregate>: the group's own value if the role is held
    (∀ (r : Role) (x : List α), x.length = p.n → r.max = some 1 →
      (∀ g, g < p.n → (p.ms.filter fun m => m.group == g && r.holds m).length ≤ 1) →
      bubbleUp w z [.toPerson e, .uniqueRole e r] x
        = .ok ((List.range p.n).map fun g =>
            if (p.ms.any fun m => m.group == g && r.holds m) then x.getD g z else z)) ∧
    -- (e) person.group.first_person.<person array>: the value of the first member of my group
    (∀ y : List α, y.length = p.ms.length → p.ms ≠ [] →
      bubbleUp w z [.firstPerson e, .toPerson e] y
        = .ok (p.ms.map fun m => (valuesOf p none m.group y)[0]?.getD z)) ∧
    -- (f) group.<containing entity>.<aggregate> is group.first_person.<containing entity>.<aggregate>:
    --     every group receives the value of the containing group of its first member
    (∀ (e' : Nat) (q : Pop), w.pop e' = q → e' < w.pops.length → (w.containing e).contains e' = true →
      resolve w (.group e) (.entity e') = some ([.firstPerson e, .toPerson e'], .group e') ∧
      (∀ x : List α, x.length = q.n → q.ms.length = p.ms.length → p.ms ≠ [] →
        (∀ m ∈ q.ms, m.group < q.n) →
        bubbleUp w z [.toPerson e', .firstPerson e] x
          = .ok ((List.range p.n).map fun g =>
              (valuesOf p none g (q.ms.map fun m => x.getD m.group z))[0]?.getD z))) := by
  refine ⟨bubbleUp_append w z, ?_, ?_, ?_, ?_, ?_, ?_⟩
  · intro start ss method ps lvl r h1 h2
    simp only [chainCall, h1, h2]
    exact ⟨rfl, rfl⟩
  · intro x hx
    simp only [bubbleUp, transform_toPerson w e p hp z x hx hg]
  · intro x hx hne
    refine bubbleUp_pair (transform_toPerson w e p hp z x hx hg)
      ((transform_firstPerson w e p hp z _ (by simp) hne hg).trans ?_)
    refine congrArg _ (List.map_congr_left fun g _ => ?_)
    have := head?_broadcast p none g x z
    simp only [roleOk, Bool.and_true] at this
    rw [← this, List.head?_eq_getElem?]
  · intro r x hx hmax hu
    refine bubbleUp_pair (transform_toPerson w e p hp z x hx hg)
      ((transform_uniqueRole w e p hp z r _ hmax (by simp) hg fun g hgn => by
        rw [valuesOf_ms_map, List.length_map]
        exact hu g hgn).trans ?_)
    exact congrArg _ (List.map_congr_left fun g _ => head?_broadcast p (some r) g x z)
  · intro y hy hne
    subst hp
    exact bubbleUp_pair (transform_firstPerson w e _ rfl z y hy hne hg) (project_range_map _ _ z hg)
  · intro e' q hq he' hc
    have hc' : e' ∈ w.containing e := by simpa using hc
    refine ⟨by simp [resolve, hc', he'], ?_⟩
    intro x hx hlen hne hgq
    exact bubbleUp_pair (transform_toPerson w e' q hq z x hx hgq)
      (transform_firstPerson w e p hp z _ (by simp [hlen]) hne hg)

/-- households 0 and 2 of the example, and two families: family 1 = persons 0, 4, family 0 =
persons 1, 2, 3; the household entity declares the family entity as containing -/
def exFam : Pop := ⟨2, [⟨1, 0⟩, ⟨0, 0⟩, ⟨0, 0⟩, ⟨0, 0⟩, ⟨1, 0⟩]⟩
def exWorld : World := ⟨[exPop, exFam], fun e => if e = 0 then [1] else []⟩

example :
    chainCall (World.single exPop) 0 .person [.entity 0] true (fun _ => groupSum exPop exVals none)
      = .ok [2, 0, 2, 0, 2] ∧
    chainCall (World.single exPop) 0 (.group 0) [.firstPerson, .entity 0] true (fun _ => groupSum exPop exVals none)
      = .ok [2, 0, 0, 0] ∧
    chainCall (World.single exPop) 0 (.group 0) [.role exRef, .entity 0] true (fun _ => groupSum exPop exVals none)
      = .ok [2, 0, 0, 0] ∧
    -- household.family.sum(a): the sum over the family of the household's first member
    resolveChain exWorld (.group 0) [.entity 1] = .ok ([.firstPerson 0, .toPerson 1], .group 1) ∧
    chainCall exWorld 0 (.group 0) [.entity 1] true (fun _ => groupSum exFam exVals none) = .ok [-2, 0, 4, 0] ∧
    -- person.household.family.first_person.household.nb_persons(): five projectors
    chainCall exWorld 0 .person [.entity 0, .entity 1, .firstPerson, .entity 0] true (fun _ => nbPersons exPop none)
      = .ok [3, 2, 3, 2, 3] ∧
    -- `project` is not projectable: returned as it is
    chainCall exWorld (0 : Int) .person [.entity 0] false (fun _ => project exPop [10, 20, 30, 40] 0 none)
      = .ok [10, 30, 10, 30, 10] :=
  ⟨by open TestVectors in decide +kernel,
    by open TestVectors in decide +kernel,
    by open TestVectors in decide +kernel,
    rfl,
    by open TestVectors in decide +kernel,
    by open TestVectors in decide +kernel,
    by open TestVectors in decide +kernel⟩

/-- `has_role(role)`: a person holds a role without sub-roles iff it is the role it has in its
group, a role with sub-roles iff it holds one of them; one answer per person -/
theorem C10_has_role_def (p : Pop) (r : Role) :
    (p.hasRole r).length = p.ms.length ∧
    ∀ i (hi : i < p.ms.length),
      (p.hasRole r)[i]? = some (if r.subs = [] then p.ms[i].role == r.id else r.subs.contains p.ms[i].role) := by
  refine ⟨p.hasRole_length r, fun i hi => ?_⟩
  simp only [Pop.hasRole, List.getElem?_map, List.getElem?_eq_getElem hi, Option.map_some, Role.holds]
  cases hs : r.subs with
  | nil => simp
  | cons s ss =>
    simp only [List.isEmpty_cons, Bool.false_eq_true, if_false, reduceCtorEq]
    congr 1
    rw [List.contains_eq_any_beq]
    congr 1
    funext x
    exact Bool.beq_comm

example : exPop.hasRole exParent = [true, false, false, false, true] ∧
    exPop.hasRole exChild = [false, true, false, true, false] := by decide +kernel

/-! The storage order of the persons does not matter.
"In any storage order": two populations over the same groups whose (member, value) pairs are the
same up to order — the persons listed in any other order, their values moved with them — have the
same sums, counts, any / all, minima and maxima, with or without role. -/

theorem C10_aggregates_order_invariant (p p' : Pop) (a a' : List Int) (b b' : List Bool)
    (role : Option Role) (hn : p'.n = p.n)
    (ha : a.length = p.ms.length) (ha' : a'.length = p'.ms.length)
    (hb : b.length = p.ms.length) (hb' : b'.length = p'.ms.length)
    (hne : p.ms ≠ []) (hg : ∀ m ∈ p.ms, m.group < p.n)
    (hpa : (p.ms.zip a).Perm (p'.ms.zip a')) (hpb : (p.ms.zip b).Perm (p'.ms.zip b')) :
    groupSum p' a' role = groupSum p a role ∧ nbPersons p' role = nbPersons p role ∧
    groupAny p' b' role = groupAny p b role ∧ groupAll p' b' role = groupAll p b role ∧
    groupMin p' a' role = groupMin p a role ∧ groupMax p' a' role = groupMax p a role := by
  have hms := ms_perm_of_zip p p' a a' ha ha' hpa
  have hg' : ∀ m ∈ p'.ms, m.group < p'.n := fun m hm => hn ▸ hg m (hms.mem_iff.mpr hm)
  have hne' : p'.ms ≠ [] := fun h => hne (by rw [h] at hms; exact hms.eq_nil)
  refine ⟨?_, ?_, ?_, ?_, ?_, ?_⟩
  · exact order_invariant_of_eq hn hpa perm_sum_int (groupSum_eq p a role ha hg)
      (groupSum_eq p' a' role ha' hg')
  · rw [nbPersons_eq p' role hg', nbPersons_eq p role hg, hn]
    exact congrArg _ (List.map_congr_left fun g _ => by rw [(hms.filter _).length_eq])
  · exact order_invariant_of_eq hn hpb List.Perm.any_eq (groupAny_eq p b role hb hg)
      (groupAny_eq p' b' role hb' hg')
  · exact order_invariant_of_eq hn hpb List.Perm.all_eq (groupAll_eq p b role hb hne hg)
      (groupAll_eq p' b' role hb' hne' hg')
  · exact order_invariant_of_eq hn hpa pickFold_min.perm (groupMin_eq p a role ha hne hg)
      (groupMin_eq p' a' role ha' hne' hg')
  · exact order_invariant_of_eq hn hpa pickFold_max.perm (groupMax_eq p a role ha hne hg)
      (groupMax_eq p' a' role ha' hne' hg')

/-- the example population with its persons stored in the order 4, 1, 0, 3, 2 -/
example : (exPop.ms.zip exVals).Perm
      ((⟨4, [⟨0, 1⟩, ⟨2, 2⟩, ⟨0, 0⟩, ⟨2, 2⟩, ⟨0, 3⟩]⟩ : Pop).ms.zip [-5, -1, 3, 1, 4]) ∧
    groupMin ⟨4, [⟨0, 1⟩, ⟨2, 2⟩, ⟨0, 0⟩, ⟨2, 2⟩, ⟨0, 3⟩]⟩ [-5, -1, 3, 1, 4] (some exParent)
      = groupMin exPop exVals (some exParent) :=
  ⟨by decide +kernel, by open TestVectors in decide +kernel⟩

/-- When every person holds exactly one of the roles `rs` (the flattened roles of the entity, or
its top-level roles: `has_role` of a role with sub-roles is the disjunction over them), the sums
restricted to each role add up, group by group, to the unrestricted sum; the same for counts. -/
theorem C10_sum_roles_partition (p : Pop) (a : List Int) (rs : List Role)
    (ha : a.length = p.ms.length) (hg : ∀ m ∈ p.ms, m.group < p.n)
    (hpart : ∀ m ∈ p.ms, (rs.filter fun r => r.holds m).length = 1) :
    ∃ tot, groupSum p a none = .ok tot ∧ tot.length = p.n ∧
      ∀ g, g < p.n →
        tot[g]? = some (rs.map fun r => (valuesOf p (some r) g a).sum).sum ∧
        ∀ r ∈ rs, ∃ sr, groupSum p a (some r) = .ok sr ∧ sr[g]? = some (valuesOf p (some r) g a).sum := by
  obtain ⟨tot, h1, h2, h3⟩ := C10_sum_def p a none ha hg
  refine ⟨tot, h1, h2, fun g hgn => ⟨?_, fun r _ => ?_⟩⟩
  · rw [h3 g hgn, sum_roles_partition p a rs g ha hpart]
  · obtain ⟨sr, e1, _, e3⟩ := C10_sum_def p a (some r) ha hg
    exact ⟨sr, e1, e3 g hgn⟩

/-- the four flattened roles of the example partition its members: per group, the sums over
first parents, second parents, children and the reference person add up to the total -/
example : (∀ m ∈ exPop.ms, ([⟨0, [], some 1⟩, ⟨1, [], some 1⟩, exChild, exRef].filter fun r => r.holds m).length = 1) ∧
    (∀ m ∈ exPop.ms, ([exParent, exChild, exRef].filter fun r => r.holds m).length = 1) ∧
    groupSum exPop exVals none = .ok [2, 0, 0, 0] ∧ groupSum exPop exVals (some exParent) = .ok [-2, 0, 0, 0] ∧
    groupSum exPop exVals (some exChild) = .ok [0, 0, 0, 0] ∧ groupSum exPop exVals (some exRef) = .ok [4, 0, 0, 0] :=
  ⟨by decide, by decide, rfl, rfl, rfl, rfl⟩

/-- A group-level array `x` projected onto the persons is constant on every group; aggregating it
again gives, for every group WITH a member (holding the role), its own value as minimum, maximum
and value of the n-th member, and `size × value` as sum; a group without such a member gets the
neutral element / the default. -/
theorem C10_aggregate_of_projection (p : Pop) (x : List Int) (role : Option Role) (k : Nat) (d : Int)
    (hx : x.length = p.n) (hne : p.ms ≠ []) (hg : ∀ m ∈ p.ms, m.group < p.n) :
    ∃ y, project p x 0 none = .ok y ∧ y.length = p.ms.length ∧
      ∀ g, g < p.n →
        let size := (p.ms.filter fun m => m.group == g && roleOk role m).length
        (∃ r, groupSum p y role = .ok r ∧ r[g]? = some ((size : Int) * x.getD g 0)) ∧
        (∃ r, groupMin p y role = .ok r ∧ r[g]? = some (if 0 < size then .fin (x.getD g 0) else .posInf)) ∧
        (∃ r, groupMax p y role = .ok r ∧ r[g]? = some (if 0 < size then .fin (x.getD g 0) else .negInf)) ∧
        (∃ r, valueNth p k y d = .ok r ∧
          r[g]? = some (if k < (p.ms.filter fun m => m.group == g).length then x.getD g 0 else d)) := by
  refine ⟨_, project_none p x 0 hx hg, by simp, fun g hgn => ?_⟩
  have hlen : (p.ms.map fun m => x.getD m.group 0).length = p.ms.length := by simp
  intro size
  refine ⟨?_, ?_, ?_, ?_⟩
  · obtain ⟨r, e1, _, e3⟩ := C10_sum_def p _ role hlen hg
    exact ⟨r, e1, by rw [e3 g hgn, valuesOf_broadcast, List.sum_replicate_int]⟩
  · obtain ⟨r, e1, _, e3⟩ := C10_min_def p _ role hlen hne hg
    exact ⟨r, e1, by rw [(e3 g hgn).1, valuesOf_broadcast, pickFold_min.replicate]⟩
  · obtain ⟨r, e1, _, e3⟩ := C10_max_def p _ role hlen hne hg
    exact ⟨r, e1, by rw [(e3 g hgn).1, valuesOf_broadcast, pickFold_max.replicate]⟩
  · obtain ⟨⟨r, e1, _, e3⟩, _⟩ := C10_nth_def p k _ d hlen hne hg
    refine ⟨r, e1, ?_⟩
    rw [e3 g hgn, valuesOf_broadcast]
    simp only [roleOk, Bool.and_true]
    by_cases hk : k < (p.ms.filter fun m => m.group == g).length
    · rw [if_pos hk, List.getElem?_replicate, if_pos hk]; rfl
    · rw [if_neg hk, List.getElem?_replicate, if_neg hk]; rfl

example : project exPop [10, 20, 30, 40] 0 none = .ok [10, 30, 10, 30, 10] ∧
    groupSum exPop [10, 30, 10, 30, 10] none = .ok [30, 0, 60, 0] ∧
    groupMin exPop [10, 30, 10, 30, 10] (some exChild) = .ok [.posInf, .posInf, .fin 30, .posInf] ∧
    valueNth exPop 2 [10, 30, 10, 30, 10] (-7) = .ok [10, -7, -7, -7] := by open TestVectors in decide +kernel

/-- `reduce(array, reducer, neutral_element, role)`: for every reducer for which the given element
is neutral on the right, the result is the left fold of the reducer over the values of the members
of the group (holding the role), in storage order, started from the neutral element — `all`, `min`
and `max` are the instances `logical_and / True`, `minimum / +inf`, `maximum / -inf`. -/
theorem C10_reduce_def {α} (p : Pop) (a : List α) (op : α → α → α) (e : α) (role : Option Role)
    (hlen : a.length = p.ms.length) (hne : p.ms ≠ []) (hg : ∀ m ∈ p.ms, m.group < p.n)
    (hid : ∀ x, op x e = x) :
    (∃ r, reduce p a op e role = .ok r ∧ r.length = p.n ∧
      ∀ g, g < p.n → r[g]? = some ((valuesOf p role g a).foldl op e)) ∧
    (∀ b : List Bool, groupAll p b role = reduce p b (fun x y => x && y) true role) ∧
    (∀ v : List Int, groupMin p v role = reduce p (v.map .fin) EInt.min .posInf role ∧
      groupMax p v role = reduce p (v.map .fin) EInt.max .negInf role) := by
  exact ⟨ok_range_map (reduce_eq p a op e role hlen hne hg hid), fun _ => rfl, fun _ => ⟨rfl, rfl⟩⟩

/-- the sum as a reduction (`numpy.add`, 0) and "the greatest value, at least 0" (`numpy.maximum`, 0
is NOT neutral for negative values: outside the hypothesis) -/
example : reduce exPop exVals (· + ·) 0 none = .ok [2, 0, 0, 0] ∧ (∀ x : Int, x + 0 = x) :=
  ⟨rfl, Int.add_zero⟩

/-- `group.members` (and `person.group.members`, through a projector) is the persons population
itself: whatever projectors came before are dropped, the chain goes on from the persons; on the
persons population `members` is no attribute. -/
theorem C10_members_shortcut (w : World) (acc : List Proj) (e : Nat) (ss : List Shortcut) :
    resolveAcc w acc (.group e) (.members :: ss) = resolveChain w .person ss ∧
    (∃ m, resolveAcc w acc .person (.members :: ss) = .error m) ∧
    (∀ start pre, resolveChain w start pre = .ok (acc, .group e) →
      resolveChain w start (pre ++ .members :: ss) = resolveChain w .person ss) := by
  refine ⟨rfl, ⟨_, rfl⟩, fun start pre h => ?_⟩
  rw [resolveChain, resolveAcc_append, ← resolveChain, h]
  rfl

example :
    -- person.household.members.household.sum(a) is person.household.sum(a)
    chainCall (World.single exPop) 0 .person [.entity 0, .members, .entity 0] true (fun _ => groupSum exPop exVals none)
      = chainCall (World.single exPop) 0 .person [.entity 0] true (fun _ => groupSum exPop exVals none) ∧
    -- household.first_person.household.members.has_role(child): one answer per person, untransformed
    chainCall (World.single exPop) false (.group 0) [.firstPerson, .entity 0, .members] true
      (fun _ => .ok (exPop.hasRole exChild)) = .ok [false, true, false, true, false] ∧
    (∃ m, resolveChain (World.single exPop) .person [.members] = .error m) := ⟨rfl, rfl, ⟨_, rfl⟩⟩

/-- refusals: wrong array sizes, nobody in the simulation -/
theorem C10_refusals (p : Pop) :
    -- an array that does not have one value per person (per group, for `project`)
    (∀ (a : List Int) role, a.length ≠ p.ms.length →
      (∃ e, groupSum p a role = .error e) ∧ (∃ e, groupMin p a role = .error e) ∧
      (∃ e, groupMax p a role = .error e)) ∧
    (∀ (b : List Bool) role, b.length ≠ p.ms.length →
      (∃ e, groupAny p b role = .error e) ∧ (∃ e, groupAll p b role = .error e)) ∧
    (∀ {α} k (a : List α) d, a.length ≠ p.ms.length → ∃ e, valueNth p k a d = .error e) ∧
    (∀ {α} (x : List α) z role, x.length ≠ p.n → ∃ e, project p x z role = .error e) ∧
    -- nobody: the operations that go through the member positions raise, the others answer
    (p.ms = [] →
      (∀ {α} k (a : List α) d, ∃ e, valueNth p k a d = .error e) ∧
      (∀ (b : List Bool) role, ∃ e, groupAll p b role = .error e) ∧
      (∀ crit cond, ∃ e, getRank p crit cond = .error e) ∧
      groupSum p [] none = .ok (List.replicate p.n 0) ∧
      nbPersons p none = .ok (List.replicate p.n 0)) := by
  refine ⟨?_, ?_, ?_, ?_, ?_⟩
  · intro a role h
    have h' : (a.map EInt.fin).length ≠ p.ms.length := by simpa using h
    exact ⟨error_of_ite h, error_of_ite h', error_of_ite h'⟩
  · intro b role h
    refine ⟨?_, error_of_ite h⟩
    unfold groupAny groupAnyI groupSum
    rw [if_pos (by simpa using h)]
    exact ⟨_, rfl⟩
  · intro α k a d h
    exact error_of_ite h
  · intro α x z role h
    exact error_of_ite h
  · intro hms
    have hids : p.ids = [] := by simp [Pop.ids, hms]
    refine ⟨?_, ?_, ?_, ?_, ?_⟩
    · intro α k a d
      unfold valueNth valueNthWith
      by_cases h : a.length ≠ p.ms.length
      · exact error_of_ite h
      · rw [if_neg h, hids]; exact ⟨_, rfl⟩
    · intro b role
      unfold groupAll reduce
      by_cases h : b.length ≠ p.ms.length
      · exact error_of_ite h
      · rw [if_neg h, hids]; exact ⟨_, rfl⟩
    · intro crit cond
      unfold getRank getRankWith
      rw [hids]; exact ⟨_, rfl⟩
    · unfold groupSum
      rw [if_neg (by simp [hms])]
      simp [hids, bincountW, bcLen, bcLoop]
    · unfold nbPersons
      simp [hids, bincount, bincountW, bcLen, bcLoop]

example : (∃ e, groupSum exPop [1, 2] none = .error e) ∧
    (∃ e, valueNth ⟨2, []⟩ 0 ([] : List Int) 0 = .error e) ∧ groupSum ⟨2, []⟩ [] none = .ok [0, 0] :=
  ⟨⟨_, rfl⟩, ⟨_, rfl⟩, rfl⟩

/-- one element per group of the simulation, groups without any member included -/
theorem C10_length (p : Pop) (a : List Int) (b : List Bool) (role : Option Role) (r1 : Role) (k : Nat)
    (d : Int) (ha : a.length = p.ms.length) (hb : b.length = p.ms.length) (hne : p.ms ≠ [])
    (hg : ∀ m ∈ p.ms, m.group < p.n) (hmax : r1.max = some 1)
    (hu : ∀ g, g < p.n → (valuesOf p (some r1) g a).length ≤ 1) :
    (∃ r, groupSum p a role = .ok r ∧ r.length = p.n) ∧
    (∃ r, nbPersons p role = .ok r ∧ r.length = p.n) ∧
    (∃ r, groupAny p b role = .ok r ∧ r.length = p.n) ∧
    (∃ r, groupAll p b role = .ok r ∧ r.length = p.n) ∧
    (∃ r, groupMin p a role = .ok r ∧ r.length = p.n) ∧
    (∃ r, groupMax p a role = .ok r ∧ r.length = p.n) ∧
    (∃ r, valueNth p k a d = .ok r ∧ r.length = p.n) ∧
    (∃ r, valueFromFirst p a d = .ok r ∧ r.length = p.n) ∧
    (∃ r, valueFromPerson p a r1 d = .ok r ∧ r.length = p.n) := by
  have short : ∀ {β} {res : Except String (List β)} {F : List β → Prop},
      (∃ r, res = .ok r ∧ r.length = p.n ∧ F r) → ∃ r, res = .ok r ∧ r.length = p.n :=
    fun ⟨r, h1, h2, _⟩ => ⟨r, h1, h2⟩
  exact ⟨short (C10_sum_def p a role ha hg), short (C10_count_def p role hg),
    short (C10_any_def p b role hb hg), short (C10_all_def p b role hb hne hg),
    short (C10_min_def p a role ha hne hg), short (C10_max_def p a role ha hne hg),
    short (C10_nth_def p k a d ha hne hg).1, short (C10_nth_def p 0 a d ha hne hg).1,
    short (C10_from_role_def p a r1 d hmax ha hg hu)⟩

/-- a simulation whose last two groups have no member: every result still has four elements -/
example : (groupSum ⟨4, [⟨1, 0⟩, ⟨1, 2⟩, ⟨0, 3⟩]⟩ [5, 6, 7] none = .ok [7, 11, 0, 0]) ∧
    (nbPersons ⟨4, [⟨1, 0⟩, ⟨1, 2⟩, ⟨0, 3⟩]⟩ none = .ok [1, 2, 0, 0]) ∧
    (groupMin ⟨4, [⟨1, 0⟩, ⟨1, 2⟩, ⟨0, 3⟩]⟩ [5, 6, 7] none = .ok [.fin 7, .fin 5, .posInf, .posInf]) ∧
    (valueFromFirst ⟨4, [⟨1, 0⟩, ⟨1, 2⟩, ⟨0, 3⟩]⟩ [5, 6, 7] (0 : Int) = .ok [7, 5, 0, 0]) := by open TestVectors in decide +kernel

end OFCore
