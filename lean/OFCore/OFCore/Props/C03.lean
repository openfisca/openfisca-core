import OFCore.Lemmas.AddDivide
import OFCore.Props.C04
import OFCore.Lemmas.TextRound
/-!
# C03 — summing or dividing over time uses the exact sub-periods; period mismatches fail

`calcPlain / calcAdd / calcDivide / callWithOptions` (`AddDivide.lean`) transcribe
`Simulation.calculate / calculate_add / calculate_divide` and `CorePopulation.__call__`; the
engine below the period checks is a value function `val : Period → Int`, universally quantified
in every theorem, as is `store` (whether computed values are kept in the holder).

`Period.InRange` (`Lemmas/AddDivide.lean`): the request stays inside pendulum's calendar (first day not before 7 January
of year 1, last day not after 31 December 9998); outside it an intermediate date (the Monday of the first
day's week, the end of the last day's year) can overflow, and the code then raises whatever the units are.
It is sufficient, not necessary; only the *accept* side needs it.

The guards are proved against the unit-weight table and the `isoformat`/`isocalendar` tuples
regenerated from the source on every run (`Generated.lean`).
-/
namespace OFCore

/-- the value function used by the examples: a different value for every start date -/
def exampleVal (q : Period) : Int := ord q.start % 9973

/-- the sums the examples share, evaluated once: the months of 2020, the days of February and of March 2020 -/
theorem exampleAdd_2020 : calcAdd exampleVal true .month ⟨.year, ⟨2020, 1, 1⟩, 1⟩ = .ok 114760 := by decide +kernel

theorem exampleAdd_feb : calcAdd exampleVal true .day ⟨.month, ⟨2020, 2, 1⟩, 1⟩ = .ok 273789 := by decide +kernel

theorem exampleAdd_mar : calcAdd exampleVal true .day ⟨.month, ⟨2020, 3, 1⟩, 1⟩ = .ok 293601 := by decide +kernel

/-- Variable of definition unit `u`, period of a unit of the same family, start aligned to `u`:
    when ADD returns, it returns the sum of the variable over pieces of unit `u` and size one
    that are consecutive, non-overlapping and cover exactly the days of the period. -/
theorem C03_add_sum (val : Period → Int) (store : Bool) (u : DUnit) (p : Period) (hp : p.WF)
    (hfam : u.family = p.unit.family) (hle : u.rank ≤ p.unit.rank) (hal : AlignedTo p.start u)
    (r : Int) (h : calcAdd val store u p = .ok r) :
    ∃ qs, p.subperiods u = .ok qs ∧ Tiles qs p.lo p.hi ∧ (∀ q ∈ qs, q.unit = u ∧ q.size = 1) ∧
      r = (qs.map val).sum := by
  obtain ⟨-, -, -, qs, hq, hr⟩ := calcAdd_eq_ok.1 h
  obtain ⟨ht, hq1⟩ := C04_subperiods_tile p u hp hfam hle hal qs hq
  exact ⟨qs, hq, ht, hq1, hr⟩

example : calcAdd exampleVal true .month ⟨.year, ⟨2020, 1, 1⟩, 1⟩ = .ok 114760 ∧
    calcAdd exampleVal false .day ⟨.month, ⟨2020, 2, 1⟩, 1⟩ = .ok 273789 :=
  ⟨exampleAdd_2020, (congrFun (calcAdd_store _ false true _) _).trans exampleAdd_feb⟩

/-- … and inside the calendar ADD does return for such a request. -/
theorem C03_add_accepts (val : Period → Int) (store : Bool) (u : DUnit) (p : Period) (hp : p.WF)
    (hr : p.InRange) (hfam : u.family = p.unit.family) (hle : u.rank ≤ p.unit.rank) :
    ∃ r, calcAdd val store u p = .ok r :=
  calcAdd_accepts val store u p hp hr (ne_eternity_of_family hfam hp.1) (Nat.not_lt.2 (span_le_of_nested hfam hle))

example : (Period.mk .year ⟨2019, 3, 1⟩ 2).WF ∧ (Period.mk .year ⟨2019, 3, 1⟩ 2).InRange := by decide +kernel

/-- Variable of definition unit `u`, one period of a unit `p.unit ⊆ u` of the same family: when
    DIVIDE returns, it returns the variable's value for `c`, the `u`-long period aligned to `u`
    that contains the first day of `p` (all of `p` when `p` is aligned to its own unit), divided by
    `n`, the number of `p.unit`-long pieces that tile `c` exactly: 1 for the same unit, 12 months
    in a year, the 28–31 days of a month, the 365/366 days of a year, 7 weekdays in a week. -/
theorem C03_divide_quotient (val : Period → Int) (store : Bool) (u : DUnit) (p : Period) (hp : p.WF)
    (hfam : p.unit.family = u.family) (hle : p.unit.rank ≤ u.rank)
    (r : Rat) (h : calcDivide val store u p = .ok r) :
    ∃ (c : Period) (n : Int), enclosing u p = .ok c ∧ c.WF ∧ c.unit = u ∧ c.size = 1 ∧ AlignedTo c.start u ∧
      c.lo ≤ p.lo ∧ p.lo ≤ c.hi ∧ (AlignedTo p.start p.unit → p.hi ≤ c.hi) ∧
      denominator p.unit c = .ok n ∧ r = (val c : Rat) / (n : Rat) ∧ 1 ≤ n ∧
      (∀ qs, c.subperiods p.unit = .ok qs →
        (qs.length : Int) = n ∧ Tiles qs c.lo c.hi ∧ ∀ q ∈ qs, q.unit = p.unit ∧ q.size = 1) ∧
      (p.unit = u → n = 1) ∧
      (u = .year → p.unit = .month → n = 12) ∧
      (u = .week → p.unit = .weekday → n = 7) ∧
      (u = .month → p.unit = .day → n = dim c.start.y c.start.m) ∧
      (u = .year → p.unit = .day → n = if isLeap c.start.y then 366 else 365) := by
  obtain ⟨hs, c, n, hc, hn, hr, hcwf, hcu, hcs, hcal, hclo, hchi⟩ := calcDivide_ok_inv hp.2.1 h
  obtain ⟨hn1, hsame, hym, hww, hmd, hyd⟩ := denominator_values hcwf hcu hcs hcal hfam hle hn
  have hcal' : AlignedTo c.start p.unit := aligned_down c.start u p.unit hcal hfam hle
  refine ⟨c, n, hc, hcwf, hcu, hcs, hcal, hclo, hchi,
    fun hpal => enclosing_contains hp hs hfam hle hpal hc hchi, hn, hr, hn1, ?_, hsame, hym, hww, hmd, hyd⟩
  intro qs hqs
  obtain ⟨ht, hq1⟩ := C04_subperiods_tile c p.unit hcwf (hcu ▸ hfam) (hcu ▸ hle) hcal' qs hqs
  have := subperiods_length c p.unit qs n hqs hn
  exact ⟨by omega, ht, hq1⟩

/-- a yearly variable over February 2020: the value for 2020 (9396) over 12; over 29 February
    2020: over 366 -/
example : calcDivide exampleVal true .year ⟨.month, ⟨2020, 2, 1⟩, 1⟩ = .ok (((9396 : Int) : Rat) / ((12 : Int) : Rat)) ∧
    calcDivide exampleVal false .year ⟨.day, ⟨2020, 2, 29⟩, 1⟩ = .ok (((9396 : Int) : Rat) / ((366 : Int) : Rat)) := by
  constructor
  · rw [calcDivide_pass _ _ _ _ (by decide +kernel) rfl (by decide) (by decide)]
    have h1 : enclosing .year ⟨.month, ⟨2020, 2, 1⟩, 1⟩ = .ok ⟨.year, ⟨2020, 1, 1⟩, 1⟩ := by decide +kernel
    have h2 : denominator .month ⟨.year, ⟨2020, 1, 1⟩, 1⟩ = .ok 12 := by decide +kernel
    have h3 : exampleVal ⟨.year, ⟨2020, 1, 1⟩, 1⟩ = 9396 := by decide +kernel
    simp only [h1, h2, h3]
  · rw [calcDivide_pass _ _ _ _ (by decide +kernel) rfl (by decide) (by decide)]
    have h1 : enclosing .year ⟨.day, ⟨2020, 2, 29⟩, 1⟩ = .ok ⟨.year, ⟨2020, 1, 1⟩, 1⟩ := by decide +kernel
    have h2 : denominator .day ⟨.year, ⟨2020, 1, 1⟩, 1⟩ = .ok 366 := by decide +kernel
    have h3 : exampleVal ⟨.year, ⟨2020, 1, 1⟩, 1⟩ = 9396 := by decide +kernel
    simp only [h1, h2, h3]

/-- … and inside the calendar DIVIDE does return for such a request. -/
theorem C03_divide_accepts (val : Period → Int) (store : Bool) (u : DUnit) (p : Period) (hp : p.WF)
    (hr : p.InRange) (hs : p.size = 1) (hfam : p.unit.family = u.family) (hle : p.unit.rank ≤ u.rank) :
    ∃ r, calcDivide val store u p = .ok r :=
  calcDivide_accepts val store u p hp hr hs (ne_eternity_of_family hfam.symm hp.1)
    (Nat.not_lt.2 (span_le_of_nested hfam hle))

example : ∃ r, calcDivide exampleVal true .week ⟨.weekday, ⟨2021, 1, 3⟩, 1⟩ = .ok r :=
  C03_divide_accepts _ _ _ _ (by decide +kernel) (by decide +kernel) rfl rfl (by decide)

/-- Plain request, complete and unconditional: it is refused exactly when the variable is not
    eternal and the period is not one definition period; otherwise it is the variable's value
    for that period. Whether values are stored plays no role. -/
theorem C03_plain_matrix (val : Period → Int) (store : Bool) (u : DUnit) (p : Period) :
    ((∃ e, calcPlain val store u p = .error e) ↔ (u ≠ .eternity ∧ (p.unit ≠ u ∨ p.size ≠ 1))) ∧
    ((u = .eternity ∨ (p.unit = u ∧ p.size = 1)) → calcPlain val store u p = .ok (val p)) :=
  ⟨calcPlain_refused_iff val store u p, calcPlain_ok val store u p⟩

example : calcPlain exampleVal true .month ⟨.month, ⟨2020, 2, 1⟩, 1⟩ = .ok 9427 ∧
    calcPlain exampleVal true .eternity ⟨.year, ⟨2020, 2, 1⟩, 3⟩ = .ok 9427 := by decide +kernel

/-- The refusals of ADD, unconditionally (any period, any start date, any size): an eternal
    variable, an eternal period, a period whose unit is shorter than the definition period. -/
theorem C03_add_rejects (val : Period → Int) (store : Bool) (u : DUnit) (p : Period)
    (h : u = .eternity ∨ p.unit = .eternity ∨ p.unit.span < u.span) :
    ∃ e, calcAdd val store u p = .error e :=
  -- had it returned, the sub-periods would exist, and the period algebra only splits into units that last no longer
  error_of_not_ok fun r hr => by
    obtain ⟨-, hu, hp, qs, hq, -⟩ := calcAdd_eq_ok.1 hr
    have := subperiods_ok_span hp hq
    rcases h with h | h | h
    · exact hu h
    · exact hp h
    · omega

example : ∃ e, calcAdd exampleVal true .month ⟨.week, ⟨2020, 1, 6⟩, 8⟩ = .error e :=
  C03_add_rejects _ _ _ _ (Or.inr (Or.inr (by decide)))

/-- The refusals of DIVIDE, unconditionally: an eternal variable, an eternal period, a size
    other than one, a period whose unit is longer than the definition period. -/
theorem C03_divide_rejects (val : Period → Int) (store : Bool) (u : DUnit) (p : Period)
    (h : u = .eternity ∨ p.unit = .eternity ∨ p.size ≠ 1 ∨ u.span < p.unit.span) :
    ∃ e, calcDivide val store u p = .error e :=
  -- had it returned, the denominator would exist: a size in a unit that lasts no longer than the enclosing period's
  error_of_not_ok fun r hr => by
    obtain ⟨-, hs, hu, hp, c, n, hc, hn, -⟩ := calcDivide_eq_ok.1 hr
    have := (denominator_ok_span hp hn).1
    rw [(enclosing_shape u hu p c hc).1] at this
    rcases h with h | h | h | h
    · exact hu h
    · exact hp h
    · exact h hs
    · omega

example : ∃ e, calcDivide exampleVal true .week ⟨.month, ⟨2020, 1, 1⟩, 1⟩ = .error e :=
  C03_divide_rejects _ _ _ _ (Or.inr (Or.inr (Or.inr (by decide))))

/-- **The complete matrix.** For a dated request inside the calendar, each of the three modes
    is refused in exactly the listed situations and returns a value in every other cell. The
    code decides with the generated unit weights plus what the period algebra can compute; the
    case analysis over that table shows the outcome is the calendar duration order:
    plain — the period must be one definition period (anything goes for an eternal variable);
    ADD — the variable is not eternal and its definition period is not longer than the period's unit;
    DIVIDE — the variable is not eternal, the size is one and the definition period is not shorter
    than the period's unit. -/
theorem C03_reject_matrix (val : Period → Int) (store : Bool) (u : DUnit) (p : Period)
    (hp : p.WF) (hr : p.InRange) :
    ((∃ e, calcPlain val store u p = .error e) ↔ (u ≠ .eternity ∧ (p.unit ≠ u ∨ p.size ≠ 1))) ∧
    ((∃ e, calcAdd val store u p = .error e) ↔ (u = .eternity ∨ p.unit.span < u.span)) ∧
    ((∃ e, calcDivide val store u p = .error e) ↔ (u = .eternity ∨ p.size ≠ 1 ∨ u.span < p.unit.span)) ∧
    (¬ (u ≠ .eternity ∧ (p.unit ≠ u ∨ p.size ≠ 1)) → calcPlain val store u p = .ok (val p)) ∧
    (¬ (u = .eternity ∨ p.unit.span < u.span) → ∃ r, calcAdd val store u p = .ok r) ∧
    (¬ (u = .eternity ∨ p.size ≠ 1 ∨ u.span < p.unit.span) → ∃ r, calcDivide val store u p = .ok r) := by
  have hAdd : ¬ (u = .eternity ∨ p.unit.span < u.span) → ∃ r, calcAdd val store u p = .ok r := fun hn =>
    calcAdd_accepts val store u p hp hr (fun h => hn (.inl h)) fun h => hn (.inr h)
  have hDiv : ¬ (u = .eternity ∨ p.size ≠ 1 ∨ u.span < p.unit.span) → ∃ r, calcDivide val store u p = .ok r :=
    fun hn => calcDivide_accepts val store u p hp hr (Classical.not_not.1 fun hs => hn (.inr (.inl hs)))
      (fun h => hn (.inl h)) fun h => hn (.inr (.inr h))
  refine ⟨(C03_plain_matrix val store u p).1, error_iff_of (fun h => ?_) hAdd,
    error_iff_of (fun h => ?_) hDiv, fun hn => ?_, hAdd, hDiv⟩
  · rcases h with h | h
    · exact C03_add_rejects val store u p (.inl h)
    · exact C03_add_rejects val store u p (.inr (.inr h))
  · rcases h with h | h | h
    · exact C03_divide_rejects val store u p (.inl h)
    · exact C03_divide_rejects val store u p (.inr (.inr (.inl h)))
    · exact C03_divide_rejects val store u p (.inr (.inr (.inr h)))
  · cases h : calcPlain val store u p with
    | error e => exact absurd ((calcPlain_refused_iff val store u p).1 ⟨e, h⟩) hn
    | ok r => rw [(calcPlain_eq_ok.1 h).2]

example : (Period.mk .week ⟨2020, 12, 28⟩ 2).WF ∧ (Period.mk .week ⟨2020, 12, 28⟩ 2).InRange ∧
    (DUnit.week.span < DUnit.month.span) ∧ ¬ (DUnit.week.span < DUnit.weekday.span) := by decide +kernel

/-- The eternity period (the remaining column of the matrix): refused by ADD and DIVIDE whatever
    the variable, and by a plain request unless the variable is eternal. -/
theorem C03_reject_matrix_eternity_period (val : Period → Int) (store : Bool) (u : DUnit) (p : Period)
    (hp : p.unit = .eternity) :
    ((∃ e, calcPlain val store u p = .error e) ↔ u ≠ .eternity) ∧
    (u = .eternity → calcPlain val store u p = .ok (val p)) ∧
    (∃ e, calcAdd val store u p = .error e) ∧ (∃ e, calcDivide val store u p = .error e) := by
  refine ⟨?_, fun h => calcPlain_ok val store u p (Or.inl h),
    C03_add_rejects val store u p (Or.inr (Or.inl hp)), C03_divide_rejects val store u p (Or.inr (Or.inl hp))⟩
  rw [(C03_plain_matrix val store u p).1]
  constructor
  · exact fun h => h.1
  · intro hu
    exact ⟨hu, Or.inl (by rw [hp]; exact fun h => hu h.symm)⟩

example : Period.eternity.unit = .eternity := rfl

/-! Each situation the property lists, one corollary each. -/

/-- wrong unit, plain request -/
theorem C03_wrong_unit_err (val : Period → Int) (store : Bool) (u : DUnit) (p : Period)
    (hu : u ≠ .eternity) (h : p.unit ≠ u) : ∃ e, calcPlain val store u p = .error e :=
  calcPlain_err val store u p hu (Or.inl h)

example : ∃ e, calcPlain exampleVal false .day ⟨.month, ⟨2020, 1, 1⟩, 1⟩ = .error e :=
  C03_wrong_unit_err _ _ _ _ (by decide) (by decide)

/-- size above one: refused by a plain request and by DIVIDE -/
theorem C03_size_gt_one_err (val : Period → Int) (store : Bool) (u : DUnit) (p : Period) (h : 1 < p.size) :
    (u ≠ .eternity → ∃ e, calcPlain val store u p = .error e) ∧ (∃ e, calcDivide val store u p = .error e) :=
  ⟨fun hu => calcPlain_err val store u p hu (Or.inr (by omega)),
   C03_divide_rejects val store u p (Or.inr (Or.inr (Or.inl (by omega))))⟩

example : (1 : Int) < (Period.mk .month ⟨2020, 1, 1⟩ 2).size := by decide

/-- an eternal variable, or the eternal period, cannot be summed -/
theorem C03_eternal_add_err (val : Period → Int) (store : Bool) (u : DUnit) (p : Period)
    (h : u = .eternity ∨ p.unit = .eternity) : ∃ e, calcAdd val store u p = .error e :=
  C03_add_rejects val store u p (by rcases h with h | h; exact Or.inl h; exact Or.inr (Or.inl h))

example : ∃ e, calcAdd exampleVal true .year Period.eternity = .error e :=
  C03_eternal_add_err _ _ _ _ (Or.inr rfl)

/-- an eternal variable, or the eternal period, cannot be divided -/
theorem C03_eternal_divide_err (val : Period → Int) (store : Bool) (u : DUnit) (p : Period)
    (h : u = .eternity ∨ p.unit = .eternity) : ∃ e, calcDivide val store u p = .error e :=
  C03_divide_rejects val store u p (by rcases h with h | h; exact Or.inl h; exact Or.inr (Or.inl h))

example : ∃ e, calcDivide exampleVal true .eternity ⟨.month, ⟨2020, 1, 1⟩, 1⟩ = .error e :=
  C03_eternal_divide_err _ _ _ _ (Or.inl rfl)

/-- a period of a unit shorter than the definition period cannot be summed, whatever its size -/
theorem C03_shorter_than_definition_add_err (val : Period → Int) (store : Bool) (u : DUnit) (p : Period)
    (h : p.unit.span < u.span) : ∃ e, calcAdd val store u p = .error e :=
  C03_add_rejects val store u p (Or.inr (Or.inr h))

example : ∃ e, calcAdd exampleVal true .month ⟨.day, ⟨2020, 1, 1⟩, 40⟩ = .error e :=
  C03_shorter_than_definition_add_err _ _ _ _ (by decide)

/-- a period of a unit longer than the definition period cannot be divided -/
theorem C03_longer_than_definition_divide_err (val : Period → Int) (store : Bool) (u : DUnit) (p : Period)
    (h : u.span < p.unit.span) : ∃ e, calcDivide val store u p = .error e :=
  C03_divide_rejects val store u p (Or.inr (Or.inr (Or.inr h)))

example : ∃ e, calcDivide exampleVal true .month ⟨.year, ⟨2020, 1, 1⟩, 1⟩ = .error e :=
  C03_longer_than_definition_divide_err _ _ _ _ (by decide)

/-- ADD and DIVIDE together are refused, whatever else is asked -/
theorem C03_both_options_err (val : Period → Int) (store : Bool) (u : DUnit) (parg : Option Period)
    (os : List Opt) (h1 : .add ∈ os) (h2 : .divide ∈ os) :
    ∃ e, callWithOptions val store u parg (some os) = .error e := by
  cases parg with
  | none => exact ⟨_, rfl⟩
  | some p => exact ⟨_, (callWithOptions_some val store u p os).trans (if_pos ⟨h1, h2⟩)⟩

example : ∃ e, callWithOptions exampleVal true .month (some ⟨.year, ⟨2020, 1, 1⟩, 1⟩) (some [.divide, .other, .add]) = .error e :=
  C03_both_options_err _ _ _ _ _ (by decide) (by decide)

/-- a sequence of options naming neither ADD nor DIVIDE (unknown options, or none at all) is refused -/
theorem C03_unknown_option_err (val : Period → Int) (store : Bool) (u : DUnit) (parg : Option Period)
    (os : List Opt) (h1 : .add ∉ os) (h2 : .divide ∉ os) :
    ∃ e, callWithOptions val store u parg (some os) = .error e := by
  cases parg with
  | none => exact ⟨_, rfl⟩
  | some p => exact ⟨_, by rw [callWithOptions_some, if_neg fun h => h1 h.1, if_neg h1, if_neg h2]⟩

example : ∃ e, callWithOptions exampleVal true .month (some ⟨.month, ⟨2020, 1, 1⟩, 1⟩) (some [.other]) = .error e :=
  C03_unknown_option_err _ _ _ _ _ (by decide) (by decide)

/-- otherwise the call is exactly the plain, ADD or DIVIDE request (so every statement above
    transfers to the formula-side API) -/
theorem C03_options_dispatch (val : Period → Int) (store : Bool) (u : DUnit) (p : Period) (os : List Opt) :
    callWithOptions val store u (some p) none = (calcPlain val store u p).map (fun (v : Int) => (v : Rat)) ∧
    (.add ∈ os → .divide ∉ os →
      callWithOptions val store u (some p) (some os) = (calcAdd val store u p).map (fun (v : Int) => (v : Rat))) ∧
    (.divide ∈ os → .add ∉ os →
      callWithOptions val store u (some p) (some os) = calcDivide val store u p) := by
  refine ⟨rfl, fun h1 h2 => ?_, fun h1 h2 => ?_⟩
  · rw [callWithOptions_some, if_neg fun h => h2 h.2, if_pos h1]
  · rw [callWithOptions_some, if_neg fun h => h2 h.1, if_neg h2, if_pos h1]

example : callWithOptions exampleVal true .month (some ⟨.year, ⟨2020, 1, 1⟩, 1⟩) (some [.other, .add]) = .ok 114760 := by
  rw [(C03_options_dispatch _ _ _ _ _).2.1 (by decide) (by decide), exampleAdd_2020]; decide +kernel

/-- the holder's own period check (`Holder._set`, reached only when the value is stored) never
    decides anything: every request gives the same result in both configurations -/
theorem C03_store_irrelevant (val : Period → Int) (u : DUnit) (parg : Option Period) (opts : Option (List Opt)) :
    callWithOptions val true u parg opts = callWithOptions val false u parg opts := by
  unfold callWithOptions
  rw [calcPlain_store val true false u, calcAdd_store val true false u, calcDivide_store val true false u]

example : callWithOptions exampleVal true .day (some ⟨.month, ⟨2020, 1, 1⟩, 1⟩) none =
    callWithOptions exampleVal false .day (some ⟨.month, ⟨2020, 1, 1⟩, 1⟩) none := C03_store_irrelevant _ _ _ _

/-- A `Period` object reaches every entry point unchanged; an argument that is neither a period
    nor text is refused by every entry point (and by `check_period_validity`). -/
theorem C03_argument_kinds (val : Period → Int) (store : Bool) (u : DUnit) (p : Period)
    (opts : Option (List Opt)) :
    calcPlainArg val store u (.period p) = calcPlain val store u p ∧
    calcAddArg val store u (.period p) = calcAdd val store u p ∧
    calcDivideArg val store u (.period p) = calcDivide val store u p ∧
    callWithArg val store u (.period p) opts = callWithOptions val store u (some p) opts ∧
    (∃ e, calcPlainArg val store u .invalid = .error e) ∧ (∃ e, calcAddArg val store u .invalid = .error e) ∧
    (∃ e, calcDivideArg val store u .invalid = .error e) ∧ (∃ e, callWithArg val store u .invalid opts = .error e) ∧
    (∃ e, checkPeriodValidity .invalid = .error e) ∧
    checkPeriodValidity (.period p) = .ok () ∧ ∀ cs, checkPeriodValidity (.text cs) = .ok () :=
  ⟨rfl, rfl, rfl, rfl, ⟨_, rfl⟩, ⟨_, rfl⟩, ⟨_, rfl⟩, ⟨_, rfl⟩, ⟨_, rfl⟩, rfl, fun _ => rfl⟩

example : calcAddArg exampleVal true .month (.period ⟨.year, ⟨2020, 1, 1⟩, 1⟩) = .ok 114760 :=
  (C03_argument_kinds exampleVal true .month _ none).2.1.trans exampleAdd_2020

/-- The period written as text (`str(period)`, parsed back by `periods.period` at the entry
    point): for every period aligned to its own unit with four-digit (ISO) years the request is
    the request for the period itself — except that twelve months print as one year, so a
    twelve-month period is served as the year period with the same start and the same days. -/
theorem C03_text_argument (val : Period → Int) (store : Bool) (u : DUnit) (p : Period)
    (opts : Option (List Opt)) (hwf : p.WF) (hal : OwnAligned p) (hdom : InTextDomain p) :
    resolveArg (.text p.text) = .ok (canon p) ∧
    calcPlainArg val store u (.text p.text) = calcPlain val store u (canon p) ∧
    calcAddArg val store u (.text p.text) = calcAdd val store u (canon p) ∧
    calcDivideArg val store u (.text p.text) = calcDivide val store u (canon p) ∧
    callWithArg val store u (.text p.text) opts = callWithOptions val store u (some (canon p)) opts ∧
    (¬ (p.unit = .month ∧ p.size = 12) → canon p = p) ∧
    ((p.unit = .month ∧ p.size = 12) → canon p = ⟨.year, p.start, 1⟩ ∧ (canon p).lo = p.lo ∧ (canon p).hi = p.hi) := by
  have h : resolveArg (.text p.text) = .ok (canon p) := parse_text p hwf hal hdom
  refine ⟨h, ?_, ?_, ?_, ?_, ?_, ?_⟩
  · unfold calcPlainArg; rw [h]; rfl
  · unfold calcAddArg; rw [h]; rfl
  · unfold calcDivideArg; rw [h]; rfl
  · unfold callWithArg; rw [h]
  · intro hn; unfold canon; rw [if_neg hn]
  · intro hy
    unfold canon; rw [if_pos hy]
    refine ⟨rfl, rfl, ?_⟩
    simp only [Period.hi, hy.1, hy.2, Int.mul_one]

/-- ISO-year boundaries: the week that begins on Monday 30 December 2019 prints as `2020-W01`
    and is served as that very week; an int is the calendar year -/
example : (Period.mk .week ⟨2019, 12, 30⟩ 1).text = "2020-W01".toList ∧
    resolveArg (.text "2020-W01".toList) = .ok ⟨.week, ⟨2019, 12, 30⟩, 1⟩ ∧
    resolveArg (.text "2020-W53-7".toList) = .ok ⟨.weekday, ⟨2021, 1, 3⟩, 1⟩ ∧
    resolveArg (.text (intText 2020)) = .ok ⟨.year, ⟨2020, 1, 1⟩, 1⟩ ∧
    calcAddArg exampleVal true .weekday (.text "week:2020-W01:2".toList) =
      calcAdd exampleVal true .weekday ⟨.week, ⟨2019, 12, 30⟩, 2⟩ := by decide +kernel

/-- `Simulation.calculate_output` is the plain, ADD or DIVIDE request according to what the variable
    declares, so everything above transfers to it. -/
theorem C03_calculate_output_dispatch (val : Period → Int) (store : Bool) (u : DUnit) (a : PArg) :
    calcOutput val store u none a = (calcPlainArg val store u a).map (fun (v : Int) => (v : Rat)) ∧
    calcOutput val store u (some .add) a = (calcAddArg val store u a).map (fun (v : Int) => (v : Rat)) ∧
    calcOutput val store u (some .divide) a = calcDivideArg val store u a :=
  ⟨rfl, rfl, rfl⟩

example : calcOutput exampleVal true .month (some .add) (.period ⟨.year, ⟨2020, 1, 1⟩, 1⟩) = .ok 114760 := by
  rw [(C03_calculate_output_dispatch _ _ _ _).2.1, (C03_argument_kinds exampleVal true .month _ none).2.1,
    exampleAdd_2020]
  decide +kernel

/-- A variable defined per day, summed over ANY dated period — also a week or weekday period, which
    days tile although they belong to the other calendar family: when ADD returns, it returns the sum
    of the variable over the consecutive one-day pieces that cover exactly the days of the period.
    (The same holds for a per-`weekday` variable over month, week, day and weekday periods.) -/
theorem C03_add_days_any_unit (val : Period → Int) (store : Bool) (u : DUnit) (p : Period) (hp : p.WF)
    (hu : u = .day ∨ (u = .weekday ∧ p.unit ≠ .year))
    (r : Int) (h : calcAdd val store u p = .ok r) :
    ∃ qs, p.subperiods u = .ok qs ∧ Tiles qs p.lo p.hi ∧ (∀ q ∈ qs, q.unit = u ∧ q.size = 1) ∧
      r = (qs.map val).sum := by
  obtain ⟨-, -, -, qs, hq, hr⟩ := calcAdd_eq_ok.1 h
  obtain ⟨ht, hq1⟩ := C04_subperiods_days_any_unit p u hp hu qs hq
  exact ⟨qs, hq, ht, hq1, hr⟩

example : calcAdd exampleVal true .day ⟨.week, ⟨2020, 12, 28⟩, 1⟩ = .ok 68327 := by decide +kernel

/-- ADD is coherent across levels: a per-day variable summed over a year (or several months) is the sum,
    month by month, of the same variable summed over each month — the days of the months are exactly
    the days of the year (`C04_subperiods_transitive`). -/
theorem C03_add_nested (val : Period → Int) (store : Bool) (p : Period) (hp : p.WF)
    (hu : p.unit = .year ∨ p.unit = .month) (hal : p.start.d = 1)
    (ms : List Period) (hm : p.subperiods .month = .ok ms)
    (rs : List Int) (hrs : ms.mapM (calcAdd val store .day) = .ok rs)
    (r : Int) (h : calcAdd val store .day p = .ok r) : r = rs.sum := by
  obtain ⟨-, -, -, ds, hds, rfl⟩ := calcAdd_eq_ok.1 h
  obtain ⟨dss, hP, hS⟩ := calcAdd_mapM_pieces hrs
  rw [hS, (C04_subperiods_transitive p hp hu hal ms hm dss hP).2.2 ds hds]

example : (Period.mk .month ⟨2020, 2, 1⟩ 2).subperiods .month = .ok [⟨.month, ⟨2020, 2, 1⟩, 1⟩, ⟨.month, ⟨2020, 3, 1⟩, 1⟩] ∧
    [Period.mk .month ⟨2020, 2, 1⟩ 1, ⟨.month, ⟨2020, 3, 1⟩, 1⟩].mapM (calcAdd exampleVal true .day) = .ok [273789, 293601] ∧
    calcAdd exampleVal true .day ⟨.month, ⟨2020, 2, 1⟩, 2⟩ = .ok (273789 + 293601) := by
  have hm : (Period.mk .month ⟨2020, 2, 1⟩ 2).subperiods .month =
      .ok [⟨.month, ⟨2020, 2, 1⟩, 1⟩, ⟨.month, ⟨2020, 3, 1⟩, 1⟩] := by decide +kernel
  have hrs : [Period.mk .month ⟨2020, 2, 1⟩ 1, ⟨.month, ⟨2020, 3, 1⟩, 1⟩].mapM (calcAdd exampleVal true .day) =
      .ok [273789, 293601] := by
    simp only [List.mapM_cons, List.mapM_nil, exampleAdd_feb, exampleAdd_mar]; rfl
  -- the sum over the two months is not evaluated: it exists (`C03_add_accepts`) and is the sum of the two (`C03_add_nested`)
  obtain ⟨r, hr⟩ := C03_add_accepts exampleVal true .day ⟨.month, ⟨2020, 2, 1⟩, 2⟩ (by decide +kernel)
    (by decide +kernel) rfl (by decide)
  refine ⟨hm, hrs, ?_⟩
  rw [hr, C03_add_nested exampleVal true _ (by decide +kernel) (.inr rfl) rfl _ hm _ hrs r hr]; rfl

/-- A variable of any dated definition unit divided over ONE DAY — also a per-week variable, which lies
    in the other calendar family: when DIVIDE returns, it returns the variable's value for `c`, the
    definition-unit-long period aligned to its unit that contains that day, divided by the number of days
    of `c` (7 for a week, 28–31 for a month, 365/366 for a year, 1 for a day or weekday). -/
theorem C03_divide_over_day_any_unit (val : Period → Int) (store : Bool) (u : DUnit) (p : Period) (hp : p.WF)
    (hd : p.unit = .day) (r : Rat) (h : calcDivide val store u p = .ok r) :
    ∃ (c : Period) (n : Int), enclosing u p = .ok c ∧ c.WF ∧ c.unit = u ∧ c.size = 1 ∧ AlignedTo c.start u ∧
      c.lo ≤ p.lo ∧ p.hi ≤ c.hi ∧ n = c.hi - c.lo + 1 ∧ 1 ≤ n ∧ r = (val c : Rat) / (n : Rat) ∧
      (u = .week → n = 7) := by
  obtain ⟨hs, c, n, hc, hn, hr, hcwf, hcu, hcs, hcal, hclo, hchi⟩ := calcDivide_ok_inv hp.2.1 h
  have hlohi := lo_le_hi c hcwf
  rw [hd] at hn
  have hdays : n = c.hi - c.lo + 1 := (C04_days_count c hcwf n).2 hn
  have hphi := hi_eq_lo_of_day hs (.inl hd)
  refine ⟨c, n, hc, hcwf, hcu, hcs, hcal, hclo, by omega, hdays, by omega, hr, fun hwk => ?_⟩
  have := (C04_size_in_smaller_unit c hcwf).2.2.1 (by rw [hcu, hwk])
  omega

example : calcDivide exampleVal true .week ⟨.day, ⟨2021, 1, 3⟩, 1⟩ = .ok 1394 := by decide +kernel

end OFCore
