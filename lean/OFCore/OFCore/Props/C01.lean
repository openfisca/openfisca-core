import OFCore.Lemmas.EngineStore
import OFCore.RuleSys
import OFCore.PeriodSpec
import OFCore.Lemmas.RuleSysCoherent
import OFCore.Lemmas.RuleSysRanked
import OFCore.Lemmas.EngineTotal
import OFCore.Lemmas.EngineAdd
/-!
# C01 — a calculated value equals the rule system's meaning on the given inputs

`Engine.den` is the meaning (cache-less, context-free): input wins, no formula in force ⇒ the
declared default, otherwise the formula in force applied to recursively evaluated dependencies,
the result cast to the declared type.  `Engine.run` / `request` is the machine (cache, stack,
cycle check, spiral heuristic, purge).  `RuleSys.elabSys` computes which formula is in force.

The rule systems quantified over are those whose *variables* form a DAG (`VarRanked`), any
`max_spiral_loops ≥ 1`; all populations, inputs, states reachable by earlier requests.
-/
set_option linter.unusedSectionVars false
namespace OFCore
open OFCore.Engine OFCore.RuleSys

variable {P : Type} [DecidableEq P]

/-- From ANY consistent state (in particular any state reached by earlier requests), a top-level
    request returns the meaning, keeps the state consistent, leaves the stack empty and nothing
    marked for deletion. -/
theorem C01_calculate_eq_den (sys : Sys P) (hk : SlotCoherent sys) (rk : Nat → Nat) (hr : VarRanked sys rk) (hmsl : 1 ≤ sys.msl)
    (n : Nat) (s : St P) (hc : Cons sys s.cache) (hs : s.stack = []) (hi : s.inval = [])
    (v : Nat) (p : P) (r : Res) (hd : den sys n v p = some r) :
    ∃ s', request sys n s (v, p) = some (r, false, s') ∧ Cons sys s'.cache ∧ s'.stack = [] ∧ s'.inval = [] := by
  obtain ⟨s', h1, h2, h3, h4⟩ := run_eq_den sys hk rk hr hmsl n s v p r hc (by rw [hs]; intro j hj; cases hj) hi hd
  exact ⟨s', (request_of_stack_nil hs).2 ⟨s', h1, (purge_of_inval_nil sys s' h4).symm⟩, h2, h3.trans hs, h4⟩

/-- Unconditional form: in a system whose variables form a DAG every node HAS a meaning, reached
    with `rk v + 1` units of fuel, and the request returns it.  (No "if the meaning exists".) -/
theorem C01_calculate_total (sys : Sys P) (hk : SlotCoherent sys) (rk : Nat → Nat) (hr : VarRanked sys rk)
    (hmsl : 1 ≤ sys.msl) (s : St P) (hc : Cons sys s.cache) (hs : s.stack = []) (hi : s.inval = [])
    (v : Nat) (p : P) :
    ∃ r s', den sys (rk v + 1) v p = some r ∧ request sys (rk v + 1) s (v, p) = some (r, false, s') ∧
      Cons sys s'.cache ∧ s'.stack = [] ∧ s'.inval = [] := by
  obtain ⟨r, hd⟩ := den_total sys rk hr (rk v) v p (Nat.le_refl _)
  obtain ⟨s', h1, h2, h3, h4⟩ := C01_calculate_eq_den sys hk rk hr hmsl (rk v + 1) s hc hs hi v p r hd
  exact ⟨r, s', hd, h1, h2, h3, h4⟩

/-- The same for every finite sequence of requests, successful or not: each one returns its
    meaning, whatever was requested before (every reachable state is consistent). -/
theorem C01_requests_eq_den (sys : Sys P) (hk : SlotCoherent sys) (rk : Nat → Nat) (hr : VarRanked sys rk) (hmsl : 1 ≤ sys.msl)
    (n : Nat) (krs : List (Node P × Res)) (hd : ∀ kr ∈ krs, den sys n kr.1.1 kr.1.2 = some kr.2) :
    ∀ s : St P, Cons sys s.cache → s.stack = [] → s.inval = [] →
      ∃ s', requests sys n s (krs.map (·.1)) = some (krs.map (·.2), s') ∧
        Cons sys s'.cache ∧ s'.stack = [] ∧ s'.inval = [] := by
  induction krs with
  | nil => intro s hc hs hi; exact ⟨s, rfl, hc, hs, hi⟩
  | cons kr krs ih =>
    intro s hc hs hi
    obtain ⟨s1, h1, hc1, hs1, hi1⟩ :=
      C01_calculate_eq_den sys hk rk hr hmsl n s hc hs hi kr.1.1 kr.1.2 kr.2 (hd kr List.mem_cons_self)
    obtain ⟨s2, h2, hc2, hs2, hi2⟩ := ih (fun kr' hkr' => hd kr' (List.mem_cons_of_mem _ hkr')) s1 hc1 hs1 hi1
    exact ⟨s2, requests_cons_some.2 ⟨_, _, _, _, h1, h2, rfl⟩, hc2, hs2, hi2⟩

/-- The hypothesis `SlotCoherent` is met by every elaborated declarative system whose eternal
    variables are well-formed (no end date, formulas in force at every date, reading only fixed
    periods or other eternal variables): values stored under ETERNITY mean the same whatever
    period they were requested for.  (Trivially met when no variable is eternal.) -/
theorem C01_elab_slotCoherent (d : Decl) (armed : List Nat) (hwf : EternalWF d) :
    SlotCoherent (elabSys d armed) :=
  slotCoherent_of_elab d (elabSys d armed) (elabExpr d) (PeriodFree d) (fun _ _ => rfl)
    (fun _ _ hv => congrFun (elabSys_declared hv).2.1)
    (elab_input_eternal d armed) hwf fun n ih e => by
      induction e with
      | const k => intro ent p p' _; rfl
      | var w pt add => intro ent p p' hpf; exact denE_read_indep d _ n ih ent w pt add p p' hpf
      | op1 o a iha =>
        intro ent p p' hpf
        simp only [elabExpr, denE_op1]
        rw [iha _ p p' hpf]
      | op2 o a b iha ihb =>
        intro ent p p' hpf
        simp only [elabExpr, denE_op2]
        rw [iha _ p p' hpf.1, ihb _ p p' hpf.2]
      | fail id a iha =>
        intro ent p p' hpf
        simp only [elabExpr, denE_fail]
        rw [iha _ p p' hpf]

/-- the initial state is consistent -/
theorem C01_init_consistent (sys : Sys P) : Cons sys (St.init : St P).cache ∧
    (St.init : St P).stack = [] ∧ (St.init : St P).inval = [] :=
  ⟨by intro v p x g h; simp [St.init, lookup] at h, rfl, rfl⟩

/-- A supplied input takes precedence over the formula, in the meaning and in the machine. -/
theorem C01_input_precedence (sys : Sys P) (v : Nat) (p : P) (x : Val) (hin : sys.input v p = some x) :
    (∀ n, den sys (n+1) v p = some (.ok x)) ∧
    (∀ n s, lookup s.cache (sys.slot (v, p)) = none → run sys (n+1) s v p = some (.ok x, false, s)) :=
  ⟨fun _ => den_input hin, fun _ _ hl => run_input hl hin⟩

/-- A variable with no formula in force (none declared, none started yet, or past its end date)
    yields its declared default, cast to its type. -/
theorem C01_default_when_no_formula (sys : Sys P) (v : Nat) (p : P) (hin : sys.input v p = none)
    (hf : sys.formula v p = none) : ∀ n, den sys (n+1) v p = some (.ok (sys.post v (sys.dflt v))) :=
  fun _ => den_default hin hf

/-- Otherwise the value is the formula in force applied to the meanings of its reads, cast. -/
theorem C01_formula_applied (sys : Sys P) (v : Nat) (p : P) (e : Expr P) (hin : sys.input v p = none)
    (hf : sys.formula v p = some e) (n : Nat) (x : Val) (he : denE sys n e = some (.ok x)) :
    den sys (n+1) v p = some (.ok (sys.post v x)) :=
  den_formula_some hin hf he

/-- The formula in force at a date is the one with the greatest start on or before it; there is
    none before the first start, and none after the variable's end date. -/
theorem C01_formula_in_force (v : Var) (o : Int) :
    (∀ e, formulaInForce v o = some e →
        (∀ en, v.endOrd = some en → o ≤ en) ∧
        ∃ s, (s, e) ∈ v.formulas ∧ s ≤ o ∧ ∀ f ∈ v.formulas, f.1 ≤ o → f.1 ≤ s) ∧
    (formulaInForce v o = none →
        (∃ en, v.endOrd = some en ∧ en < o) ∨ ∀ f ∈ v.formulas, ¬ f.1 ≤ o) := by
  have hp := pick_spec v o
  rcases formulaInForce_cases v o with ⟨en, hen, hlt, hn⟩ | ⟨hle, he⟩
  · rw [hn]; exact ⟨nofun, fun _ => .inl ⟨en, hen, hlt⟩⟩
  · rw [he]; exact ⟨fun e h => ⟨hle, hp.1 e h⟩, fun hn => .inr (hp.2 hn)⟩

/-- Past its end date a variable has no formula in force, whatever formulas it declares. -/
theorem C01_default_past_end (v : Var) (o en : Int) (he : v.endOrd = some en) (ho : en < o) :
    formulaInForce v o = none := by
  rcases formulaInForce_cases v o with ⟨_, _, _, hn⟩ | ⟨hle, _⟩
  · exact hn
  · have := hle en he; omega

/-- A neutralised variable reads as its default everywhere, ignoring inputs and formulas. -/
theorem C01_neutralized_default (d : Decl) (armed : List Nat) (v : Nat) (vv : Var) (p : Period)
    (hv : d.vars[v]? = some vv) (hn : vv.neutralized = true) :
    ∀ n, den (elabSys d armed) (n+1) v p = some (.ok (List.replicate (d.size vv.entity) vv.dflt)) := by
  intro n
  have : (elabSys d armed).input v p = some (List.replicate (d.size vv.entity) vv.dflt) := by
    rw [(elabSys_declared hv).1]; exact if_pos hn
  exact den_input this

/-- The result of a formula (or the default) has the variable's declared type: it is a cast
    value; for a boolean variable every element is 0 or 1. -/
theorem C01_result_type (d : Decl) (armed : List Nat) (v : Nat) (vv : Var) (p : Period) (n : Nat) (x : Val)
    (hv : d.vars[v]? = some vv) (hin : (elabSys d armed).input v p = none)
    (h : den (elabSys d armed) n v p = some (.ok x)) :
    (∃ y, x = castTo vv.vtype y) ∧ (vv.vtype = .bool → ∀ a ∈ x, a = 0 ∨ a = 1) := by
  obtain ⟨y, rfl⟩ := den_ok_post hin h
  rw [(elabSys_declared hv).2.2.2]
  refine ⟨⟨y, rfl⟩, fun hb a ha => ?_⟩
  rw [hb] at ha
  simp only [castTo, List.mem_map] at ha
  obtain ⟨b, _, rfl⟩ := ha
  split <;> simp

/-- A request that comes back to a node still being computed is refused with a circular-
    definition error (instead of returning a number), and the error propagates to the caller. -/
theorem C01_cycle_refused (sys : Sys P) (n : Nat) (s : St P) (v : Nat) (p : P)
    (hl : lookup s.cache (sys.slot (v, p)) = none) (hin : sys.input v p = none) (hon : (v, p) ∈ s.stack) :
    run sys (n+1) s v p = some (.error .cycle, false, s) :=
  run_cycle hl hin hon

/-- a variable that reads itself at the same period: the top-level request returns `cycle`,
    stores nothing and leaves the initial state as it was -/
theorem C01_self_cycle_refused (sys : Sys P) (n : Nat) (v : Nat) (p : P) (hin : sys.input v p = none)
    (hf : sys.formula v p = some (.ref v p)) (hmsl : 1 ≤ sys.msl) :
    request sys (n+2) St.init (v, p) = some (.error .cycle, false, St.init) := by
  have hfr : Fresh sys (St.init : St P) v p :=
    ⟨rfl, hin, List.not_mem_nil, by simp only [St.init, List.filter_nil, List.length_nil]; omega⟩
  have h1 := C01_cycle_refused sys n (⟨[], [(v, p)], []⟩ : St P) v p rfl hin List.mem_cons_self
  exact (request_of_stack_nil rfl).2 ⟨_, run_formula_error hfr hf (by rw [runE_ref]; exact h1), rfl⟩

/-- The ADD option.  `population(w, q, options=[ADD])` (and `calculate_add`) means the sum, in
    order, of the meanings of `w` over the pieces `q.get_subperiods(w.definition_period)`:
    whenever the guards pass (definition period not heavier than the requested one, neither side
    eternal) and every piece is a definition-period-long period with a value, the read has the
    element-wise sum of those values.  (That the pieces of an aligned same-family period are
    such periods and tile `q` exactly is `C04_subperiods_tile`.) -/
theorem C01_add_is_sum (d : Decl) (armed : List Nat) (n w : Nat) (wv : Var) (q s : Period) (ss : List Period)
    (val : Period → Val) (hw : d.vars[w]? = some wv)
    (hwt : ¬ unitWeight wv.unit > unitWeight q.unit) (hne : wv.unit ≠ .eternity) (hq : q.unit ≠ .eternity)
    (hsub : q.subperiods wv.unit = .ok (s :: ss))
    (hunit : ∀ t ∈ s :: ss, t.unit = wv.unit ∧ t.size = 1)
    (hval : ∀ t ∈ s :: ss, den (elabSys d armed) n w t = some (.ok (val t))) :
    denE (elabSys d armed) n (elabRead d w (.ok q) true)
      = some (.ok (ss.foldl (fun acc t => vecAdd acc (val t)) (val s))) := by
  have hserved : ∀ t ∈ s :: ss, servedPeriod wv.unit t = .ok t := by
    intro t ht
    obtain ⟨h1, h2⟩ := hunit t ht
    simp [servedPeriod, hne, h1, h2]
  have hf2 : ∀ a b, (elabSys d armed).f2 0 a b = vecAdd a b := by
    intro a b; simp [elabSys, f2, vecAdd]
  have hfold : ss.foldl (fun acc t => vecAdd acc (val t)) (val s)
      = ss.foldl (fun acc t => (elabSys d armed).f2 0 acc (val t)) (val s) := by simp [hf2]
  unfold elabRead
  simp only [hw, hwt, hne, hq, hsub, if_true, if_false]
  rw [hfold]
  apply denE_foldl_op2 (elabSys d armed) n 0 _ val ss
  · rw [hserved s (by simp)]
    simpa only [denE_ref] using hval s (by simp)
  · intro t ht
    rw [hserved t (by simp [ht])]
    simpa only [denE_ref] using hval t (by simp [ht])

/-- a monthly variable with inputs 10 and 20 summed over a two-month period: the hypotheses of
    `C01_add_is_sum` are met and the read means 30 -/
def addDemo : Decl :=
  { nP := 1, nG := 1, mem := [0], msl := 1,
    vars := [⟨0, .int, .month, 7, false, none, false, []⟩],
    inputs := [(0, ⟨.month, ⟨2018, 1, 1⟩, 1⟩, [10]), (0, ⟨.month, ⟨2018, 2, 1⟩, 1⟩, [20])] }

example : denE (elabSys addDemo []) 3 (elabRead addDemo 0 (.ok ⟨.month, ⟨2018, 1, 1⟩, 2⟩) true) = some (.ok [30]) := by
  exact C01_add_is_sum addDemo [] 3 0 ⟨0, .int, .month, 7, false, none, false, []⟩
    ⟨.month, ⟨2018, 1, 1⟩, 2⟩ ⟨.month, ⟨2018, 1, 1⟩, 1⟩ [⟨.month, ⟨2018, 2, 1⟩, 1⟩]
    (fun t => if t.start.m = 1 then [10] else [20]) rfl (by decide) (by decide) (by decide) (by decide)
    (by intro t ht; simp at ht; rcases ht with rfl | rfl <;> exact ⟨rfl, rfl⟩)
    (by intro t ht; simp at ht; rcases ht with rfl | rfl <;> exact den_input (by decide))

example : ∃ x, den (elabSys ⟨1, 1, [0], 1,
    [⟨0, .int, .month, 7, false, none, false, []⟩,
     ⟨0, .int, .month, 0, false, none, false, [(1, .op2 0 (.var 0 .same false) (.const 1))]⟩],
    [(0, ⟨.month, ⟨2018, 1, 1⟩, 1⟩, [10])], []⟩ []) 5 1 ⟨.month, ⟨2018, 1, 1⟩, 1⟩ = some (.ok x) ∧ x = [11] := by
  refine ⟨_, ?_, rfl⟩
  rw [den_formula (e := .op2 0 (.ref 0 ⟨.month, ⟨2018, 1, 1⟩, 1⟩) (.const [1])) (by decide) (by rfl), denE_op2, denE_ref,
    den_input (x := [10]) (by decide), denE_const]
  rfl

/-! The extended language: DIVIDE reads and requests, parameters (`RuleSys.xelabSys`).  Every theorem above about
`Engine.den` / `request` is stated for an arbitrary node-level system and therefore covers `xelabSys` as it covers
`elabSys`. -/

/-- What a DIVIDE request is served by (`Simulation.calculate_divide`): it is accepted exactly for
    a dated variable and a one-unit-long period not longer than the variable's definition period;
    the variable is then computed for its definition-period-long period `c` around the start of
    the requested period, and the denominator is the (positive) number of requested units `c` is
    made of. -/
theorem C01_divide_target (d : Decl) (w : Nat) (q : Period) (k : Node Period) (m : Nat)
    (h : divideTarget d w q = .ok (k, m)) :
    ∃ wv c n, d.vars[w]? = some wv ∧ ¬ (unitWeight wv.unit < unitWeight q.unit) ∧ q.size = 1 ∧
      wv.unit ≠ .eternity ∧ q.unit ≠ .eternity ∧
      divPeriod wv.unit q = .ok c ∧ divDenominator q.unit c = .ok n ∧ 0 < n ∧ m = n.toNat ∧
      servedPeriod wv.unit c = .ok k.2 ∧ k.1 = w := divideTarget_spec d w q k m h

/-- The DIVIDE option.  `floor(population(w, q, options=[DIVIDE]))` means the meaning of `w` at that
    period, divided by the denominator, rounded down — element-wise. -/
theorem C01_divide_is_share (x : XDecl) (armed : List Nat) (n w : Nat) (q : Period) (k : Node Period) (m : Nat)
    (val : Val) (ht : divideTarget x.toDecl w q = .ok (k, m))
    (hval : den (xelabSys x armed) n k.1 k.2 = some (.ok val)) :
    denE (xelabSys x armed) n (elabDivide x.toDecl w (.ok q)) = some (.ok (val.map (fun a => a / (m : Int)))) ∧
    0 < m ∧ ∀ a : Int, (m : Int) * (a / (m : Int)) ≤ a ∧ a < (m : Int) * (a / (m : Int)) + (m : Int) := by
  obtain ⟨_, _, nn, _, _, _, _, _, _, _, hpos, hm, _, _⟩ := divideTarget_spec x.toDecl w q k m ht
  have hm0 : 0 < m := by omega
  refine ⟨?_, hm0, ?_⟩
  · simp only [elabDivide, ht, denE, hval]
    have : (xelabSys x armed).f1 = xf1 x.toDecl := rfl
    rw [this, xf1_div x.toDecl m hm0]
  · intro a
    have hmz : (0 : Int) < (m : Int) := by omega
    exact ⟨Int.mul_ediv_self_le (by omega), Int.lt_mul_ediv_self_add hmz⟩

/-- A DIVIDE request the guards refuse raises (it never returns a number). -/
theorem C01_divide_refused (x : XDecl) (armed : List Nat) (n w : Nat) (q : Period) (e : String)
    (ht : divideTarget x.toDecl w q = .error e) :
    denE (xelabSys x armed) n (elabDivide x.toDecl w (.ok q)) = some (.error .fault) := by
  simp only [elabDivide, ht, denE]

/-- Parameters.  The value `parameters(instant).<i>` is the dated value with the greatest start on
    or before the instant; there is none exactly when every value starts later. -/
theorem C01_param_in_force (tbl : List (Int × Int)) (o : Int) :
    (∀ k, paramAt tbl o = some k → ∃ s, (s, k) ∈ tbl ∧ s ≤ o ∧ ∀ f ∈ tbl, f.1 ≤ o → f.1 ≤ s) ∧
    (paramAt tbl o = none → ∀ f ∈ tbl, ¬ f.1 ≤ o) :=
  scan_value_spec (latestStep_isScanStep o) tbl

/-- A parameter read in a formula is that value, broadcast to the entity's size; an unknown
    parameter, or one that has no value yet at the instant, raises. -/
theorem C01_param_read (x : XDecl) (armed : List Nat) (n ent i : Nat) (q : Period) :
    (∀ k, paramValue x i (.ok q) = some k →
      denE (xelabSys x armed) n (elabParam x ent i (.ok q)) = some (.ok (List.replicate (x.size ent) k))) ∧
    (paramValue x i (.ok q) = none →
      denE (xelabSys x armed) n (elabParam x ent i (.ok q)) = some (.error .fault)) := by
  constructor
  · intro k h; simp only [elabParam, h, denE]
  · intro h; simp only [elabParam, h, denE]

/-- … read at the START of the period handed to `parameters(…)` -/
theorem C01_param_at_period_start (x : XDecl) (i : Nat) (q : Period) (tbl : List (Int × Int))
    (hi : x.params[i]? = some tbl) (hq : q.unit ≠ .eternity) :
    paramValue x i (.ok q) = paramAt tbl (ord q.start) := by
  simp [paramValue, hi, hq]

/-- The extension is conservative: an expression of the plain language elaborates under `xelabSys`
    exactly as it does under `elabSys`. -/
theorem C01_extension_conservative (x : XDecl) (p : Period) (e : DExpr) (ent : Nat) (h : Plain e) :
    xelabExpr x ent p e = elabExpr x.toDecl ent p e := xelabExpr_plain x p e ent h

/-- "For all acyclic rule systems": a declarative system in which every formula of a variable reads
    only variables of strictly lower rank — through plain reads, ADD or DIVIDE reads, projections
    and aggregations, at whatever periods — meets `VarRanked`; when its eternal variables are
    well-formed (`XEternalWF`: no end date, undated formulas, reads at fixed periods or of other
    eternal variables; vacuous without eternal variable) it meets `SlotCoherent` too, so that EVERY
    request has a meaning and returns it, from every reachable state (no hypothesis left on the
    node-level system). -/
theorem C01_acyclic_declaration_total (x : XDecl) (armed : List Nat) (rk : Nat → Nat) (hr : DeclRanked x rk)
    (hwf : XEternalWF x) (hmsl : 1 ≤ x.msl)
    (s : St Period) (hc : Cons (xelabSys x armed) s.cache) (hs : s.stack = []) (hi : s.inval = [])
    (v : Nat) (p : Period) :
    ∃ r s', den (xelabSys x armed) (rk v + 1) v p = some r ∧
      request (xelabSys x armed) (rk v + 1) s (v, p) = some (r, false, s') ∧
      Cons (xelabSys x armed) s'.cache ∧ s'.stack = [] ∧ s'.inval = [] :=
  C01_calculate_total (xelabSys x armed) (xelabSys_slotCoherent x armed hwf) rk
    (xelabSys_varRanked x armed rk hr) hmsl s hc hs hi v p

/-- the extended systems meet the coherence hypothesis of every theorem above -/
theorem C01_xelab_slotCoherent (x : XDecl) (armed : List Nat) (hwf : XEternalWF x) :
    SlotCoherent (xelabSys x armed) := xelabSys_slotCoherent x armed hwf

/-- a yearly variable with inputs 25 and −25, a parameter worth 3 from 2017 and 5 from 2018-02-01,
    a monthly variable `floor(v0 / 12) + p`: at 2018-03 the share is ⌊25/12⌋ = 2 and ⌊−25/12⌋ = −3,
    the parameter 5 -/
def divDemo : XDecl :=
  { nP := 2, nG := 1, mem := [0, 0], msl := 1,
    vars := [⟨0, .float, .year, 0, false, none, false, []⟩,
             ⟨0, .int, .month, 0, false, none, false,
               [(1, .op2 0 (.op1 OP_DIVIDE (.var 0 .same false)) (.op1 OP_PARAM (.var 0 .same false)))]⟩],
    inputs := [(0, ⟨.year, ⟨2018, 1, 1⟩, 1⟩, [25, -25])],
    params := [[(736330, 3), (736726, 5)]] }

example : divideTarget divDemo.toDecl 0 ⟨.month, ⟨2018, 3, 1⟩, 1⟩ = .ok ((0, ⟨.year, ⟨2018, 1, 1⟩, 1⟩), 12) := by
  decide +kernel

example : paramValue divDemo 0 (.ok ⟨.month, ⟨2018, 3, 1⟩, 1⟩) = some 5 ∧
    paramValue divDemo 0 (.ok ⟨.month, ⟨2018, 1, 1⟩, 1⟩) = some 3 ∧
    paramValue divDemo 0 (.ok ⟨.month, ⟨2016, 1, 1⟩, 1⟩) = none := by decide +kernel

example : XEternalWF divDemo := by
  intro v vv hv hu
  match v, hv with
  | 0, hv => simp [divDemo] at hv; subst hv; cases hu
  | 1, hv => simp [divDemo] at hv; subst hv; cases hu
  | n+2, hv => simp [divDemo] at hv

example : DeclRanked divDemo (fun v => v) := declRanked_of_test _ _ (by decide)

end OFCore
