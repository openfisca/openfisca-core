import OFCore.Lemmas.Requests
import OFCore.Lemmas.TieGuards
/-!
# C03 — the model's request decisions are the ones the code's source states (translator tie)

`OFCore.Generated.Guards` is regenerated on every run from the source of
`Simulation._check_period_consistency`, `calculate_add`, `calculate_divide` and `Holder._set`
(`harness/ofverif/translate.py`: AST -> Lean, guard chains and selector chains).  The theorems below
state that the hand-written model of `AddDivide.lean` — the one every `C03_…` theorem is about — takes
exactly those decisions, for every definition unit, every requested unit and every size.  A changed
branch of the code changes `Generated.Guards`, hence re-states them.
-/
namespace OFCore
open OFCore.Generated

theorem Tie.dated_eq (u : DUnit) : Tie.dated u = isDated u := rfl

theorem checkPeriodConsistency_toBool (du : DUnit) (p : Period) :
    (checkPeriodConsistency du p).toBool = !Tie.consistencyGuards du p.unit p.size := by
  rw [Bool.eq_iff_iff]
  cases du <;> simp [checkPeriodConsistency, Tie.consistencyGuards, apply_ite Except.toBool, toBool_ok, toBool_error]

theorem holderStoreCheck_toBool (du : DUnit) (p : Period) :
    (holderStoreCheck du p).toBool = !Tie.holderSetGuards du p.unit p.size := by
  rw [Bool.eq_iff_iff]
  by_cases h : du = .eternity <;> simp [holderStoreCheck, Tie.holderSetGuards, apply_ite Except.toBool, toBool_ok, toBool_error, h]

theorem enclosing_eq_named (du : DUnit) (p : Period) :
    enclosing du p = Tie.namedPeriod (Tie.enclosingName du) p := by
  cases du <;> simp [enclosing, Tie.namedPeriod, Tie.enclosingName]

theorem denominator_eq_named (pu : DUnit) (c : Period) :
    denominator pu c = Tie.namedSize (Tie.denominatorName pu) c := by
  cases pu <;> simp [denominator, Tie.namedSize, Tie.denominatorName]

/-- `_check_period_consistency`: the model accepts exactly the (definition unit, period) pairs on which
    none of the code's guards raises -/
theorem C03_tie_check_period_consistency (du : DUnit) (p : Period) :
    (checkPeriodConsistency du p).toBool = !Guards.checkPeriodConsistency_raises du p.unit p.size := by
  rw [checkPeriodConsistency_raises_eq, checkPeriodConsistency_toBool]

/-- `Holder._set`: the model's store check accepts exactly when none of the code's guards raises -/
theorem C03_tie_holder_set (du : DUnit) (p : Period) :
    (holderStoreCheck du p).toBool = !Guards.holderSet_raises du p.unit p.size := by
  rw [holderSet_raises_eq, holderStoreCheck_toBool]

/-- `calculate_add`: whenever one of the code's three guards raises, the model refuses -/
theorem C03_tie_calculate_add_refuses (val : Period → Int) (store : Bool) (du : DUnit) (p : Period)
    (h : Guards.calculateAdd_raises du p.unit p.size = true) :
    ∃ e, calcAdd val store du p = .error e := by
  simp only [calculateAdd_raises_eq, Tie.addGuards, Tie.dated_eq, Bool.or_eq_true,
    decide_eq_true_eq] at h
  rcases h with (h | h) | h
  · exact calcAdd_refuses val store du p (.inl h)
  · exact calcAdd_refuses val store du p (.inr (.inl (isDated_false_iff.1 h)))
  · exact calcAdd_refuses val store du p (.inr (.inr (isDated_false_iff.1 h)))

/-- `calculate_add`: when none of them raises, the model sums the variable over the sub-periods -/
theorem C03_tie_calculate_add_serves (val : Period → Int) (store : Bool) (du : DUnit) (p : Period)
    (h : Guards.calculateAdd_raises du p.unit p.size = false) :
    calcAdd val store du p = (do
      let qs ← p.subperiods du
      let vs ← qs.mapM (calcPlain val store du)
      .ok vs.sum) := by
  simp only [calculateAdd_raises_eq, Tie.addGuards, Tie.dated_eq, Bool.or_eq_false_iff,
    decide_eq_false_iff_not] at h
  obtain ⟨⟨h1, h2⟩, h3⟩ := h
  simp only [calcAdd, if_neg h1, h2, h3, Bool.false_eq_true, if_false]

/-- `calculate_divide`: whenever one of the code's three guards raises, the model refuses -/
theorem C03_tie_calculate_divide_refuses (val : Period → Int) (store : Bool) (du : DUnit) (p : Period)
    (h : Guards.calculateDivide_raises du p.unit p.size = true) :
    ∃ e, calcDivide val store du p = .error e := by
  simp only [calculateDivide_raises_eq, Tie.divideGuards, Tie.dated_eq, Bool.or_eq_true,
    decide_eq_true_eq] at h
  refine calcDivide_guard val store du p ?_
  rcases h with ((h | h) | h) | (h | h)
  · exact .inl h
  · exact .inr (.inl (by omega))
  · exact .inr (.inr (.inl (isDated_false_iff.1 h)))
  · exact .inr (.inr (.inr (isDated_false_iff.1 h)))
  · exact .inr (.inl h)

/-- `calculate_divide`: when none raises, the model computes the variable for the period the code
    selects (`this_year`, `first_month`, …) and divides by the size the code selects
    (`size_in_years`, `size_in_months`, …) -/
theorem C03_tie_calculate_divide_serves (val : Period → Int) (store : Bool) (du : DUnit) (p : Period)
    (h : Guards.calculateDivide_raises du p.unit p.size = false) :
    calcDivide val store du p = (do
      let c ← Tie.namedPeriod (Guards.calculateDivide_period du) p
      let n ← Tie.namedSize (Guards.calculateDivide_denominator p.unit) c
      let v ← calcPlain val store du c
      .ok ((v : Rat) / (n : Rat))) := by
  simp only [calculateDivide_raises_eq, Tie.divideGuards, Tie.dated_eq, Bool.or_eq_false_iff,
    decide_eq_false_iff_not] at h
  obtain ⟨⟨h1, h2⟩, h3⟩ := h
  rw [calculateDivide_period_eq, calculateDivide_denominator_eq, ← enclosing_eq_named]
  simp only [← denominator_eq_named, calcDivide, if_neg h1, h2, h3, Bool.false_eq_true, or_self,
    if_false]

-- non-vacuity: a request the code serves and one it refuses
example : Guards.calculateAdd_raises .month .year 1 = false := by decide +kernel
example : Guards.calculateAdd_raises .year .month 1 = true := by decide +kernel
example : Guards.calculateDivide_raises .year .month 1 = false ∧ Guards.calculateDivide_period .year = "this_year" := by decide +kernel
example : Guards.checkPeriodConsistency_raises .day .month 1 = true := by decide +kernel

end OFCore
