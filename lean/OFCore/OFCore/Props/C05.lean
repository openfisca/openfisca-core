import OFCore.Lemmas.TextRound
/-!
# C05 — period and instant text forms round-trip and are canonical

`Period.text` is `Period.__str__`, `parsePeriod` is `periods.period(str)`, `instantText` /
`parseInstant` are `Instant.__str__` / `periods.instant(str)` (model: `PeriodText.lean`, ASCII).
The round trip holds for every aligned period with a year in 1000..9999 and every size ≥ 1
(unbounded), at the level of characters; the rejection theorems are about arbitrary strings.
-/
namespace OFCore

/-- Printing an aligned period and parsing the text back yields a period covering exactly the
    same days, with the same unit except that twelve months print as one year, and printing
    that again yields the same text. -/
theorem C05_parse_print (p : Period) (hwf : p.WF) (hal : OwnAligned p) (hdom : InTextDomain p) :
    ∃ p', parsePeriod p.text = .ok p' ∧ p'.lo = p.lo ∧ p'.hi = p.hi ∧ p'.text = p.text ∧
      (p' = p ∨ (p.unit = .month ∧ p.size = 12 ∧ p' = ⟨.year, p.start, 1⟩)) := by
  refine ⟨canon p, parse_text p hwf hal hdom, ?_⟩
  unfold canon
  split
  · rename_i h
    obtain ⟨hu, hs⟩ := h
    refine ⟨rfl, ?_, ?_, Or.inr ⟨hu, hs, rfl⟩⟩
    · simp only [Period.hi, hu, hs, Int.mul_one]
    · simp only [Period.text, hu, hs, reduceCtorEq, and_self, or_true, true_or, if_true, if_false]
  · exact ⟨rfl, rfl, rfl, Or.inl rfl⟩

example : (Period.mk .month ⟨2015, 3, 1⟩ 12).WF ∧ OwnAligned ⟨.month, ⟨2015, 3, 1⟩, 12⟩ ∧
    InTextDomain ⟨.month, ⟨2015, 3, 1⟩, 12⟩ ∧
    parsePeriod (Period.mk .month ⟨2015, 3, 1⟩ 12).text = .ok ⟨.year, ⟨2015, 3, 1⟩, 1⟩ := by
  refine ⟨by decide, rfl, ⟨by decide, by decide, by intro h; rcases h with h | h <;> cases h⟩, by decide +kernel⟩

/-- Two aligned periods of the same unit that differ in start or size never print the same. -/
theorem C05_print_injective (p q : Period) (hp : p.WF) (hq : q.WF) (hap : OwnAligned p)
    (haq : OwnAligned q) (hdp : InTextDomain p) (hdq : InTextDomain q) (hu : p.unit = q.unit)
    (ht : p.text = q.text) : p = q := by
  have h := parse_text p hp hap hdp
  rw [ht, parse_text q hq haq hdq] at h
  exact canon_inj hu (Except.ok.inj h).symm

/-- Every instant prints as an ISO date that parses back to itself. -/
theorem C05_instant_roundtrip (c : Date) (hv : c.Valid) (h1 : 1000 ≤ c.y) (h2 : c.y ≤ 9999) :
    parseInstant (instantText c) = .ok c :=
  (parse_instantText c hv h1 h2).1

/-- A string that spells an impossible calendar date (day beyond the month's length, week 53
    of a 52-week year, year 0) is rejected, as a period and as an instant. -/
theorem C05_reject_impossible_date (cs : List Char) (tok : Tok) (hl : lexIso cs = some tok)
    (hne : lower cs ≠ "eternity".toList) (hbad : tokDate tok = none) :
    (∃ e, parsePeriod cs = .error e) ∧ ∃ e', parseInstant cs = .error e' := by
  refine ⟨⟨"parse", ?_⟩, "parse", ?_⟩
  · rw [parse_plain cs tok hl]
    unfold parseIsoPeriod
    simp only [hl, hbad]
  · unfold parseInstant; simp only [hl, hbad]

example : lexIso "2015-02-30".toList = some (.ymd 2015 2 30) ∧ tokDate (.ymd 2015 2 30) = none ∧
    lexIso "2016-W53".toList = some (.yw 2016 53) ∧ tokDate (.yw 2016 53) = none := by decide +kernel

/-- A string that is neither `eternity` nor a bare ISO date is split on ':' and handed to the
    `unit:date[:size]` reader; without any ':' it is rejected. -/
theorem C05_unit_form_dispatch (cs : List Char) (h1 : lower cs ≠ "eternity".toList)
    (h2 : lexIso cs = none) :
    (∀ u mid rest, splitOn ':' cs = u :: mid :: rest → parsePeriod cs = parseUnitForm u mid rest) ∧
    (':' ∉ cs → ∃ e, parsePeriod cs = .error e) := by
  constructor
  · intro u mid rest hs
    unfold parsePeriod
    rw [if_neg h1, if_neg (by rw [h2]; simp), hs]
  · intro hn
    unfold parsePeriod
    rw [if_neg h1, if_neg (by rw [h2]; simp), splitOn_none ':' cs hn]
    exact ⟨_, rfl⟩

/-- Decision logic of the `unit:date[:size]` form: an unknown unit (or `eternity`), a date part
    that is not an ISO date, a non-integer size and extra fields are all rejected. -/
theorem C05_reject_malformed (u mid : List Char) (rest : List (List Char)) :
    ((unitOfName? (String.ofList u) = none ∨ unitOfName? (String.ofList u) = some .eternity) →
        ∃ e, parseUnitForm u mid rest = .error e) ∧
    (2 ≤ rest.length → ∃ e, parseUnitForm u mid rest = .error e) ∧
    (∀ s, rest = [s] → pyInt s = none → ∃ e, parseUnitForm u mid rest = .error e) ∧
    (lexIso mid = none → ∃ e, parseUnitForm u mid rest = .error e) := by
  refine ⟨fun hu => error_of_not_ok fun p hp => ?_, fun hr => error_of_not_ok fun p hp => ?_,
    fun s hrs hpi => error_of_not_ok fun p hp => ?_, fun hm => error_of_not_ok fun p hp => ?_⟩
  · obtain ⟨-, unit, -, -, hu', hne, -⟩ := parseUnitForm_ok_inv hp
    rcases hu with hu | hu <;> rw [hu] at hu' <;> cases hu'
    exact hne rfl
  · obtain ⟨-, -, -, n, -, -, -, hsz, -⟩ := parseUnitForm_ok_inv hp
    match rest, hr, hsz with
    | _ :: _ :: _, _, hsz => cases hsz
  · obtain ⟨-, -, -, n, -, -, -, hsz, -⟩ := parseUnitForm_ok_inv hp
    rw [hrs] at hsz; simp only [sizeField, hpi] at hsz; cases hsz
  · exact (parseUnitForm_ok_inv hp).1 hm

example : pyInt "1.5".toList = none ∧ pyInt "x".toList = none ∧ pyInt "".toList = none ∧
    unitOfName? "months" = none ∧ lexIso "2015-13".toList = none := by decide +kernel

/-- how coarse a dated unit is: a year is coarser than a month, a month than a week, a week than a
    day or a weekday (a calendar fact, independent of the code's `unit_weights`) -/
def coarseness : DUnit → Nat
  | .year => 4 | .month => 3 | .week => 2 | .day => 1 | .weekday => 1 | .eternity => 5

/-- the code's test (the weights regenerated from the source, plus the week-in-month clause of
    repair F-C05) decides exactly "the unit is finer than the date's precision" -/
theorem C05_finer_test_exact (unit base : DUnit) (hu : unit ≠ .eternity) (hb : base ≠ .eternity) :
    finerThanDate unit base = true ↔ coarseness unit < coarseness base := by
  revert unit base; decide +kernel

/-- A unit finer than the precision of the date given is rejected: `month:2014`, `day:2014-03`,
    `week:2015-01`, `weekday:2015-W01` … — every unit, every date text, every size field. -/
theorem C05_reject_finer_unit (u mid : List Char) (rest : List (List Char))
    (unit : DUnit) (base : Period)
    (hu : unitOfName? (String.ofList u) = some unit) (hb : parseIsoPeriod mid = .ok base)
    (hbe : base.unit ≠ .eternity)
    (hfiner : coarseness unit < coarseness base.unit) : ∃ e, parseUnitForm u mid rest = .error e := by
  refine error_of_not_ok fun p hp => ?_
  obtain ⟨-, unit', base', n, hu', -, hb', -, hf, -⟩ := parseUnitForm_ok_inv hp
  rw [hu] at hu'; cases hu'
  rw [hb] at hb'; cases hb'
  rw [(C05_finer_test_exact unit base.unit ?_ hbe).2 hfiner] at hf
  · cases hf
  · rintro rfl; exact absurd hfiner (by cases base.unit <;> decide)

/-- the case that was accepted before the repair (F-C05) -/
theorem C05_week_in_month_rejected :
    parsePeriod "week:2015-01".toList = .error "period" ∧ parsePeriod "week:2015-01:3".toList = .error "period" ∧
    parsePeriod "month:2015-W01".toList = .ok ⟨.month, ⟨2014, 12, 29⟩, 1⟩ := by decide +kernel

/-- An `int` year builds the same instant and the same period as its decimal text: `period(2021)` is
    `period("2021")`, the calendar year 2021. -/
theorem C05_int_is_its_text (y : Nat) (h1 : 1000 ≤ y) (h2 : y ≤ 9999) :
    periodOf (.int y) = .ok ⟨.year, ⟨y, 1, 1⟩, 1⟩ ∧
    periodOf (.str (intText y)) = periodOf (.int y) ∧
    instantOf (.str (intText y)) = instantOf (.int y) := by
  obtain ⟨ht, hc⟩ := tok_y y h1 h2
  obtain ⟨hi, hp⟩ := parse_spelling _ ht _ .year hc rfl
  rw [intText_nat]
  exact ⟨rfl, hp, hi⟩

example : periodOf (.int 2021) = parsePeriod "2021".toList := by decide +kernel

/-- A sequence of one to three integers is padded with ones, a longer one is cut after the third:
    `instant((2021,))` is 1 January 2021, `instant((2021, 9))` is 1 September 2021; the empty sequence
    is refused.  A one-element sequence is the `int`, a three-element one is the `Instant` itself. -/
theorem C05_instant_of_sequence (y m d : Int) (more : List Int) :
    instantOf (.seq []) = .error "instant" ∧
    instantOf (.seq [y]) = .ok ⟨y, 1, 1⟩ ∧ instantOf (.seq [y]) = instantOf (.int y) ∧
    instantOf (.seq [y, m]) = .ok ⟨y, m, 1⟩ ∧
    instantOf (.seq (y :: m :: d :: more)) = .ok ⟨y, m, d⟩ ∧
    instantOf (.seq [y, m, d]) = instantOf (.instant ⟨y, m, d⟩) :=
  ⟨rfl, rfl, rfl, rfl, rfl, rfl⟩

/-- An `Instant`, a `datetime.date` and an `int` year become the one-day period (the calendar year)
    beginning there: its days are exactly that day (that year). -/
theorem C05_period_of_instant (c : Date) (y : Int) :
    (∃ p, periodOf (.instant c) = .ok p ∧ p.unit = .day ∧ p.lo = ord c ∧ p.hi = ord c) ∧
    (∃ p, periodOf (.date c) = .ok p ∧ p.unit = .day ∧ p.lo = ord c ∧ p.hi = ord c) ∧
    (∃ p, periodOf (.int y) = .ok p ∧ p.unit = .year ∧ p.lo = ord ⟨y, 1, 1⟩ ∧ p.hi = ord ⟨y, 12, 31⟩) := by
  refine ⟨⟨_, rfl, rfl, rfl, ?_⟩, ⟨_, rfl, rfl, rfl, ?_⟩, ⟨_, rfl, rfl, rfl, ?_⟩⟩
  · simp only [Period.hi]; omega
  · simp only [Period.hi]; omega
  · exact hi_one_year y

/-- The two constructors agree: whenever `period(value)` builds a period from something that also
    reads as an instant (everything but the `unit:date[:size]` texts and `eternity`), `instant(value)`
    is the start of that period. -/
theorem C05_period_starts_at_instant (v : PyVal) (p : Period) (h : periodOf v = .ok p)
    (hs : ∀ cs, v = .str cs → (lexIso cs).isSome) : instantOf v = .ok p.start := by
  cases v with
  | none => cases h
  | int i => injection h with h; subst h; rfl
  | str cs =>
    obtain ⟨t, hl⟩ := Option.isSome_iff_exists.1 (hs cs rfl)
    exact parseInstant_of_iso (parse_plain cs t hl ▸ h)
  | instant c => injection h with h; subst h; rfl
  | period q => injection h with h; subst h; rfl
  | date c => injection h with h; subst h; rfl
  | seq xs => cases h
  | other => cases h

example : periodOf (.str "2022-W02-7".toList) = .ok ⟨.weekday, ⟨2022, 1, 16⟩, 1⟩ ∧
    instantOf (.str "2022-W02-7".toList) = .ok ⟨2022, 1, 16⟩ := by decide +kernel

/-- What is not period-like is refused: `None`, a sequence (even one `instant` accepts), any other object. -/
theorem C05_period_refuses (xs : List Int) :
    (∃ e, periodOf .none = .error e) ∧ (∃ e, periodOf (.seq xs) = .error e) ∧ (∃ e, periodOf .other = .error e) ∧
    (∃ e, instantOf .none = .error e) ∧ (∃ e, instantOf .other = .error e) :=
  ⟨⟨_, rfl⟩, ⟨_, rfl⟩, ⟨_, rfl⟩, ⟨_, rfl⟩, ⟨_, rfl⟩⟩

/-- `instant_date`: `None` stays `None`; an instant gives its calendar date exactly when it is one
    (real month and day, year 1..9999), and is refused otherwise. -/
theorem C05_instant_date (c : Date) :
    instantDate none = .ok none ∧
    (c.Valid ∧ c.y ≤ 9999 → instantDate (some c) = .ok (some c)) ∧
    (¬ (c.Valid ∧ c.y ≤ 9999) → ∃ e, instantDate (some c) = .error e) := by
  refine ⟨rfl, ?_, ?_⟩
  · intro hv; simp only [instantDate]; rw [if_pos ((dateOk_iff c).2 hv)]
  · intro hv; simp only [instantDate]
    rw [if_neg (fun hh => hv ((dateOk_iff c).1 hh))]; exact ⟨_, rfl⟩

example : instantDate (some ⟨2021, 2, 29⟩) = .error "date" ∧ instantDate (some ⟨2020, 2, 29⟩) = .ok (some ⟨2020, 2, 29⟩) := by
  decide +kernel

/-- An `Instant` (or a `datetime.date`) builds the same period as its own text: `period(Instant((2021, 9, 16)))`
    is `period("2021-09-16")`, that one day. -/
theorem C05_instant_is_its_text (c : Date) (hv : c.Valid) (h1 : 1000 ≤ c.y) (h2 : c.y ≤ 9999) :
    periodOf (.str (instantText c)) = periodOf (.instant c) ∧
    periodOf (.str (instantText c)) = periodOf (.date c) ∧
    instantOf (.str (instantText c)) = instantOf (.instant c) :=
  have ⟨hi, hp⟩ := parse_instantText c hv h1 h2
  ⟨hp, hp, hi⟩

example : periodOf (.instant ⟨2021, 9, 16⟩) = parsePeriod "2021-09-16".toList := by decide +kernel

end OFCore
