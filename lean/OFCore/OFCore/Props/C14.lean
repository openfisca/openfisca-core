import OFCore.Lemmas.HeapSys
import OFCore.Props.C06
/-!
# C14 — reforms and system copies leave the system they derive from untouched

Model: `OFCore/HeapSys.lean` (objects with identities); the parameter clauses go through the model and theorems of C06.

The meaning of a calculation on a system is a function of the observations of that system (what
its names resolve to — by name and through its entities —, the attributes and dated formulas of
those variables, its parameter values: `calcVal` reads nothing else; the engine itself is property
C01). "Every calculation of the original is unchanged" is therefore the corollary
`C14_base_calculations_unchanged` of "every observation of the original is unchanged".
-/
namespace OFCore
open OFCore.HeapSys OFCore.Param

namespace C14ex
def cA : ClassDef := ⟨"a", some "float", none, some "person", some "month", none, none, [(1, 1)], [], false⟩
def cB : ClassDef :=
  ⟨"b", some "float", some "5", some "person", some "month", some 736694, none, [(1, 2), (735964, 3)], [], false⟩
def params : ParamTree := [("rate", [⟨735599, some "3"⟩, ⟨733773, some "2"⟩])]
def base : State := (baseSystem ["person", "household"] params [cA, cB]).getD { heap := ⟨[]⟩, systems := [] }
/-- a partial class for `update_variable`: one new dated formula, nothing else -/
def updB : ClassDef := ⟨"b", none, none, none, none, none, none, [(736330, 4)], [], false⟩
def ops : List Op :=
  [.clone 0, .modify 1 (.neutralize "a"),
   .reform 0 [.update updB, .params [⟨"rate", 736330, none, some "9"⟩]],
   .modify 1 (.annualize "b"), .reform 2 [.neutralize "b"],
   .modify 1 (.params [⟨"rate", 736330, some 736694, some "7"⟩])]
/-- "the call returned normally" as a Boolean (for `decide`) -/
def okB {ε α : Type} : Except ε α → Bool
  | .ok _ => true
  | .error _ => false
end C14ex

/-- **Frame.** After ANY history of derivations (clone, reform, chained reform — from any system,
    original or derived) and of modifications of the derived systems (add / update / replace /
    neutralise / annualise a variable, parameter modifiers, including the ones that raise half-way),
    every object that existed before the history is the very same object, the systems that existed
    are still listed, and — the heap having no dangling reference — every observation of every
    original system is unchanged: resolution by name and through each of its entities, attributes,
    dated formulas, parameter values at all dates. By induction over the history
    (`Preserved.by_run`), with one frame lemma per operation: `clone()` (`good_cloneSys`),
    `Reform.__init__` (`good_reformInit`), and the four primitive writes every modification consists
    of (`applyMod_writes`, `ModWrite.good` along `Writes.ind`) — a modification of `X` writes only objects owned by `X`. -/
theorem C14_base_untouched (st : State) (ops : List Op)
    (hops : ∀ op ∈ ops, op.targetsDerived st.systems.length) :
    (∀ i, i < st.heap.next → (run st ops).heap.look i = st.heap.look i) ∧
    (∀ k, k < st.systems.length → (run st ops).systems[k]? = st.systems[k]?) ∧
    (Closed st.heap → ∀ b, b < st.heap.next → sysObs (run st ops).heap b = sysObs st.heap b) := by
  obtain ⟨f, k⟩ := run_frame ops (.init st.heap) (.init _ _) hops
  exact ⟨f.1, k, sysObs_agree f.1⟩

example : Closed C14ex.base.heap ∧ (∀ op ∈ C14ex.ops, op.targetsDerived C14ex.base.systems.length) ∧
    C14ex.base.systems = [2] ∧ (run C14ex.base C14ex.ops).systems = [2, 9, 17, 24] := by decide +kernel
/-- the history is not idle: the clone really neutralised `a`, the reform really changed `rate` -/
example : (varObs (run C14ex.base C14ex.ops).heap 9 "a").map (·.isNeutralized) = some true ∧
    (varObs (run C14ex.base C14ex.ops).heap 2 "a").map (·.isNeutralized) = some false ∧
    paramObs (run C14ex.base C14ex.ops).heap 17 "rate" 736400 = some "9" ∧
    paramObs (run C14ex.base C14ex.ops).heap 2 "rate" 736400 = some "3" := by decide +kernel

/-- **Every calculation of the original is unchanged**: whatever the store of inputs, the period
    and the meaning `runF` of the formula functions, the value `calcVal` computes for a variable of
    an original system — resolved by name or through any of its entities — is the same after the
    history. -/
theorem C14_base_calculations_unchanged (st : State) (ops : List Op)
    (hops : ∀ op ∈ ops, op.targetsDerived st.systems.length) (hC : Closed st.heap)
    (b : Oid) (hb : b < st.heap.next) {P : Type} (store : P → Option String) (start : P → Int)
    (runF : Fml → P → String) (p : P) (name : String) :
    (varObs (run st ops).heap b name).map (fun v => calcVal v store start runF p)
      = (varObs st.heap b name).map (fun v => calcVal v store start runF p) ∧
    (sysObs (run st ops).heap b).via.map (fun f => (f name).map (fun v => calcVal v store start runF p))
      = (sysObs st.heap b).via.map (fun f => (f name).map (fun v => calcVal v store start runF p)) := by
  have e := (C14_base_untouched st ops hops).2.2 hC b hb
  have e1 : varObs (run st ops).heap b = varObs st.heap b := congrArg SysObs.byName e
  rw [e, e1]
  exact ⟨rfl, rfl⟩

namespace C14ex
/-- an extension with a variable and a parameter of its own -/
def ext1 : Ext := ⟨"x1", [⟨"town_allowance", some "float", none, some "household", some "month", none, none, [(1, 7)], [], false⟩],
  [("town", [⟨733773, some "100"⟩])]⟩
/-- a reform that touches no parameter (it would share its baseline's tree) with an extension that
    brings parameters; then the same extension alone, twice (the second time is a cache hit); then
    the same extension after another reform -/
def runnerOps : List Op :=
  [.testRunner 0 [("r1", [.neutralize "a"])] [ext1], .testRunner 0 [] [ext1], .testRunner 0 [] [ext1],
   .testRunner 0 [("r2", [.params [⟨"rate", 736330, none, some "9"⟩]])] [ext1]]
end C14ex

/-- **The test runner's derivation leaves the baseline untouched.**
    `_get_tax_benefit_system(baseline, reforms, extensions)` (`Op.testRunner`: a `clone()` of the
    baseline, the reforms stacked on it, each extension's variables added and its parameters merged
    into the tree of the last system — in place when that system owns its tree, into a fresh copy
    when it has a baseline (repair F-C14f) —, memoised by (baseline, reform paths, extension set)).
    (1) For every state and EVERY sequence of such derivations — any baselines, any reforms (whether
    or not they modify parameters, so whether or not they share a tree), any extensions, including
    derivations that raise half-way and cache hits — every object that existed before is the same
    object afterwards, and every observation of every system that existed is unchanged; no
    hypothesis on the history is needed, because a derivation never targets an existing system.
    (2) After ANY history that modifies only derived systems, a further derivation from a baseline
    `b` — with whatever key — starts from a `clone()` that is observationally equal to the baseline
    as it was at the very beginning: it sees an unpolluted baseline. -/
theorem C14_test_runner_derivation_untouched (st : State) :
    (∀ ds : List (Nat × List (String × List Mod) × List Ext),
      let st' := run st (ds.map fun d => Op.testRunner d.1 d.2.1 d.2.2)
      (∀ i, i < st.heap.next → st'.heap.look i = st.heap.look i) ∧
      (Closed st.heap → ∀ b, b < st.heap.next → sysObs st'.heap b = sysObs st.heap b)) ∧
    (∀ ops : List Op, (∀ op ∈ ops, op.targetsDerived st.systems.length) → Closed st.heap →
      ∀ b, SysWF st.heap b → ∀ h' N, cloneSys (run st ops).heap b = .ok (h', N) →
        (∀ name, varObs h' N name = varObs st.heap b name) ∧
        (∀ pn d, paramObs h' N pn d = paramObs st.heap b pn d)) := by
  constructor
  · intro ds
    have hops : ∀ op ∈ ds.map (fun d => Op.testRunner d.1 d.2.1 d.2.2), op.targetsDerived st.systems.length := by
      intro op hop
      obtain ⟨d, _, rfl⟩ := List.mem_map.mp hop
      trivial
    obtain ⟨h1, _, h3⟩ := C14_base_untouched st _ hops
    exact ⟨h1, h3⟩
  · intro ops hops hC b hw h' N hcl
    obtain ⟨hA, _, hobs⟩ := C14_base_untouched st ops hops
    have e := hobs hC b hw.lt_next
    have sp := cloneSys_spec (sysWF_agree hA hw) hcl
    exact ⟨fun name => by rw [sp.vars name]; exact congrFun (congrArg SysObs.byName e) name,
      fun pn d => by rw [sp.pars pn d]; exact congrFun (congrFun (congrArg SysObs.param e) pn) d⟩

/-- **`load_extension` on a reform leaves its baseline untouched (repair F-C14f).** For every
    reform `R` of `b` — whatever its `apply()` did, so whether or not it still shares `b`'s
    parameter tree — and every extension: after `R.load_extension(e)` (variables added to `R`,
    parameters merged into a FRESH copy of the tree `R` held, because `R` has a baseline) every
    object that existed before the reform was made is the same, and every observation of every
    system that existed — `b` first — is unchanged. The same holds for clones, chains, extensions
    loaded from inside `apply()`, in any number and order: `Mod.loadExt` is one of the modifications
    of `C14_base_untouched`. -/
theorem C14_load_extension_leaves_baseline (h : Heap) (b : Oid) (mods : List Mod) (e : Ext) (h1 : Heap)
    (R : Oid) (hr : reformSys h b mods = (h1, .ok R)) :
    (∀ i, i < h.next → (loadExtension h1 R e).1.look i = h.look i) ∧
    (Closed h → ∀ z, z < h.next → sysObs (loadExtension h1 R e).1 z = sysObs h z) := by
  have f := reformSys_modify_frame hr (.loadExt e)
  exact ⟨f.1, sysObs_agree f.1⟩

/-- two parameter-neutral reforms stacked on the base, all three holding the same tree; each loads
    an extension directly (the second one no longer shares with its immediate baseline, which has
    taken its copy): the base never sees `town` nor `city` -/
example :
    let x2 : Ext := ⟨"x2", [], [("city", [⟨733773, some "7"⟩])]⟩
    let st' := run C14ex.base [.reform 0 [], .reform 1 [], .modify 1 (.loadExt C14ex.ext1), .modify 2 (.loadExt x2),
                               .reform 0 [.loadExt C14ex.ext1]]
    st'.systems.length = 4 ∧
    (st'.systems.map fun X => paramObs st'.heap X "town" 736400) = [none, some "100", none, some "100"] ∧
    (st'.systems.map fun X => paramObs st'.heap X "city" 736400) = [none, none, some "7", none] ∧
    (st'.systems.map fun X => (varObs st'.heap X "town_allowance").isSome) = [false, true, false, true] := by
  decide +kernel

/-- the derivations really happen: three systems are derived (the third request is a cache hit), the
    extension's parameter is read in each of them — and not in the baseline, which a second
    derivation could otherwise not extend again (`add_child` would raise) -/
example :
    let st' := run C14ex.base C14ex.runnerOps
    st'.systems.length = 4 ∧ st'.memo.length = 3 ∧
    (st'.systems.map fun X => paramObs st'.heap X "town" 736400) = [none, some "100", some "100", some "100"] ∧
    (st'.systems.map fun X => paramObs st'.heap X "rate" 736400) = [some "3", some "3", some "3", some "9"] ∧
    (st'.systems.map fun X => (varObs st'.heap X "a").map (·.isNeutralized))
      = [some false, some true, some false, some false] ∧
    (st'.systems.map fun X => (varObs st'.heap X "town_allowance").isSome) = [false, true, true, true] := by
  decide +kernel

/-- **A copy is a copy.** `clone()` yields a system observationally equal to its source —
    every name resolves to a variable with the same attributes and formulas, every parameter reads
    the same at every date — made of *fresh* objects (its own dict, variable objects, parameter
    tree and entities, none shared with the source), whose entities resolve names in the copy. -/
theorem C14_clone_is_copy (h : Heap) (src : Oid) (h' : Heap) (N : Oid) (hw : SysWF h src)
    (hc : cloneSys h src = .ok (h', N)) :
    SysWF h' N ∧ (∀ name, varObs h' N name = varObs h src name) ∧
    (∀ pn d, paramObs h' N pn d = paramObs h src pn d) ∧
    (∀ name vid, resolve h' N name = some vid → h.next ≤ vid) ∧
    ∃ sN s, h'.getSys N = some sN ∧ h.getSys src = some s ∧ sN.baseline = s.baseline ∧
      h.next ≤ sN.vars ∧ h.next ≤ sN.params ∧
      ∀ e ∈ sN.entities, h.next ≤ e ∧ ∀ name, varObsVia h' e name = varObs h' N name := by
  have sp := cloneSys_spec hw hc
  exact ⟨sp.wf, sp.vars, sp.pars, sp.fresh, sp.sys⟩

example : C14ex.okB (cloneSys C14ex.base.heap 2) = true := by decide +kernel
example : SysWF C14ex.base.heap 2 := sysWF_of_check (by decide +kernel)

/-- **A copy is independent of its source, too.** The property as stated speaks of changes made on the
    copy; what a derived system sees when its SOURCE is modified afterwards is not in it. The model
    answers for `clone()`: whatever modification is applied to the source after the copy was taken,
    every observation of the copy is unchanged — the copy owns everything it reads. (A reform, by
    design, shares its baseline's variable objects and, until it modifies parameters, its parameter
    tree: an in-place parameter update of the baseline shows through; the correspondence covers
    these histories, the property does not claim them.) -/
theorem C14_copy_independent_of_source (h : Heap) (src : Oid) (h1 : Heap) (N : Oid) (hw : SysWF h src)
    (hc : cloneSys h src = .ok (h1, N)) (m : Mod) :
    (∀ name, varObs (applyMod h1 src m).1 N name = varObs h1 N name) ∧
    (∀ pn d, paramObs (applyMod h1 src m).1 N pn d = paramObs h1 N pn d) :=
  clone_independent hw hc (applyMod_writes h1 src m)

example :
    let st := run C14ex.base [.clone 0, .modify 0 (.neutralize "a")]     -- the SOURCE is modified after the copy
    st.systems = [2, 9] ∧ (varObs st.heap 2 "a").map (·.isNeutralized) = some true ∧
    (varObs st.heap 9 "a").map (·.isNeutralized) = some false := by decide +kernel

/-- **One modification is local**: it changes what its target resolves for the names it declares,
    and nothing else of the target — the other names resolve to the same observations, the
    parameters read the same (unless it is a parameter modifier), the system stays well formed. -/
theorem C14_modification_local (h : Heap) (X : Oid) (m : Mod) (hw : SysWF h X) :
    SysWF (applyMod h X m).1 X ∧
    (∀ name, name ∉ m.touched → varObs (applyMod h X m).1 X name = varObs h X name) ∧
    (m.isParams = false → ∀ pn d, paramObs (applyMod h X m).1 X pn d = paramObs h X pn d) := by
  have sp := (applyMod_writes h X m).spec hw
  exact ⟨sp.wf, sp.vars, sp.pars⟩

/-- **A reform is its baseline plus the changes of `apply()`.** Every variable `apply()` did not
    touch resolves in the reform to the same observation as in the baseline (in the code it
    is the same object; the statement speaks of what is observed), the parameters read the same
    unless a modifier ran, and the reform's own entities resolve names in the reform. -/
theorem C14_derived_is_base_plus_changes (h : Heap) (src : Oid) (mods : List Mod) (h' : Heap) (R : Oid)
    (hw : SysWF h src) (hr : reformSys h src mods = (h', .ok R)) :
    SysWF h' R ∧
    (∀ name, name ∉ mods.flatMap Mod.touched → varObs h' R name = varObs h src name) ∧
    (mods.any Mod.isParams = false → ∀ pn d, paramObs h' R pn d = paramObs h src pn d) ∧
    ∃ sR, h'.getSys R = some sR ∧ sR.baseline = some src ∧
      ∀ e ∈ sR.entities, ∀ name, varObsVia h' e name = varObs h' R name := by
  rcases reformSys_inv hr with ⟨_, e, he⟩ | ⟨h1, R0, hi, rfl, e2⟩
  · cases he
  · obtain rfl := e2 R rfl
    have ri := reformInit_spec hw hi
    obtain ⟨sR, hsR, hbase, hents⟩ := ri.sys
    have sp := (applyMods_writes h1 R mods).spec ri.wf
    obtain ⟨s2, hs2, hse, hsb, _⟩ := sp.sysSame sR hsR
    refine ⟨sp.wf, fun name hn => by rw [sp.vars name hn, ri.vars], fun hb pn d => by rw [sp.pars hb pn d, ri.pars],
      s2, hs2, by rw [hsb, hbase], fun e he name => ?_⟩
    rw [hse] at he
    obtain ⟨eo, heo, hsys⟩ := hents e he
    exact varObsVia_of_bound (sp.keeps.keepEnt _ _ heo) hsys name

example : C14ex.okB (reformSys C14ex.base.heap 2
    [.update C14ex.updB, .params [⟨"rate", 736330, none, some "9"⟩]]).2 = true := by decide +kernel
example : "a" ∉ [Mod.update C14ex.updB, .params [⟨"rate", 736330, none, some "9"⟩]].flatMap Mod.touched := by decide

/-- **`update_variable` inherits.** The variable bound by an update has, for every attribute the
    new class does not declare, the attribute of the variable it updates (which is its
    `baseline_variable` and is left untouched); before the first new start date the formula in
    force is the updated variable's one (all of them are kept when no formula is declared); from
    that date on only the new formulas apply. An attribute the class DOES declare is taken from the
    class — including `end = ""` (ordinal 0), which clears the inherited end. -/
theorem C14_update_inherits (h : Heap) (X : Oid) (cls : ClassDef) (h' : Heap) (bid : Oid) (b : VarObj)
    (hr : resolve h X cls.name = some bid) (hb : h.getVar bid = some b)
    (hu : loadVariable h X cls true = (h', .ok ())) :
    ∃ vid v, resolve h' X cls.name = some vid ∧ h'.getVar vid = some v ∧ v.baseline = some bid ∧
      h'.getVar bid = some b ∧ vid ≠ bid ∧
      v.valueType = cls.valueType.getD b.valueType ∧ v.default = cls.default.getD b.default ∧
      v.entity = cls.entity.getD b.entity ∧ v.defPeriod = cls.defPeriod.getD b.defPeriod ∧
      v.endDate = declaredEnd cls.endDate b.endDate ∧
      v.setInput = (match cls.setInput with | some x => some x | none => b.setInput) ∧
      (cls.formulas = [] → v.formulas = b.formulas) ∧
      (∀ d, (∀ p ∈ cls.formulas, d < p.1) → lastLE v.formulas d = lastLE b.formulas d) ∧
      (∀ d, (∃ p ∈ cls.formulas, p.1 ≤ d) →
          ∃ n s, lastLE v.formulas d = some (.base n) ∧ (s, n) ∈ cls.formulas ∧ s ≤ d) ∧
      (cls.endDate = none → ∀ d, (∀ p ∈ cls.formulas, d < p.1) → getFormula v.view d = getFormula b.view d) ∧
      (cls.endDate = some 0 → v.endDate = none) ∧
      -- the descriptive attributes: `label` …
      (dictGet "label" cls.attrs = none → v.label = b.label) ∧
      (∀ x, dictGet "label" cls.attrs = some x → v.label = x) ∧
      -- … and `reference`, `documentation`, `unit`, `cerfa_field`, `calculate_output`,
      -- `is_period_size_independent` (`max_length`: of string variables)
      (∀ k ∈ metaKeys, (k = "max_length" → v.valueType = "str") →
        (dictGet k cls.attrs = none → v.attr k = b.attr k) ∧
        (∀ x, dictGet k cls.attrs = some (some x) → v.attr k = some x) ∧
        (dictGet k cls.attrs = some none → v.attr k = if k = "calculate_output" then b.attr k else none)) := by
  obtain ⟨v, hcons, hres, hv', hk⟩ := loadVariable_ok hu
  rw [hr, construct_some hb] at hcons
  have cs := constructWith_some hcons
  refine ⟨h.next, v, hres, hv', cs.baseline, hk.keepVar _ _ hb, Nat.ne_of_gt (lt_next_of_look (getVar_iff.1 hb)),
    cs.valueType, cs.default, cs.entity, cs.defPeriod, cs.endDate, cs.setInput, cs.formulas_of_nil, cs.lastLE_before,
    cs.lastLE_from, fun hnone d hall => ?_, fun h0 => by rw [cs.endDate, h0]; rfl, fun hn => by rw [cs.label, hn]; rfl,
    fun x hx => ?_, fun k hk hml => ?_⟩
  · exact getFormula_congr (show v.endDate = b.endDate by rw [cs.endDate, hnone]; rfl) (cs.lastLE_before d hall)
  · rw [cs.label, hx]
    cases x <;> simp [attrOf]
  · rw [cs.attr hk hml]
    exact ⟨fun hn => by rw [hn]; rfl, fun x hx => by rw [hx]; rfl, fun hx => by rw [hx]; rfl⟩

/-- a class that redefines the label, clears the documentation and says nothing of the unit -/
example :
    let b0 : ClassDef := { C14ex.cB with attrs := [("label", some "L1"), ("documentation", some "D1"), ("unit", some "U1")] }
    let st := (baseSystem ["person"] [] [b0]).getD { heap := ⟨[]⟩, systems := [] }
    let u : ClassDef := { C14ex.updB with attrs := [("label", some "L2"), ("documentation", none)] }
    let r := loadVariable st.heap 1 u true
    C14ex.okB r.2 = true ∧
    (varObs r.1 1 "b").map (fun v => (v.label, dictGet "documentation" v.attrs, dictGet "unit" v.attrs,
        dictGet "is_period_size_independent" v.attrs))
      = some (some "L2", some none, some (some "U1"), some (some "j66616c7365")) ∧
    -- a declared value of the wrong type is refused and nothing is bound
    C14ex.okB (loadVariable st.heap 1 { u with invalid := true } true).2 = false ∧
    (varObs (loadVariable st.heap 1 { u with invalid := true } true).1 1 "b").map (·.label) = some (some "L1") := by
  decide +kernel

example :
    let r := loadVariable C14ex.base.heap 2 C14ex.updB true
    C14ex.okB r.2 = true ∧ resolve C14ex.base.heap 2 "b" = some 8 ∧
    (varObs r.1 2 "b").map (·.formulas) = some [(1, .base 2), (735964, .base 3), (736330, .base 4)] ∧
    (varObs r.1 2 "b").map (·.default) = some "5" ∧
    (varObs r.1 2 "b").map (·.endDate) = some (some 736694) := by decide +kernel

/-- **A class `Variable.__init__` refuses changes nothing.** A class declaring a value of the wrong type
    (`allowed_type`), outside the allowed values, or refused by a setter cannot be instantiated: `add_variable`
    and `update_variable` raise and leave the heap — the target system and every other one — exactly as it was.
    (`replace_variable` has deleted the entry of that name before it instantiates the class: what is left is
    the target without the variable, see `replaceVariable`; nothing else is touched.) -/
theorem C14_invalid_class_refused (h : Heap) (X : Oid) (cls : ClassDef) (update : Bool)
    (hi : cls.invalid = true) :
    (loadVariable h X cls update).1 = h ∧ ∃ e, (loadVariable h X cls update).2 = .error e := by
  rcases loadVariable_inv h X cls update with ⟨e, he⟩ | ⟨s, m, v, _, _, _, hv, _⟩
  · rw [he]; exact ⟨rfl, e, rfl⟩
  · rw [(construct_fields hv).2.2] at hi; cases hi

example : ({ C14ex.updB with invalid := true } : ClassDef).invalid = true := rfl

/-- **The guard of the holder**: a neutralised variable yields its default whatever inputs were
    given (each `set_input` is ignored), whatever the period, whatever its formulas compute. -/
theorem C14_neutralized_ignores_inputs (v : VarView) (hn : v.isNeutralized = true) {P : Type}
    [DecidableEq P] (store : P → Option String) (inputs : List (P × String)) (start : P → Int)
    (runF : Fml → P → String) (p : P) :
    (∀ q x, holderSetInput v store q x = store) ∧
    calcVal v (inputs.foldl (fun st i => holderSetInput v st i.1 i.2) store) start runF p = v.default := by
  have h1 : ∀ (st : P → Option String) q x, holderSetInput v st q x = st := by
    intro st q x; unfold holderSetInput; rw [if_pos hn]
  refine ⟨h1 store, ?_⟩
  unfold calcVal holderGet
  rw [if_pos hn]

/-- **`neutralize_variable`**: when it returns, the name resolves in the target to a new variable
    object that is neutralised — so that no formula is ever run for it: every calculation yields
    its default and every input is ignored. -/
theorem C14_neutralized_default (h : Heap) (X : Oid) (name : String) (h' : Heap)
    (hn : neutralizeVar h X name = (h', .ok ())) :
    ∃ vid v, resolve h' X name = some vid ∧ h'.getVar vid = some v ∧ h.next ≤ vid ∧
      v.isNeutralized = true ∧
      ∀ {P : Type} [DecidableEq P] (store : P → Option String) (inputs : List (P × String))
        (start : P → Int) (runF : Fml → P → String) (p : P),
        calcVal v.view (inputs.foldl (fun st i => holderSetInput v.view st i.1 i.2) store) start runF p
          = v.default := by
  rw [neutralizeVar_eq_reclone] at hn
  obtain ⟨_, _, _, _, _, _, hres, hv'⟩ := recloneVar_ok hn
  refine ⟨h.next, _, hres, hv', Nat.le_refl _, rfl, ?_⟩
  intro P _ store inputs start runF p
  exact (C14_neutralized_ignores_inputs _ rfl store inputs start runF p).2

example :
    let r := neutralizeVar C14ex.base.heap 2 "b"
    C14ex.okB r.2 = true ∧
    (varObs r.1 2 "b").map (fun v => (v.isNeutralized, v.default)) = some (true, "5") := by decide +kernel

/-- **`Variable.clone()` always works (repair F-C14b).** In every heap reached from a consistent
    one by ANY history, every variable object can be rebuilt from its class and its baseline. Hence
    neutralising or annualising a variable that resolves never raises — however the variable was
    defined: added, updated in a reform (a class that declares only what it changes), copied by
    `clone()`, already neutralised or annualised — and the object bound keeps every attribute
    of the previous one: a neutralised variable yields *its* default. -/
theorem C14_neutralize_annualize_succeed (st : State) (ops : List Op) (hc : Consistent st.heap)
    (X : Oid) (name : String) (vid : Oid) (v : VarObj)
    (hr : resolve (run st ops).heap X name = some vid) (hv : (run st ops).heap.getVar vid = some v) :
    Consistent (run st ops).heap ∧
    (neutralizeVar (run st ops).heap X name).2 = .ok () ∧
    (annualizeVar (run st ops).heap X name).2 = .ok () ∧
    (∃ w, varObs (neutralizeVar (run st ops).heap X name).1 X name = some w ∧
        w.isNeutralized = true ∧ w.default = v.default ∧ w.valueType = v.valueType ∧
        w.entity = v.entity ∧ w.defPeriod = v.defPeriod ∧ w.endDate = v.endDate ∧ w.setInput = v.setInput ∧
        w.attrs = v.attrs ∧ w.label = some (neutralizedLabel v.label)) ∧
    (∃ w, varObs (annualizeVar (run st ops).heap X name).1 X name = some w ∧
        w.isNeutralized = v.isNeutralized ∧ w.default = v.default ∧ w.valueType = v.valueType ∧
        w.entity = v.entity ∧ w.defPeriod = v.defPeriod ∧ w.endDate = v.endDate ∧ w.setInput = v.setInput ∧
        w.formulas = v.formulas.map (fun p => (p.1, Fml.annual p.2)) ∧
        w.attrs = v.attrs ∧ (v.isNeutralized = false → w.label = v.label)) := by
  have hcons := consistent_run hc ops
  generalize (run st ops).heap = h at *
  obtain ⟨c, hcl, a⟩ := hcons vid v hv
  rw [neutralizeVar_eq_reclone, annualizeVar_eq_reclone]
  have en := recloneVar_obs (err := "AttributeError: 'NoneType' object has no attribute 'clone'")
    (f := fun v c => { c with isNeutralized := true, label := some (neutralizedLabel v.label) }) hr hv hcl
  have ea := recloneVar_obs (err := "VariableNotFoundError")
    (f := fun v c => { c with formulas := v.formulas.map (fun p => (p.1, Fml.annual p.2)),
                              isNeutralized := v.isNeutralized }) hr hv hcl
  exact ⟨hcons, en.1, ea.1,
    ⟨_, en.2, rfl, a.default, a.valueType, a.entity, a.defPeriod, a.endDate, a.setInput, a.attrs, rfl⟩,
    ⟨_, ea.2, rfl, a.default, a.valueType, a.entity, a.defPeriod, a.endDate, a.setInput, rfl, a.attrs, a.label⟩⟩

example : Consistent C14ex.base.heap := consistent_of_check (by decide +kernel)
/-- the F-C14b input: a reform that updates `b` (a class declaring one formula only) then neutralises it -/
example : C14ex.okB (reformSys C14ex.base.heap 2 [.update C14ex.updB, .neutralize "b", .annualize "b"]).2 = true := by
  decide +kernel

/-- **What `annualize_variable` builds**: a new variable object whose dated formulas are the
    `annual_formula` closures around the previous ones, start date by start date — so that the
    formula in force at any date is the wrapper of the one that was in force — and which stays
    neutralised if it was (repair F-C14d). The wrapper (`annCalc`) calls the wrapped formula for a
    January period, and requests the same variable for `period.this_year.first_month` otherwise. -/
theorem C14_annualized_formula_def (h : Heap) (X : Oid) (name : String) (h' : Heap) (vid0 : Oid)
    (v0 : VarObj) (hr : resolve h X name = some vid0) (hv : h.getVar vid0 = some v0)
    (ha : annualizeVar h X name = (h', .ok ())) :
    ∃ vid v, resolve h' X name = some vid ∧ h'.getVar vid = some v ∧ h.next ≤ vid ∧
      v.isNeutralized = v0.isNeutralized ∧
      v.formulas = v0.formulas.map (fun p => (p.1, Fml.annual p.2)) ∧
      ∀ d, lastLE v.formulas d = (lastLE v0.formulas d).map Fml.annual := by
  rw [annualizeVar_eq_reclone] at ha
  obtain ⟨vid, v, c, hr', hgv, _, hres, hv'⟩ := recloneVar_ok ha
  rw [hr] at hr'; cases hr'
  rw [hv] at hgv; cases hgv
  exact ⟨h.next, _, hres, hv', Nat.le_refl _, rfl, rfl, fun d => lastLE_map_annual v0.formulas d⟩

example :
    let r := annualizeVar C14ex.base.heap 2 "b"
    C14ex.okB r.2 = true ∧
    (varObs r.1 2 "b").map (·.formulas) = some [(1, .annual (.base 2)), (735964, .annual (.base 3))] := by
  decide +kernel

/-- **January value for every month — partial.** For a request of an annualised monthly variable
    at a month `m ≠ 1` that is not itself known, with a formula in force, no frame of the same
    variable above on the stack (a top-level request, or a request from other variables'
    formulas) and `max_spiral_loops ≥ 1`: the value is the value of the January request of the
    same year, PROVIDED January is already known (input or cached) OR `max_spiral_loops ≥ 2`.

    Full statement (the property's clause), NOT a theorem of the code: the same without the last
    hypothesis. It fails for the default `max_spiral_loops = 1`: the wrapper's request for January
    finds one frame of the same variable above it (`_check_for_cycle`: `len(previous) >= 1`),
    raises `SpiralError`, and `_calculate` returns the default — `C14_annualized_counterexample`
    (open finding F-C14c). Also restricted to wrapped formulas that request nothing themselves
    (`orig` is a leaf): the engine's recursion through other variables is property C01/C02. -/
theorem C14_annualized_january_partial (L : Nat) (dflt : String) (orig : Int → Nat → String)
    (inForce : Int → Nat → Bool) (cache : Int → Nat → Option String) (name : String)
    (stack : List Frame) (hstack : ∀ f ∈ stack, f.name ≠ name) (y : Int) (m fuel : Nat)
    (hL : 1 ≤ L) (hm : m ≠ 1) (hforce : inForce y m = true) (hcm : cache y m = none)
    (hJ : (cache y 1).isSome = true ∨ 2 ≤ L) :
    annCalc L dflt orig inForce cache name (fuel + 2) stack y m
      = annCalc L dflt orig inForce cache name (fuel + 1) stack y 1 := by
  have hfil : stack.filter (fun f => decide (f.name = name)) = [] := by
    rw [List.filter_eq_nil_iff]
    intro f hf
    simpa using hstack f hf
  have hfil2 : (stack ++ [(⟨name, y, m⟩ : Frame)]).filter (fun f => decide (f.name = name))
      = [(⟨name, y, m⟩ : Frame)] := by
    rw [List.filter_append, hfil]
    simp
  have h0 : ¬ L ≤ 0 := Nat.not_le.mpr hL
  have step1 : annCalc L dflt orig inForce cache name (fuel + 2) stack y m
      = annCalc L dflt orig inForce cache name (fuel + 1) (stack ++ [(⟨name, y, m⟩ : Frame)]) y 1 := by
    rw [annCalc, hcm]
    simp [hfil, h0, hforce, hm]
  rw [step1, annCalc, annCalc]
  cases hc : cache y 1 with
  | some a => rfl
  | none =>
    have h2 : 2 ≤ L := by
      rcases hJ with h | h
      · rw [hc] at h; cases h
      · exact h
    have h1 : ¬ L ≤ 1 := Nat.not_le.mpr h2
    simp [hfil, hfil2, h0, h1, hm]

example : annCalc 2 "0" (fun _ _ => "8") (fun _ _ => true) (fun _ _ => none) "a" 5 [] 2018 3 = .val "8" ∧
    annCalc 1 "0" (fun _ _ => "8") (fun _ _ => true)
      (fun y m => if y = 2018 ∧ m = 1 then some "8" else none) "a" 5 [] 2018 3 = .val "8" := by
  decide +kernel

/-- **Counterexample to the full annualised clause** (open finding F-C14c), at the value of
    `Simulation.max_spiral_loops` extracted from the tree under test: an annualised variable whose
    formula gives 8 in January, asked for March first, yields its default 0 — not its January
    value 8. (`Generated.maxSpiralLoops` is extracted from the source at every run: with a default
    ≥ 2 this statement is not provable, `C14_annualized_january_partial` applies instead.) -/
theorem C14_annualized_counterexample :
    ∃ (dflt : String) (orig : Int → Nat → String) (inForce : Int → Nat → Bool)
      (cache : Int → Nat → Option String) (name : String) (y : Int) (m : Nat),
      m ≠ 1 ∧ inForce y m = true ∧ inForce y 1 = true ∧ cache y m = none ∧
      annCalc Generated.maxSpiralLoops dflt orig inForce cache name 5 [] y m = .val dflt ∧
      annCalc Generated.maxSpiralLoops dflt orig inForce cache name 5 [] y 1 = .val (orig y 1) ∧
      orig y 1 ≠ dflt :=
  ⟨"0", fun _ _ => "8", fun _ _ => true, fun _ _ => none, "a", 2018, 3,
    by decide, rfl, rfl, rfl, by decide +kernel, by decide +kernel, by decide⟩

/-- **Modified parameters apply from their declared dates.** After a parameter modifier that
    returned normally — `Reform.modify_parameters` on a reform, in-place updates on a copy — the
    value of every parameter of the target at every date is obtained from its previous value by
    letting each declared update that names it, in order, overwrite it iff the update's span
    `[start, stop]` (open-ended without `stop`) contains the date (`specStep`, C06). Through
    `C06_updates_fold`, for any number of updates. (The proof does not use the hypothesis `hw`: a
    modifier that returns normally has found the system and its tree.) -/
theorem C14_params_from_date (h : Heap) (X : Oid) (us : List PUpd) (h' : Heap) (hw : SysWF h X)
    (hm : modifyParams h X us = (h', .ok ())) (hus : ∀ u ∈ us, u.toUpd.WF) (pn : String)
    (hs : ∀ l, paramHist h X pn = some l → Sorted l) (d : Int) :
    paramObs h' X pn d =
      ((us.filter (fun u => u.name = pn)).map PUpd.toUpd).foldl (specStep d) (paramObs h X pn d) := by
  rw [paramObs_eq_hist, paramObs_eq_hist, modifyParams_hist hm pn]
  cases hl : paramHist h X pn with
  | none =>
    -- a modifier naming an absent parameter would have raised
    rw [modifyParams_absent hm hl]
    rfl
  | some l =>
    simp only [Option.map_some]
    have hus' : ∀ u' ∈ (us.filter (fun u => u.name = pn)).map PUpd.toUpd, u'.WF := by
      intro u' hu'
      obtain ⟨u, hu, rfl⟩ := List.mem_map.mp hu'
      exact hus u (List.mem_filter.mp hu).1
    exact (C06_updates_fold l (hs l hl) _ hus').2 d

/-- … in particular one update `[a, b]`: its value on the span, the previous value elsewhere;
    the parameters it does not name are unchanged. -/
theorem C14_params_one_update (h : Heap) (X : Oid) (u : PUpd) (h' : Heap) (hw : SysWF h X)
    (hm : modifyParams h X [u] = (h', .ok ())) (hu : u.toUpd.WF)
    (hs : ∀ pn l, paramHist h X pn = some l → Sorted l) :
    (∀ d, paramObs h' X u.name d = if u.toUpd.covers d then u.v else paramObs h X u.name d) ∧
    (∀ pn, pn ≠ u.name → ∀ d, paramObs h' X pn d = paramObs h X pn d) := by
  have hall : ∀ u' ∈ [u], u'.toUpd.WF := by intro u' hu'; simp at hu'; subst hu'; exact hu
  constructor
  · intro d
    rw [C14_params_from_date h X [u] h' hw hm hall u.name (hs u.name) d]
    simp only [List.filter_cons, decide_true, if_true, List.filter_nil, List.map_cons, List.map_nil,
      List.foldl_cons, List.foldl_nil, specStep]
    rfl
  · intro pn hne d
    rw [C14_params_from_date h X [u] h' hw hm hall pn (hs pn) d]
    have : decide (u.name = pn) = false := by simpa using Ne.symm hne
    simp only [List.filter_cons, this, List.filter_nil]
    rfl

example :
    let r := modifyParams (run C14ex.base [.clone 0]).heap 9 [⟨"rate", 736330, some 736694, some "7"⟩]
    C14ex.okB r.2 = true ∧
    paramObs r.1 9 "rate" 736329 = some "3" ∧ paramObs r.1 9 "rate" 736330 = some "7" ∧
    paramObs r.1 9 "rate" 736694 = some "7" ∧ paramObs r.1 9 "rate" 736695 = some "3" ∧
    paramObs r.1 2 "rate" 736330 = some "3" := by decide +kernel

end OFCore

/-! axiom audit (⊆ propext, Classical.choice, Quot.sound) -/
#print axioms OFCore.C14_base_untouched
#print axioms OFCore.C14_base_calculations_unchanged
#print axioms OFCore.C14_test_runner_derivation_untouched
#print axioms OFCore.C14_load_extension_leaves_baseline
#print axioms OFCore.C14_clone_is_copy
#print axioms OFCore.C14_copy_independent_of_source
#print axioms OFCore.C14_modification_local
#print axioms OFCore.C14_derived_is_base_plus_changes
#print axioms OFCore.C14_update_inherits
#print axioms OFCore.C14_invalid_class_refused
#print axioms OFCore.C14_neutralized_ignores_inputs
#print axioms OFCore.C14_neutralized_default
#print axioms OFCore.C14_neutralize_annualize_succeed
#print axioms OFCore.C14_annualized_formula_def
#print axioms OFCore.C14_annualized_january_partial
#print axioms OFCore.C14_annualized_counterexample
#print axioms OFCore.C14_params_from_date
#print axioms OFCore.C14_params_one_update
