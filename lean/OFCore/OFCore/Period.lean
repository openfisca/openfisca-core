import OFCore.Calendar
import OFCore.Generated
/-!
# Period model (import-free apart from the calendar and the generated tables)

Transcription of `openfisca_core/periods/{period_,instant_,helpers}.py`. Every method that
can raise returns `Except String _`; `none` inside the `Except` is Python's `None`.
-/
namespace OFCore

inductive DUnit | weekday | week | day | month | year | eternity
deriving DecidableEq, Repr, Inhabited

def DUnit.name : DUnit → String
  | .weekday => "weekday" | .week => "week" | .day => "day"
  | .month => "month" | .year => "year" | .eternity => "eternity"

def DUnit.all : List DUnit := [.weekday, .week, .day, .month, .year, .eternity]

def DUnit.ofName (s : String) : Option DUnit := DUnit.all.find? (fun u => u.name == s)

/-- `helpers.unit_weight`, from the table extracted from the source -/
def unitWeight (u : DUnit) : Int := (Generated.unitWeightTable.lookup u.name).getD 0

structure Period where
  unit : DUnit
  start : Date
  size : Int
deriving DecidableEq, Repr, Inhabited

def eternityDate : Date := ⟨-1, -1, -1⟩
def Period.eternity : Period := ⟨.eternity, eternityDate, -1⟩

/-- what `pendulum.date(y, m, d)` accepts -/
def dateOk (c : Date) : Bool := decide (c.Valid ∧ c.y ≤ 9999)

/-- a date produced by pendulum arithmetic: out of range raises -/
def chk (c : Date) : Except String Date :=
  if 1 ≤ c.y ∧ c.y ≤ 9999 then .ok c else .error "range"

inductive Off | firstOf | lastOf | n (k : Int)
deriving DecidableEq, Repr

/-- `Instant.offset`: `ok none` is Python's `None` -/
def instOffset (c : Date) (off : Off) (u : DUnit) : Except String (Option Date) :=
  if u = .eternity then .error "assert" else
  match off with
  | .firstOf =>
    match u with
    | .year => .ok (some ⟨c.y, 1, 1⟩)
    | .month => .ok (some ⟨c.y, c.m, 1⟩)
    | .week => if dateOk c then (chk (startOfWeek c)).map some else .error "date"
    | _ => .ok none
  | .lastOf =>
    match u with
    | .year => .ok (some ⟨c.y, 12, 31⟩)
    | .month => if dateOk c then .ok (some (endOfMonth c)) else .error "date"
    | .week => if dateOk c then (chk (endOfWeek c)).map some else .error "date"
    | _ => .ok none
  | .n k =>
    if !dateOk c then .error "date" else
    match u with
    | .year => (chk (addMonths c (12 * k))).map some
    | .month => (chk (addMonths c k)).map some
    | .week => (chk (addDays c (7 * k))).map some
    | .day => (chk (addDays c k)).map some
    | .weekday => (chk (addDays c k)).map some
    | .eternity => .ok none

/-- `Period.offset(offset, unit=None)` -/
def Period.offset (p : Period) (off : Off) (u : Option DUnit) : Except String Period := do
  match ← instOffset p.start off (u.getD p.unit) with
  | none => .error "notimpl"
  | some s => .ok ⟨p.unit, s, p.size⟩

/-- first day after the period: `start.add(<size units>)` -/
def Period.after (p : Period) : Except String Date :=
  match p.unit with
  | .year => .ok (addMonths p.start (12 * p.size))
  | .month => .ok (addMonths p.start p.size)
  | .week => .ok (addDays p.start (7 * p.size))
  | .day => .ok (addDays p.start p.size)
  | .weekday => .ok (addDays p.start p.size)
  | .eternity => .error "eternity"

/-- `Period.stop` -/
def Period.stop (p : Period) : Except String Date :=
  match p.unit with
  | .eternity => .ok eternityDate
  | .year => if dateOk p.start then do chk (addDays (← chk (addMonths p.start (12 * p.size))) (-1)) else .error "date"
  | .month => if dateOk p.start then do chk (addDays (← chk (addMonths p.start p.size)) (-1)) else .error "date"
  | .week => if dateOk p.start then chk (addDays p.start (7 * p.size - 1)) else .error "date"
  | .day => if dateOk p.start then chk (addDays p.start (p.size - 1)) else .error "date"
  | .weekday => if dateOk p.start then chk (addDays p.start (p.size - 1)) else .error "date"

def Period.sizeInYears (p : Period) : Except String Int :=
  if p.unit = .year then .ok p.size else .error "value"

def Period.sizeInMonths (p : Period) : Except String Int :=
  if p.unit = .year then .ok (p.size * 12)
  else if p.unit = .month then .ok p.size else .error "value"

/-- the `(last_day.date - start.date).days + 1` computation shared by the Python properties
    `size_in_days` and `size_in_weekdays` -/
def Period.spanDays (p : Period) : Except String Int := do
  match ← instOffset p.start (.n p.size) p.unit with
  | none => .error "notimpl"
  | some last =>
    match ← instOffset last (.n (-1)) .day with
    | none => .error "notimpl"
    | some lastDay => .ok (ord lastDay - ord p.start + 1)

def Period.sizeInDays (p : Period) : Except String Int :=
  match p.unit with
  | .year => p.spanDays
  | .month => p.spanDays
  | .week => .ok (p.size * 7)
  | .day => .ok p.size
  | .weekday => .ok p.size
  | .eternity => .error "value"

/-- pendulum `start.diff(cease).in_weeks()` -/
def inWeeks (a b : Date) : Int :=
  let days := ord b - ord a
  if days < 0 then -((-days) / 7) else days / 7

def Period.sizeInWeeks (p : Period) : Except String Int :=
  match p.unit with
  | .year => if dateOk p.start then do
      let c ← chk (addMonths p.start (12 * p.size)); .ok (inWeeks p.start c) else .error "date"
  | .month => if dateOk p.start then do
      let c ← chk (addMonths p.start p.size); .ok (inWeeks p.start c) else .error "date"
  | .week => .ok p.size
  | _ => .error "value"

def Period.sizeInWeekdays (p : Period) : Except String Int :=
  match p.unit with
  | .year => do let w ← p.sizeInWeeks; .ok (w * 7)
  | .month => p.spanDays
  | .week => .ok (p.size * 7)
  | .day => .ok p.size
  | .weekday => .ok p.size
  | .eternity => .error "value"

/-- `Period.days` -/
def Period.days (p : Period) : Except String Int := do
  let s ← p.stop
  if dateOk s ∧ dateOk p.start then .ok (ord s - ord p.start + 1) else .error "date"

def Period.thisYear (p : Period) : Except String Period := do
  match ← instOffset p.start .firstOf .year with
  | none => .error "notimpl"
  | some s => .ok ⟨.year, s, 1⟩

def Period.firstMonth (p : Period) : Except String Period := do
  match ← instOffset p.start .firstOf .month with
  | none => .error "notimpl"
  | some s => .ok ⟨.month, s, 1⟩

def Period.firstDay (p : Period) : Period := ⟨.day, p.start, 1⟩
def Period.firstWeekday (p : Period) : Period := ⟨.weekday, p.start, 1⟩

def Period.firstWeek (p : Period) : Except String Period := do
  match ← instOffset p.start .firstOf .week with
  | none => .error "notimpl"
  | some s => .ok ⟨.week, s, 1⟩

def Period.lastMonth (p : Period) : Except String Period := do
  (← p.firstMonth).offset (.n (-1)) none
def Period.last3Months (p : Period) : Except String Period := do
  let fm ← p.firstMonth
  (Period.mk .month fm.start 3).offset (.n (-3)) none
def Period.lastYear (p : Period) : Except String Period := do
  (← p.thisYear).offset (.n (-1)) none
def Period.n2 (p : Period) : Except String Period := do
  (← p.thisYear).offset (.n (-2)) none
def Period.lastWeek (p : Period) : Except String Period := do
  (← p.firstWeek).offset (.n (-1)) none
def Period.lastNWeeks (p : Period) (size back : Int) : Except String Period := do
  let fw ← p.firstWeek
  (Period.mk .week fw.start size).offset (.n (-back)) none

/-- `[base.offset(i, unit) for i in range(n)]` -/
def offsetsFrom (base : Period) (u : DUnit) (n : Int) : Except String (List Period) :=
  (List.range n.toNat).mapM (fun (i : Nat) => base.offset (.n (Int.ofNat i)) (some u))

/-- `Period.get_subperiods` -/
def Period.subperiods (p : Period) (u : DUnit) : Except String (List Period) :=
  if unitWeight p.unit < unitWeight u then .error "value" else
  match u with
  | .year => do offsetsFrom (← p.thisYear) .year p.size
  | .month => do offsetsFrom (← p.firstMonth) .month (← p.sizeInMonths)
  | .day => do offsetsFrom p.firstDay .day (← p.sizeInDays)
  | .week => do offsetsFrom (← p.firstWeek) .week (← p.sizeInWeeks)
  | .weekday => do offsetsFrom p.firstWeekday .weekday (← p.sizeInWeekdays)
  | .eternity => .error "value"

/-- `Period.contains` (tuple comparison of instants; `and` short-circuits) -/
def Period.contains (p q : Period) : Except String Bool :=
  if p.start.le q.start then do
    let ps ← p.stop
    let qs ← q.stop
    .ok (decide (qs.le ps))
  else .ok false

def Date.max' (a b : Date) : Date := if a.lt b then b else a
def Date.min' (a b : Date) : Date := if b.lt a then b else a

/-- `Period.intersection(start, stop)`; `ok none` is Python's `None` -/
def Period.intersection (p : Period) (a b : Option Date) : Except String (Option Period) :=
  if a.isNone ∧ b.isNone then .ok (some p) else do
  let pstart := p.start
  let pstop ← p.stop
  let a := a.getD pstart
  let b := b.getD pstop
  if b.lt pstart ∨ pstop.lt a then .ok none else
  let is := Date.max' pstart a
  let ie := Date.min' pstop b
  if is = pstart ∧ ie = pstop then .ok (some p)
  else if is.d = 1 ∧ is.m = 1 ∧ ie.d = 31 ∧ ie.m = 12 then
    .ok (some ⟨.year, is, ie.y - is.y + 1⟩)
  else if !(1 ≤ ie.m ∧ ie.m ≤ 12 ∧ 1 ≤ ie.y ∧ ie.y ≤ 9999) ∧ is.d = 1 then .error "monthrange"
  else if is.d = 1 ∧ ie.d = dim ie.y ie.m then
    .ok (some ⟨.month, is, (ie.y - is.y) * 12 + ie.m - is.m + 1⟩)
  else if dateOk is ∧ dateOk ie then
    .ok (some ⟨.day, is, ord ie - ord is + 1⟩)
  else .error "date"

/-- `Period.date`: the start date of a period of size one -/
def Period.date (p : Period) : Except String Date :=
  if p.size ≠ 1 then .error "value"
  else if dateOk p.start then .ok p.start else .error "date"

/-- `Period.is_eternal`, `Instant.is_eternal` -/
def Period.isEternal (p : Period) : Bool := decide (p = Period.eternity)
def Date.isEternal (c : Date) : Bool := decide (c = eternityDate)

/-- `helpers.instant_date`: `none` is Python's `None`, otherwise `pendulum.date(*instant)` -/
def instantDate : Option Date → Except String (Option Date)
  | none => .ok none
  | some c => if dateOk c then .ok (some c) else .error "date"

/-- the denotation: closed interval of ordinals `[lo, hi]` -/
def Period.lo (p : Period) : Int := ord p.start
def Period.hi (p : Period) : Int :=
  match p.unit with
  | .year => ord (addMonths p.start (12 * p.size)) - 1
  | .month => ord (addMonths p.start p.size) - 1
  | .week => ord p.start + 7 * p.size - 1
  | .day => ord p.start + p.size - 1
  | .weekday => ord p.start + p.size - 1
  | .eternity => 0

end OFCore
