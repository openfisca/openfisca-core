/-!
# Enumeration codec — executable model of `openfisca_core/indexed_enums`

Models (repaired tree), in this order: the declaration of an enumeration whose class body has
aliases (`Enum.__init__`, `EnumType.__new__`: `declare`, `declared`, `memberOf?`); the guards of
`_guards.py`; `_enum_to_index`, `_int_to_index`, `_str_to_index` (`_utils.py`); `Enum.encode`,
`Enum._encode_array`, `Enum._encode_array_like` (`enum.py`); of `enum_array.py`, `EnumArray.decode`,
`EnumArray.decode_to_str`, re-indexing through the ndarray API (`EnumArray.take`) and the operators:
`==`, `!=` and the forbidden ones (`eqOp`, `neOp`, `forbiddenOp`).

* An enumeration is the list of its member names in declaration order; the index of a member
  is its position (`Enum.__init__`: `self.index = len(self._member_names_)`), `cid` stands for
  what the class test on every element compares (`cls == item.__class__`, by `EnumType.__eq__`
  the identity of the class *name*).
* Indices are natural numbers: the width of `EnumDType` (`uint8`) is not modelled (the
  property quantifies over 1..200 members, where `astype(uint8)` is the identity).
* `numpy.argsort` is modelled by a (stable) insertion sort of `(name, index)` pairs,
  `numpy.searchsorted(names, v, sorter=sorter)` by the leftmost binary search of numpy's
  `npy_binsearch` (`side="left"`), `numpy.isin` by list membership, boolean-mask reads by
  `List.filter`. Strings are ordered by code point, as numpy orders `str_` arrays.

Import-free. The last section (from `nameIndex?` on) is the specification vocabulary used by the
theorems of `Props/C15.lean` (which element designates a member, which inputs are rejected, which
arrays are valid).
-/
namespace OFCore.EnumCodec

/-! ## Data -/

structure Enumeration where
  /-- what the class test `cls == item.__class__` compares (`EnumType.__eq__`: the identity of
  the class name) -/
  cid : Nat
  /-- `_member_names_`, declaration order -/
  names : List String
  deriving Repr

def Enumeration.size (e : Enumeration) : Nat := e.names.length

/-- What one element of an input sequence / object array can be. -/
inductive Elem
  /-- a Python `int` (or the item of an integer array): any integer, any sign -/
  | int (v : Int)
  /-- a `str` -/
  | str (s : String)
  /-- an instance of an `Enum` class: the class and the member's index in *that* class -/
  | member (cls : Nat) (idx : Nat)
  /-- anything else: `float`, `None`, `bytes`, a numpy scalar, … -/
  | other
  deriving DecidableEq, Repr

/-- `EnumArray`: an index array tagged with its `possible_values`. -/
structure EnumArray where
  owner : Nat
  idx : List Nat
  deriving DecidableEq, Repr

/-- The argument of `Enum.encode`. -/
inductive Input
  /-- already an `EnumArray` -/
  | encoded (a : EnumArray)
  /-- a `collections.abc.Sequence` (list, tuple): elements of any kinds, possibly mixed -/
  | seq (xs : List Elem)
  /-- `numpy.ndarray` of one of the eight integer dtypes -/
  | intArr (vs : List Int)
  /-- `numpy.ndarray` of dtype `str_` -/
  | strArr (ss : List String)
  /-- `numpy.ndarray` of dtype `object_`: elements of any kinds -/
  | objArr (xs : List Elem)
  /-- `numpy.ndarray` of any other dtype (`float64`, `bool_`, `bytes_`, …) of that length -/
  | otherArr (len : Nat)
  /-- a 0-dimensional `numpy.ndarray` (of any dtype) holding that element: it has no `len()` -/
  | scalarArr (x : Elem)
  deriving DecidableEq, Repr

/-- `len(array)` -/
def Input.len : Input → Nat
  | .encoded a => a.idx.length
  | .seq xs => xs.length
  | .intArr vs => vs.length
  | .strArr ss => ss.length
  | .objArr xs => xs.length
  | .otherArr n => n
  -- `len()` of a 0-d array raises and `encode` answers before reading this; the value only has to be
  -- non-zero, so that a 0-d array is not among the empty inputs `x.len = 0`
  | .scalarArr _ => 1

/-! ## Declaration of an enumeration, with aliases (`Enum.__init__`, `EnumType.__new__`)

A class body binds names to values, in order.  A name bound to a value that an earlier name is
already bound to is an ALIAS: it creates no member, `cls[alias]` is the earlier (canonical)
member.  Python's `EnumType` keeps the canonical names in `_member_names_` and all names in
`__members__`; `Enum.__init__` runs when a member is created and sets
`self.index = len(self._member_names_)`; `EnumType.__new__` of this package then builds
`names = _member_names_`, `indices = arange(len(cls))`, `enums = list(cls)` (canonical members
only).  Values are compared by equality and are represented by naturals. -/

/-- the state of the class under construction -/
structure DeclState where
  /-- `_member_names_`: the canonical names, declaration order -/
  names : List String := []
  /-- the value of each canonical member -/
  values : List Nat := []
  /-- `__members__`: every name, canonical or alias, with the `index` of the member it denotes -/
  members : List (String × Nat) := []
  deriving Repr

/-- position of the first element equal to `v` -/
def valueIndex? : List Nat → Nat → Option Nat
  | [], _ => none
  | w :: ws, v => if w = v then some 0 else (valueIndex? ws v).map (· + 1)

/-- one binding `name = value` of the class body -/
def declStep (st : DeclState) (b : String × Nat) : DeclState :=
  match valueIndex? st.values b.2 with
  | some i => { st with members := st.members ++ [(b.1, i)] }     -- alias of the member of index i
  | none =>
    -- a new member: `Enum.__init__` gives it `index = len(_member_names_)`, then its name is appended
    { names := st.names ++ [b.1], values := st.values ++ [b.2],
      members := st.members ++ [(b.1, st.names.length)] }

/-- the class body, binding after binding -/
def declare (bindings : List (String × Nat)) : DeclState := bindings.foldl declStep {}

/-- the enumeration a class body declares: its `names` table is `_member_names_` -/
def declared (cid : Nat) (bindings : List (String × Nat)) : Enumeration := ⟨cid, (declare bindings).names⟩

/-- `cls[name]` / `getattr(cls, name)`: the index of the member a name (canonical or alias) denotes -/
def memberOf? (bindings : List (String × Nat)) (name : String) : Option Nat :=
  ((declare bindings).members.find? (fun m => m.1 = name)).map (·.2)

/-! ## Guards (`_guards.py`) -/

def Elem.isInt : Elem → Bool | .int _ => true | _ => false
def Elem.isStr : Elem → Bool | .str _ => true | _ => false
def Elem.isEnum : Elem → Bool | .member _ _ => true | _ => false

/-- `cls == item.__class__` (an item that is no `Enum` instance never has class `cls`) -/
def Elem.hasClass (c : Nat) : Elem → Bool | .member c' _ => c == c' | _ => false

def Elem.intVal : Elem → Int | .int v => v | _ => 0
def Elem.strVal : Elem → String | .str s => s | _ => ""
def Elem.indexAttr : Elem → Nat | .member _ i => i | _ => 0

/-- `_is_int_array_like`: `all(isinstance(item, int) for item in array)` -/
def isIntArrayLike (xs : List Elem) : Bool := xs.all Elem.isInt
/-- `_is_str_array_like` -/
def isStrArrayLike (xs : List Elem) : Bool := xs.all Elem.isStr
/-- `_is_enum_array_like` -/
def isEnumArrayLike (xs : List Elem) : Bool := xs.all Elem.isEnum

/-! ## `_utils.py` -/

/-- `_enum_to_index`: `numpy.array([enum.index for enum in value])` -/
def enumToIndex (xs : List Elem) : List Nat := xs.map Elem.indexAttr

/-- `_int_to_index`: `values[(values >= 0) & (values < indices.size)].astype(EnumDType)` -/
def intToIndex (n : Nat) (vs : List Int) : List Nat :=
  (vs.filter (fun v => decide (0 ≤ v) && decide (v < (n : Int)))).map Int.toNat

/-- the names paired with their positions, starting at `k` -/
def indexed : Nat → List String → List (String × Nat)
  | _, [] => []
  | k, s :: ss => (s, k) :: indexed (k + 1) ss

def insertPair (p : String × Nat) : List (String × Nat) → List (String × Nat)
  | [] => [p]
  | q :: qs => if q.1 < p.1 then q :: insertPair p qs else p :: q :: qs

/-- insertion sort by name -/
def sortPairs : List (String × Nat) → List (String × Nat)
  | [] => []
  | p :: ps => insertPair p (sortPairs ps)

/-- `numpy.argsort(names)` -/
def argsort (names : List String) : List Nat := (sortPairs (indexed 0 names)).map Prod.snd

/-- `names[sorter]`: the names in increasing order -/
def sortedNames (names : List String) : List String := (sortPairs (indexed 0 names)).map Prod.fst

/-- numpy's `npy_binsearch`, `side = "left"`:
`while lo < hi: mid = lo + (hi - lo) // 2; if keys[mid] < v: lo = mid + 1 else: hi = mid`.
The first argument bounds the number of iterations (`hi - lo` is enough). -/
def bsearchLeft (keys : List String) (v : String) : Nat → Nat → Nat → Nat
  | 0, lo, _ => lo
  | fuel + 1, lo, hi =>
    if lo < hi then
      let mid := lo + (hi - lo) / 2
      if keys.getD mid "" < v then bsearchLeft keys v fuel (mid + 1) hi
      else bsearchLeft keys v fuel lo mid
    else lo

/-- `numpy.searchsorted(names, v, sorter=sorter)` on the sorted names -/
def searchsortedLeft (keys : List String) (v : String) : Nat :=
  bsearchLeft keys v keys.length 0 keys.length

/-- apply a partial function to every element, first error wins -/
def allOk {α β : Type} (f : α → Except String β) : List α → Except String (List β)
  | [] => .ok []
  | a :: as =>
    match f a with
    | .error m => .error m
    | .ok b =>
      match allOk f as with
      | .error m => .error m
      | .ok bs => .ok (b :: bs)

/-- `sorter[numpy.searchsorted(names, v, sorter=sorter)]` for one value -/
def lookupSorted (names : List String) (v : String) : Except String Nat :=
  match (argsort names)[searchsortedLeft (sortedNames names) v]? with
  | some i => .ok i
  | none => .error "IndexError"

/-- `_str_to_index`: `mask = isin(values, names); sorter = argsort(names);
sorter[searchsorted(names, values[mask], sorter=sorter)]` -/
def strToIndex (names : List String) (ss : List String) : Except String (List Nat) :=
  allOk (lookupSorted names) (ss.filter (fun s => decide (s ∈ names)))

/-! ## `Enum.encode` -/

/-- `if indices.size != len(value): raise EnumMemberNotFoundError` / `EnumArray(indices, cls)` -/
def checkSize (e : Enumeration) (len : Nat) (indices : List Nat) : Except String EnumArray :=
  if indices.length ≠ len then .error "EnumMemberNotFoundError" else .ok ⟨e.cid, indices⟩

/-- `Enum._encode_array_like` (sequences) -/
def encodeSeq (e : Enumeration) (xs : List Elem) : Except String EnumArray :=
  if isIntArrayLike xs then
    checkSize e xs.length (intToIndex e.size (xs.map Elem.intVal))
  else if isStrArrayLike xs then
    match strToIndex e.names (xs.map Elem.strVal) with
    | .error m => .error m
    | .ok indices => checkSize e xs.length indices
  else if isEnumArrayLike xs && xs.all (Elem.hasClass e.cid) then
    checkSize e xs.length (enumToIndex xs)
  else .error "EnumEncodingError"

/-- `Enum._encode_array` (numpy arrays, dispatch on the dtype) -/
def encodeArr (e : Enumeration) : Input → Except String EnumArray
  | .intArr vs => checkSize e vs.length (intToIndex e.size vs)
  | .strArr ss =>
    match strToIndex e.names ss with
    | .error m => .error m
    | .ok indices => checkSize e ss.length indices
  | .objArr xs =>
    if xs.all (Elem.hasClass e.cid) then checkSize e xs.length (enumToIndex xs)
    else .error "EnumEncodingError"
  | _ => .error "EnumEncodingError"

/-- `Enum.encode` -/
def encode (e : Enumeration) (x : Input) : Except String EnumArray :=
  match x with
  | .encoded a => .ok a                                   -- isinstance(array, EnumArray)
  | .scalarArr _ => .error "TypeError"                    -- len() of unsized object
  | _ =>
    if x.len = 0 then .ok ⟨e.cid, []⟩                     -- len(array) == 0
    else match x with
      | .seq xs => encodeSeq e xs                         -- isinstance(array, Sequence)
      | _ => encodeArr e x

/-! ## `EnumArray.decode`, `EnumArray.decode_to_str`

`e` is the array's `possible_values`; an index outside the table is numpy's `IndexError`. -/

def decode (e : Enumeration) (a : EnumArray) : Except String (List Elem) :=
  allOk (fun i => if i < e.size then .ok (Elem.member e.cid i) else .error "IndexError") a.idx

def decodeToStr (e : Enumeration) (a : EnumArray) : Except String (List String) :=
  allOk (fun i => match e.names[i]? with | some s => .ok s | none => .error "IndexError") a.idx

/-- one selected position -/
def pick (idx : List Nat) (p : Nat) : Except String Nat :=
  match idx[p]? with
  | some i => .ok i
  | none => .error "IndexError"

/-- Re-indexing an `EnumArray` through the ndarray API (`a[positions]`; a slice, a boolean
mask, `a[::-1]`, `take`, `repeat`, `copy`, `view` are the same thing with the positions they
select): the result is an `EnumArray` of the same enumeration (`__array_finalize__` copies
`possible_values`) holding the selected indices. Positions are non-negative; one outside the
array is numpy's `IndexError`. -/
def EnumArray.take (a : EnumArray) (positions : List Nat) : Except String EnumArray :=
  match allOk (pick a.idx) positions with
  | .error m => .error m
  | .ok idx => .ok ⟨a.owner, idx⟩

/-! ## The operators of `EnumArray` (`enum_array.py`): `==`, `!=`, the forbidden ones

What formulas write: `housing == Housing.owner`, `status != Status.single`.  `n` is the number of
members of the array's own `possible_values` (only the comparison with the enumeration class
itself reads it).  -/

/-- what a comparison returns: a boolean `ndarray`, or a Python / numpy scalar -/
inductive CmpRes
  | vec (bs : List Bool)
  | scalar (b : Bool)
  deriving DecidableEq, Repr

/-- the right operand of `==` / `!=` -/
inductive Operand
  /-- `None` -/
  | none_
  /-- an `Enum` class (not an instance) with `k` members; `c` is what the class test compares -/
  | cls (c : Nat) (k : Nat)
  /-- one Python object: an `int`, a `str`, a member of some enumeration, anything else -/
  | elem (x : Elem)
  /-- a list / tuple / `ndarray` of integers -/
  | ints (vs : List Int)
  /-- a list / tuple / `ndarray` of `len` things an integer never equals (strings, `Enum`
  instances, `None`): numpy compares element by element and finds no equality -/
  | blind (len : Nat)
  /-- another `EnumArray` (of whatever enumeration: only its indices are compared) -/
  | arr (b : EnumArray)
  deriving DecidableEq, Repr

/-- length of `numpy.broadcast(x, y)` for two 1-d shapes; shapes that do not match raise -/
def bcastLen (l k : Nat) : Except String Nat :=
  if l = k then .ok l else if k = 1 then .ok l else if l = 1 then .ok k
  else .error "ValueError: operands could not be broadcast together"

/-- element-wise `x == y` with numpy broadcasting of 1-d operands -/
def bcastEq {α β} (f : α → β → Bool) (xs : List α) (ys : List β) : Except String (List Bool) :=
  if xs.length = ys.length then .ok (List.zipWith f xs ys)
  else match ys with
    | [y] => .ok (xs.map fun x => f x y)
    | [] | _ :: _ :: _ =>
      match xs with
      | [x] => .ok (ys.map fun y => f x y)
      | [] | _ :: _ :: _ => .error "ValueError: operands could not be broadcast together"

/-- Python's `max(self)` over the items of a 1-d array (`none` for an empty one: `ValueError`) -/
def maxIdx : List Nat → Option Nat
  | [] => none
  | i :: is => some (is.foldl Nat.max i)

/-- `EnumArray.__eq__(self, other)`; an array whose `possible_values` is `None` is not modelled -/
def eqOp (n : Nat) (a : EnumArray) : Operand → Except String CmpRes
  -- `if other is None: return NotImplemented`; Python then falls back to identity: `False`
  | .none_ => .ok (.scalar false)
  -- `isinstance(other, type(Enum)) and other == self.possible_values`:
  --   `view == indices[indices <= max(self)]`
  | .cls c k =>
    if c = a.owner then
      match maxIdx a.idx with
      | none => .error "ValueError: max() arg is an empty sequence"
      | some mx =>
        match bcastEq (fun i j => i == j) a.idx ((List.range n).filter fun j => decide (j ≤ mx)) with
        | .error m => .error m
        | .ok bs => .ok (.vec bs)
    else
      -- another class: numpy turns it into the object array of its members, none equal to an index
      match bcastLen a.idx.length k with
      | .error m => .error m
      | .ok l => .ok (.vec (List.replicate l false))
  -- `isinstance(other, Enum) and other.__class__ == self.possible_values`: `view == other.index`
  | .elem (.member c i) =>
    if c = a.owner then .ok (.vec (a.idx.map fun j => j == i))
    else .ok (.vec (a.idx.map fun _ => false))
  -- `view == other` by numpy
  | .elem (.int v) => .ok (.vec (a.idx.map fun (j : Nat) => (j : Int) == v))
  | .elem (.str _) => .ok (.vec (a.idx.map fun _ => false))
  | .elem .other => .ok (.vec (a.idx.map fun _ => false))
  | .ints vs =>
    match bcastEq (fun (j : Nat) (v : Int) => (j : Int) == v) a.idx vs with
    | .error m => .error m
    | .ok bs => .ok (.vec bs)
  | .blind k =>
    match bcastLen a.idx.length k with
    | .error m => .error m
    | .ok l => .ok (.vec (List.replicate l false))
  | .arr b =>
    match bcastEq (fun i j => i == j) a.idx b.idx with
    | .error m => .error m
    | .ok bs => .ok (.vec bs)

/-- `numpy.logical_not` -/
def CmpRes.not : CmpRes → CmpRes
  | .vec bs => .vec (bs.map (!·))
  | .scalar b => .scalar (!b)

/-- `EnumArray.__ne__`: `numpy.logical_not(self == other)` -/
def neOp (n : Nat) (a : EnumArray) (o : Operand) : Except String CmpRes :=
  match eqOp n a o with
  | .error m => .error m
  | .ok r => .ok r.not

/-- the operators bound to `_forbidden_operation` -/
inductive ForbiddenOp | add | mul | lt | le | gt | ge | and_ | or_
  deriving DecidableEq, Repr

/-- `__add__ = __mul__ = __lt__ = __le__ = __gt__ = __ge__ = __and__ = __or__ =
_forbidden_operation`: raises `TypeError` whatever the operands -/
def forbiddenOp (_op : ForbiddenOp) (_a : EnumArray) (_o : Operand) : Except String CmpRes :=
  .error "TypeError: Forbidden operation"

/-! ## Specification vocabulary (used by `Props/C15.lean`) -/

/-- lookup by name: the position of the first member called `s` -/
def nameIndex? : List String → String → Option Nat
  | [], _ => none
  | n :: ns, s => if n = s then some 0 else (nameIndex? ns s).map (· + 1)

inductive Kind | int | str | enum | other
  deriving DecidableEq, Repr

def Elem.kind : Elem → Kind
  | .int _ => .int | .str _ => .str | .member _ _ => .enum | .other => .other

/-- The element designates a member of `e`: an index within `0 ≤ v < n`, a declared name, or
an instance of the class itself. -/
def Elem.Designates (e : Enumeration) : Elem → Prop
  | .int v => 0 ≤ v ∧ v < (e.size : Int)
  | .str s => s ∈ e.names
  | .member c _ => c = e.cid
  | .other => False

instance (e : Enumeration) (x : Elem) : Decidable (x.Designates e) := by
  cases x <;> unfold Elem.Designates <;> infer_instance

/-- index of the member an element designates (`0` when it designates none) -/
def Elem.index (e : Enumeration) : Elem → Nat
  | .int v => v.toNat
  | .str s => (nameIndex? e.names s).getD 0
  | .member _ i => i
  | .other => 0

/-- the elements an input holds, in order -/
def Input.elems : Input → List Elem
  | .encoded a => a.idx.map (Elem.member a.owner)
  | .seq xs => xs
  | .intArr vs => vs.map Elem.int
  | .strArr ss => ss.map Elem.str
  | .objArr xs => xs
  | .otherArr n => List.replicate n Elem.other
  | .scalarArr x => [x]

/-- all elements are of one kind (int / str / Enum instance / other) -/
def SameKind (xs : List Elem) : Prop := ∀ x ∈ xs, ∀ y ∈ xs, x.kind = y.kind

/-- all elements are of one kind -/
instance (xs : List Elem) : Decidable (SameKind xs) := by unfold SameKind; infer_instance

/-- A fact of the Python object model that `encode` does not check: an instance of a class
that passes the class test `cls == item.__class__` carries an index `< n`. `EnumType.__eq__`
compares classes by (the identity of) their name, so this holds when the only classes that
compare equal to `e` are `e` itself or re-imports of the same declaration; it fails for a
*different* enumeration declared under the same class name (finding F-C15b). -/
def Elem.WF (e : Enumeration) : Elem → Prop
  | .member c i => c = e.cid → i < e.size
  | _ => True

instance (e : Enumeration) (x : Elem) : Decidable (x.WF e) := by
  cases x <;> unfold Elem.WF <;> infer_instance

/-- Every `Enum` instance held by the input is well formed. (For an `EnumArray` of `e` handed
to `encode`: it holds valid indices, i.e. it was produced by `encode` and not assembled by hand
from arbitrary integers.) -/
def Input.WF (e : Enumeration) (x : Input) : Prop := ∀ el ∈ x.elems, el.WF e

instance (e : Enumeration) (x : Input) : Decidable (x.WF e) := by unfold Input.WF; infer_instance

/-- `x` is not an `EnumArray` of another enumeration (such an array is returned untouched,
still tagged with its own enumeration). -/
def Input.NotForeignArray (e : Enumeration) : Input → Prop
  | .encoded a => a.owner = e.cid
  | _ => True

/-- What the repaired `encode` refuses. An `EnumArray` is never refused; an empty input of any
container is never refused; otherwise a *sequence* is refused iff some element designates no
member or the kinds are mixed, a typed numpy array iff some element designates no member, an
object array iff some element is not an instance of the class, an array of any other dtype
always, a 0-dimensional array always (whatever it holds). -/
def Input.Rejected (e : Enumeration) : Input → Prop
  | .encoded _ => False
  | .seq xs => xs ≠ [] ∧ ((∃ x ∈ xs, ¬ x.Designates e) ∨ ¬ SameKind xs)
  | .intArr vs => ∃ v ∈ vs, ¬ (0 ≤ v ∧ v < (e.size : Int))
  | .strArr ss => ∃ s ∈ ss, s ∉ e.names
  | .objArr xs => ∃ x ∈ xs, x.kind ≠ .enum ∨ ¬ x.Designates e
  | .otherArr n => n ≠ 0
  | .scalarArr _ => True

instance (e : Enumeration) (x : Input) : Decidable (x.NotForeignArray e) := by
  cases x <;> unfold Input.NotForeignArray <;> infer_instance

instance (e : Enumeration) (x : Input) : Decidable (x.Rejected e) := by
  cases x <;> unfold Input.Rejected <;> infer_instance

/-- the array is tagged with `e` and every index it holds designates a member of `e` -/
def EnumArray.ValidFor (e : Enumeration) (a : EnumArray) : Prop :=
  a.owner = e.cid ∧ ∀ i ∈ a.idx, i < e.size

instance (e : Enumeration) (a : EnumArray) : Decidable (a.ValidFor e) := by
  unfold EnumArray.ValidFor; infer_instance

/-- results can be compared (used by the `example`s beside the theorems) -/
instance exceptDecEq {α : Type} [DecidableEq α] : DecidableEq (Except String α)
  | .ok a, .ok b => if h : a = b then isTrue (by rw [h]) else isFalse (fun e => h (by cases e; rfl))
  | .error a, .error b => if h : a = b then isTrue (by rw [h]) else isFalse (fun e => h (by cases e; rfl))
  | .ok _, .error _ => isFalse (fun e => by cases e)
  | .error _, .ok _ => isFalse (fun e => by cases e)

end OFCore.EnumCodec
