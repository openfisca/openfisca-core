/-!
# The calculation engine, at node level (import-free)

A *node* is a pair (variable, period).  A node-level rule system gives, for every node, the
formula in force there as an expression whose reads are again nodes (`RuleSys.lean` computes
this from a declarative system: dated formulas, end dates, period transforms, ADD expansion),
the inputs, the defaults and the casts.

Two semantics:

* `den` — the **meaning**: cache-less, stack-less, no spiral rule; input wins, no formula ⇒
  default, the formula in force is applied to recursively evaluated dependencies, the result
  is cast.  Fuel-bounded (`none` = not enough fuel; a chain that never reaches an input has no
  meaning at all).
* `run` — the **machine**: a transcription of `Simulation.calculate/_calculate/_check_for_cycle/
  invalidate_spiral_variables/purge_cache_of_invalid_values`, `Holder.get_array/put_in_cache`
  (with the F-C02a repair): cache look-up, input, cycle check on the evaluation stack, spiral
  heuristic (`max_spiral_loops`), push, formula, pop (`finally`), cast, store on success only.
  F-C02a, b, c are the findings on `invalidate_spiral_variables` recorded in DESIGN.md, section 7, C02.
  Every result and cache entry carries a ghost *provenance bit* (true = derived from a
  substituted spiral default) that no decision of the machine reads.
-/
namespace OFCore.Engine

abbrev Val := List Int

inductive Err where
  | cycle   -- circular definition
  | fault   -- a formula raised / invalid-period dependency / unknown variable
deriving DecidableEq, Repr

abbrev Res := Except Err Val

/-- formula expressions; `P` is the type of periods -/
inductive Expr (P : Type) where
  | const (c : Val)
  | ref (v : Nat) (p : P)                -- `population(variable, period)`
  | op1 (o : Nat) (a : Expr P)
  | op2 (o : Nat) (a b : Expr P)
  | fail (id : Nat) (a : Expr P)         -- raises when fault `id` is armed, else evaluates `a`
  | bad                                  -- always raises
deriving Repr

structure Sys (P : Type) where
  formula : Nat → P → Option (Expr P)    -- formula in force at the node, if any
  input : Nat → P → Option Val           -- supplied inputs (and neutralised variables)
  dflt : Nat → Val                       -- declared default, as a vector
  post : Nat → Val → Val                 -- cast to the declared type
  f1 : Nat → Val → Val                   -- unary operations (incl. aggregations, projections)
  f2 : Nat → Val → Val → Val             -- binary operations
  armed : Nat → Bool                     -- armed faults
  msl : Nat                              -- max_spiral_loops
  noStore : Nat → Bool                   -- variables that are not cached (drop / blacklist)
  ckey : Nat → P → P                     -- the period a value is stored under (ETERNITY for an
                                         -- eternal variable, the period itself otherwise)
  markAll : Bool := false                -- what-if switch (candidate repair of F-C02b, NOT the code):
                                         -- a spiral marks every frame on the stack

abbrev Node (P : Type) := Nat × P

/-- cache entries: value and ghost provenance bit -/
abbrev Cache (P : Type) := List (Node P × (Val × Bool))

def lookup {P : Type} [DecidableEq P] (c : Cache P) (k : Node P) : Option (Val × Bool) :=
  match c with
  | [] => none
  | (k', x) :: r => if k' = k then some x else lookup r k

structure St (P : Type) where
  cache : Cache P
  stack : List (Node P)
  inval : List (Node P)                  -- `invalidated_caches`

def St.init {P : Type} : St P := ⟨[], [], []⟩

variable {P : Type} [DecidableEq P]

/-! ## meaning -/
mutual
def den (sys : Sys P) : Nat → Nat → P → Option Res
  | 0, _, _ => none
  | n+1, v, p =>
    match sys.input v p with
    | some x => some (.ok x)
    | none =>
      match sys.formula v p with
      | none => some (.ok (sys.post v (sys.dflt v)))
      | some e =>
        match denE sys n e with
        | none => none
        | some (.error er) => some (.error er)
        | some (.ok x) => some (.ok (sys.post v x))
def denE (sys : Sys P) : Nat → Expr P → Option Res
  | _, .const c => some (.ok c)
  | _, .bad => some (.error .fault)
  | n, .ref v p => den sys n v p
  | n, .fail id a => if sys.armed id then some (.error .fault) else denE sys n a
  | n, .op1 o a =>
    match denE sys n a with
    | none => none
    | some (.error e) => some (.error e)
    | some (.ok x) => some (.ok (sys.f1 o x))
  | n, .op2 o a b =>
    match denE sys n a with
    | none => none
    | some (.error e) => some (.error e)
    | some (.ok x) =>
      match denE sys n b with
      | none => none
      | some (.error e) => some (.error e)
      | some (.ok y) => some (.ok (sys.f2 o x y))
end

/-! ## machine -/

/-- frames marked by a spiral on variable `v`: from the top of the stack down to the `msl`-th
    earlier frame of the same variable (the current frame is marked by the caller) -/
def markSpiral (v : Nat) : Nat → List (Node P) → List (Node P)
  | _, [] => []
  | cnt, k :: r => if k.1 = v then (if cnt ≤ 1 then [k] else k :: markSpiral v (cnt - 1) r)
                   else k :: markSpiral v cnt r

/-- `put_in_cache` -/
def store (sys : Sys P) (c : Cache P) (k : Node P) (x : Val) (g : Bool) : Cache P :=
  if sys.noStore k.1 then c else (k, (x, g)) :: c

/-- the cache slot of a node: `Holder.get_array` / `put_in_cache` go through the storage key -/
def Sys.slot (sys : Sys P) (k : Node P) : Node P := (k.1, sys.ckey k.1 k.2)

mutual
def run (sys : Sys P) : Nat → St P → Nat → P → Option (Res × Bool × St P)
  | 0, _, _, _ => none
  | n+1, s, v, p =>
    match lookup s.cache (sys.slot (v, p)) with
    | some (x, g) =>
      -- (F-C02a / F-C02c repair) reading an entry already marked for deletion marks every frame;
      -- the entry is recognised by its storage slot (an eternal variable marked under one period
      -- and read under another is the same entry)
      let s' := if sys.slot (v, p) ∈ s.inval.map sys.slot then { s with inval := s.stack ++ s.inval } else s
      some (.ok x, g, s')
    | none =>
      match sys.input v p with
      | some x => some (.ok x, false, s)
      | none =>
        if (v, p) ∈ s.stack then some (.error .cycle, false, s)
        else if sys.msl ≤ (s.stack.filter (fun k => k.1 = v)).length then
          -- spiral: the default is substituted, not cached; frames are marked
          some (.ok (sys.dflt v), true,
            { s with inval := (v, p) :: markSpiral v (if sys.markAll then s.stack.length + 1 else sys.msl) s.stack ++ s.inval })
        else
        match sys.formula v p with
        | none =>
          let x := sys.post v (sys.dflt v)
          some (.ok x, false, { s with cache := store sys s.cache (sys.slot (v, p)) x false })
        | some e =>
          match runE sys n { s with stack := (v, p) :: s.stack } e with
          | none => none
          | some (.error er, g, s') => some (.error er, g, { s' with stack := s'.stack.tail })
          | some (.ok x, g, s') =>
            some (.ok (sys.post v x), g,
              { s' with cache := store sys s'.cache (sys.slot (v, p)) (sys.post v x) g, stack := s'.stack.tail })
def runE (sys : Sys P) : Nat → St P → Expr P → Option (Res × Bool × St P)
  | _, s, .const k => some (.ok k, false, s)
  | _, s, .bad => some (.error .fault, false, s)
  | n, s, .ref v p => run sys n s v p
  | n, s, .fail id a => if sys.armed id then some (.error .fault, false, s) else runE sys n s a
  | n, s, .op1 o a =>
    match runE sys n s a with
    | none => none
    | some (.error e, g, s1) => some (.error e, g, s1)
    | some (.ok x, g, s1) => some (.ok (sys.f1 o x), g, s1)
  | n, s, .op2 o a b =>
    match runE sys n s a with
    | none => none
    | some (.error e, g, s1) => some (.error e, g, s1)
    | some (.ok x, g1, s1) =>
      match runE sys n s1 b with
      | none => none
      | some (.error e, g2, s2) => some (.error e, g1 || g2, s2)
      | some (.ok y, g2, s2) => some (.ok (sys.f2 o x y), g1 || g2, s2)
end

/-- `purge_cache_of_invalid_values`, at the end of a top-level request: `holder.delete_arrays`
    of every marked (variable, period) deletes its storage slot -/
def purge (sys : Sys P) (s : St P) : St P :=
  { cache := s.cache.filter (fun e => !((s.inval.map sys.slot).contains e.1)), stack := s.stack, inval := [] }

/-- a top-level `Simulation.calculate`: run, then purge when the stack is empty -/
def request (sys : Sys P) (fuel : Nat) (s : St P) (k : Node P) : Option (Res × Bool × St P) :=
  match run sys fuel s k.1 k.2 with
  | none => none
  | some (r, g, s') => some (r, g, if s'.stack = [] then purge sys s' else s')

/-- a sequence of top-level requests (errors do not stop the sequence) -/
def requests (sys : Sys P) (fuel : Nat) : St P → List (Node P) → Option (List Res × St P)
  | s, [] => some ([], s)
  | s, k :: ks =>
    match request sys fuel s k with
    | none => none
    | some (r, _, s') =>
      match requests sys fuel s' ks with
      | none => none
      | some (rs, s'') => some (r :: rs, s'')

/-- a sequence of top-level requests during which the armed faults change: every step runs under
    its own system (same rules, its own armed set); errors do not stop the sequence -/
def requestsF (fuel : Nat) : St P → List (Sys P × Node P) → Option (List Res × St P)
  | s, [] => some ([], s)
  | s, st :: sts =>
    match request st.1 fuel s st.2 with
    | none => none
    | some (r, _, s') =>
      match requestsF fuel s' sts with
      | none => none
      | some (rs, s'') => some (r :: rs, s'')

/-- the nodes an expression reads -/
def refs : Expr P → List (Node P)
  | .const _ => []
  | .bad => []
  | .ref v p => [(v, p)]
  | .fail _ a => refs a
  | .op1 _ a => refs a
  | .op2 _ a b => refs a ++ refs b

end OFCore.Engine
