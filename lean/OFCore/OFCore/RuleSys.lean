import OFCore.Engine
import OFCore.Period
/-!
# Declarative rule systems and their elaboration to node level (import-free)

A declarative system lists variables (entity, value type, definition period, default, dated
formulas, end date, neutralisation) over a population (persons in groups).  `elabSys` computes the
node-level system of `Engine.lean`: the formula in force at a period's start
(`Variable.get_formula`), period transforms, `_check_period_consistency` for every read, the
ADD option (`calculate_add` = sum over `get_subperiods`), defaults and casts.

Python counterparts: `Variable.get_formula`, `Simulation._check_period_consistency`,
`Simulation.calculate_add`, `Simulation._cast_formula_result`, `Variable.default_array`,
`Holder.get_array` (neutralised variables), `Simulation.set_input` (inputs past `end` ignored).
-/
namespace OFCore.RuleSys
open OFCore OFCore.Engine

inductive VType | int | float | bool | enum | date | str
deriving DecidableEq, Repr, Inhabited

/-- period transforms available to a formula -/
inductive PTrans
  | same | thisYear | firstMonth | lastMonth | lastYear | offset (n : Int) (u : DUnit)
  | fixed (p : Period)       -- a period that does not depend on the formula's own period
deriving DecidableEq, Repr, Inhabited

/-- declarative formula expressions -/
inductive DExpr where
  | const (k : Int)                          -- scalar, broadcast to the entity's size
  | var (w : Nat) (pt : PTrans) (add : Bool) -- `population(w, pt(period)[, options=[ADD]])`
  | op1 (o : Nat) (a : DExpr)
  | op2 (o : Nat) (a b : DExpr)
  | fail (id : Nat) (a : DExpr)
deriving Repr, Inhabited

structure Var where
  entity : Nat                 -- 0 = person, 1 = group
  vtype : VType
  unit : DUnit                 -- definition period
  dflt : Int
  neutralized : Bool
  endOrd : Option Int          -- `end` attribute, as an ordinal
  noStore : Bool
  formulas : List (Int × DExpr)   -- (start ordinal, formula), any order
deriving Repr, Inhabited

structure Decl where
  nP : Nat
  nG : Nat
  mem : List Nat               -- group of each person
  msl : Nat
  vars : List Var
  inputs : List (Nat × Period × Val)
  roles : List Nat := []       -- role of each person in its group (missing entries: role 0)
deriving Repr, Inhabited

def Decl.size (d : Decl) (entity : Nat) : Nat := if entity = 0 then d.nP else d.nG

def applyPT (p : Period) : PTrans → Except String Period
  | .same => .ok p
  | .thisYear => p.thisYear
  | .firstMonth => p.firstMonth
  | .lastMonth => p.lastMonth
  | .lastYear => p.lastYear
  | .offset n u => p.offset (.n n) (some u)
  | .fixed q => .ok q

/-- `_check_period_consistency` (with the DAY / WEEKDAY branches): the period a request for a
    variable of definition unit `u` is served under, or an error -/
def servedPeriod (u : DUnit) (q : Period) : Except String Period :=
  if u = .eternity then .ok q          -- every period is accepted; the value is STORED under ETERNITY
  else if q.unit ≠ u then .error "unit"
  else if q.size ≠ 1 then .error "size"
  else .ok q

/-- one step of the scan of `Variable.get_formula`: keep the admissible formula with the
    greatest start date (the later declaration wins a tie) -/
def pickStep (o : Int) (best : Option (Int × DExpr)) (f : Int × DExpr) : Option (Int × DExpr) :=
  if f.1 ≤ o then
    match best with
    | none => some f
    | some b => if b.1 ≤ f.1 then some f else some b
  else best

def pickFormula (v : Var) (startOrd : Int) : Option DExpr :=
  (v.formulas.foldl (pickStep startOrd) none).map (·.2)

/-- `Variable.get_formula(period)`: the formula with the greatest start ≤ the period's start,
    none past the `end` date (or for a variable without formulas) -/
def formulaInForce (v : Var) (startOrd : Int) : Option DExpr :=
  match v.endOrd with
  | some e => if startOrd > e then none else pickFormula v startOrd
  | none => pickFormula v startOrd

def vecAdd (a b : Val) : Val := List.zipWith (· + ·) a b

/-- does a person holding flattened role `ρ` match the role digit `r` of an operation
    (`Population.has_role`)?  `r = 9`: no role filter, everybody matches; `r = 8`: the first
    top-level role of an entity whose first role has two sub-roles — flattened roles 0 and 1 match
    (`has_role` of a role with sub-roles is the disjunction over its sub-roles); any other digit:
    the flattened role `r` itself -/
def roleMatch (r ρ : Nat) : Bool := decide (r = 9 ∨ ρ = r ∨ (r = 8 ∧ ρ < 2))

/-- sum of `x` over the members of group `g` that hold role `r` (`GroupPopulation.sum(x, role)`);
    it does not depend on the order in which persons are stored -/
def roleSum (d : Decl) (r : Nat) (x : Val) (g : Nat) : Int :=
  (((List.range d.mem.length).filter (fun i => d.mem.getD i 0 = g ∧ roleMatch r (d.roles.getD i 0) = true)).map
    (fun i => x.getD i 0)).foldl (· + ·) 0

/-- the values of `x` at the members of group `g` that hold role `r` (`r = 9`: at every member,
    no role filter), in storage order -/
def holderVals (d : Decl) (r : Nat) (x : Val) (g : Nat) : List Int :=
  ((List.range d.mem.length).filter (fun i => d.mem.getD i 0 = g ∧ roleMatch r (d.roles.getD i 0) = true)).map
    (fun i => x.getD i 0)

/-- total reductions on integers: the greatest / least element (0 for no element: the ±∞ that
    `GroupPopulation.max` / `min` return for a group without holder is replaced by 0), and "every
    element is non-zero" (1 for no element, like `GroupPopulation.all`) -/
def listMax : List Int → Int
  | [] => 0
  | a :: t => t.foldl max a
def listMin : List Int → Int
  | [] => 0
  | a :: t => t.foldl min a
def listAll (l : List Int) : Int := if l.all (fun a => a ≠ 0) then 1 else 0

/-- role-based operations (operation codes 10–79, role `r = o % 10`, `r = 9` = no role filter for
    the reductions 50–79): every one is a function of the SET (multiset of values) of role holders
    of each group.  The order-dependent operations of `GroupPopulation` (`value_nth_person`,
    `first_person`, `get_rank`) are deliberately NOT in the language: their result is defined by
    storage order. -/
def isRoleOp (o : Nat) : Bool := decide (10 ≤ o ∧ o < 80)

/-- projections with a role filter (codes 80–89, `GroupPopulation.project(x, role)`): the group's
    value for the members that match the role digit, 0 for the others -/
def isProjOp (o : Nat) : Bool := decide (80 ≤ o ∧ o < 90)

/-- unary operations on vectors -/
def f1 (d : Decl) (o : Nat) (x : Val) : Val :=
  if o = 0 then x.map (fun a => -a)
  else if o = 1 then          -- sum over the members of each group
    (List.range d.nG).map (fun g => ((d.mem.zip x).filter (fun m => m.1 = g)).foldl (fun acc m => acc + m.2) 0)
  else if o = 2 then          -- projection of a group vector onto persons
    d.mem.map (fun g => x.getD g 0)
  else if o = 3 then x.map (fun a => if a ≠ 0 then 1 else 0)
  else if 10 ≤ o ∧ o < 20 then    -- `sum(x, role=r)`
    (List.range d.nG).map (roleSum d (o - 10) x)
  else if 20 ≤ o ∧ o < 30 then    -- `value_from_person(x, role=r)`, `r` a unique role: the holder's
                                   -- value, 0 (the default) for a group without holder
    (List.range d.nG).map (roleSum d (o - 20) x)
  else if 30 ≤ o ∧ o < 40 then    -- `nb_persons(role=r)` (the operand's values are not used)
    (List.range d.nG).map (roleSum d (o - 30) (List.replicate d.mem.length 1))
  else if 40 ≤ o ∧ o < 50 then    -- `any(x, role=r)` = `sum(x, role=r) > 0`
    (List.range d.nG).map (fun g => if roleSum d (o - 40) x g > 0 then 1 else 0)
  else if 50 ≤ o ∧ o < 60 then    -- `max(x, role=r)` (`r = 9`: `max(x)`), 0 for a group without holder
    (List.range d.nG).map (fun g => listMax (holderVals d (o - 50) x g))
  else if 60 ≤ o ∧ o < 70 then    -- `min(x, role=r)`, 0 for a group without holder
    (List.range d.nG).map (fun g => listMin (holderVals d (o - 60) x g))
  else if 70 ≤ o ∧ o < 80 then    -- `all(x, role=r)`, 1 for a group without holder
    (List.range d.nG).map (fun g => listAll (holderVals d (o - 70) x g))
  else if 80 ≤ o ∧ o < 90 then    -- `project(x, role=r)`: a group vector onto the persons holding role r
    (List.range d.mem.length).map (fun i =>
      if roleMatch (o - 80) (d.roles.getD i 0) = true then x.getD (d.mem.getD i 0) 0 else 0)
  else if 100 ≤ o then x.map (fun a => a * ((o : Int) - 150))   -- `x * k` for the constant `k = o - 150` (codes from 100; 150 is zero)
  else x

def f2 (o : Nat) (x y : Val) : Val :=
  let z (f : Int → Int → Int) := List.zipWith f x y
  if o = 0 then z (· + ·)
  else if o = 1 then z (· - ·)
  else if o = 2 then z min
  else if o = 3 then z max
  else if o = 4 then z (fun a b => if a < b then 1 else 0)
  else if o = 5 then z (fun a b => if a ≤ b then 1 else 0)
  else if o = 6 then z (fun a b => if a = b then 1 else 0)
  else if o = 7 then z (fun c a => if c ≠ 0 then a else 0)      -- `where(c, a, 0)`
  else if o = 8 then z (fun c b => if c ≠ 0 then 0 else b)      -- `where(c, 0, b)`
  else x

def castTo (t : VType) (x : Val) : Val :=
  match t with
  | .bool => x.map (fun a => if a ≠ 0 then 1 else 0)
  | .int => x
  | .float => x
  | .enum => x
  | .date => x
  | .str => x

/-- one read `population(w, q, options)` elaborated to node level -/
def elabRead (d : Decl) (w : Nat) (q : Except String Period) (add : Bool) : Expr Period :=
  match d.vars[w]?, q with
  | none, _ => .bad
  | _, .error _ => .bad
  | some wv, .ok q =>
    if add then
      -- `calculate_add`
      if unitWeight wv.unit > unitWeight q.unit then .bad
      else if wv.unit = .eternity then .bad
      else if q.unit = .eternity then .bad
      else match q.subperiods wv.unit with
        | .error _ => .bad
        | .ok [] => .bad
        | .ok (s :: ss) =>
          -- every sub-period is requested through `calculate`, which re-checks consistency
          let node (s : Period) : Expr Period := match servedPeriod wv.unit s with
            | .ok s' => .ref w s'
            | .error _ => .bad
          ss.foldl (fun acc s => .op2 0 acc (node s)) (node s)
    else
      match servedPeriod wv.unit q with
      | .ok q' => .ref w q'
      | .error _ => .bad

/-- elaboration of a formula expression; `ent` is the entity the sub-expression lives on
    (`op1 1` and the role operations `op1 10..79` turn a person-level operand into a group
    vector, `op1 2` and `op1 80..89` project a group-level operand onto persons) -/
def elabExpr (d : Decl) (ent : Nat) (p : Period) : DExpr → Expr Period
  | .const k => .const (List.replicate (d.size ent) k)
  | .var w pt add =>
    match d.vars[w]? with
    | none => .bad
    | some wv => if wv.entity = ent then elabRead d w (applyPT p pt) add else .bad
  | .op1 o a => .op1 o (elabExpr d (if o = 1 ∨ isRoleOp o = true then 0 else if o = 2 ∨ isProjOp o = true then 1 else ent) p a)
  | .op2 o a b => .op2 o (elabExpr d ent p a) (elabExpr d ent p b)
  | .fail id a => .fail id (elabExpr d ent p a)

/-- start ordinal used to select the formula: the period's start (never below day 1: the code
    cannot build an `Instant.date` before 0001-01-01; the ETERNITY period itself has no date) -/
def startOrdOf (p : Period) : Int := if p.unit = .eternity then 1 else max 1 (ord p.start)

/-- the period a value of variable `v` requested for `p` is stored under -/
def storageKey (d : Decl) (v : Nat) (p : Period) : Period :=
  match d.vars[v]? with
  | some vv => if vv.unit = .eternity then Period.eternity else p
  | none => p

def inputLookup (d : Decl) (v : Nat) (p : Period) : Option Val :=
  (d.inputs.find? (fun i => i.1 = v ∧ storageKey d v i.2.1 = storageKey d v p)).map (·.2.2)

/-- the node-level system -/
def elabSys (d : Decl) (armed : List Nat) : Sys Period where
  formula v p := match d.vars[v]? with
    | none => none
    | some vv => (formulaInForce vv (startOrdOf p)).map (elabExpr d vv.entity p)
  input v p := match d.vars[v]? with
    | none => none
    | some vv =>
      if vv.neutralized then some (List.replicate (d.size vv.entity) vv.dflt)
      else match vv.endOrd with
        | some e => if p.unit ≠ .eternity ∧ ord p.start > e then none else inputLookup d v p
        | none => inputLookup d v p
  dflt v := match d.vars[v]? with
    | none => []
    | some vv => List.replicate (d.size vv.entity) vv.dflt
  post v x := match d.vars[v]? with
    | none => x
    | some vv => castTo vv.vtype x
  f1 := f1 d
  f2 := f2
  armed id := armed.contains id
  msl := d.msl
  noStore v := match d.vars[v]? with
    | none => false
    | some vv => vv.noStore
  ckey := storageKey d

/-- a top-level `Simulation.calculate(v, q)`: the node it is served under -/
def requestNode (d : Decl) (v : Nat) (q : Period) : Except String (Node Period) :=
  match d.vars[v]? with
  | none => .error "unknown"
  | some vv => do let q' ← servedPeriod vv.unit q; .ok (v, q')

/-- a top-level `Simulation.calculate_add(v, q)`: the nodes requested, in order -/
def requestAddNodes (d : Decl) (v : Nat) (q : Period) : Except String (List (Except String (Node Period))) :=
  match d.vars[v]? with
  | none => .error "unknown"
  | some vv =>
    if unitWeight vv.unit > unitWeight q.unit then .error "weight"
    else if vv.unit = .eternity then .error "eternal"
    else if q.unit = .eternity then .error "eternal-period"
    else do
      let subs ← q.subperiods vv.unit
      .ok (subs.map (fun s => requestNode d v s))


/-! ## The extended formula language: DIVIDE reads and parameters

`Simulation.calculate_divide` / `population(w, q, options=[DIVIDE])` and `parameters(instant).a.b`
are a layer of their own over the definitions above (which the household-equivariance proofs of
C11 are about): the concrete syntax stays `DExpr`, two reserved unary codes carry the new forms,

* `op1 900 (var w pt _)`  — `floor(population(w, pt(period), options=[DIVIDE]))`
* `op1 901 (var i pt _)`  — `parameters(pt(period)).<i-th parameter>` (a scalar, broadcast)

and `xelabExpr` elaborates them (`elabDivide`, `elabParam`); every other expression elaborates as
`elabExpr` does (`xelabExpr_plain` in `Lemmas/RuleSysCoherent.lean`).

DIVIDE on integers: the code returns `calculate(w, c) / n` with `c` the definition-period-long
period around the start of `q` and `n` the size of `c` in units of `q` (12 for a yearly variable
asked for a month, 365/366 for a day, 28–31 for a monthly variable asked for a day, 1 when the
units agree).  Formulas of the language consume the share through `floor`, so that values stay
integers: node-level code `XDIV + n` is the floor division by `n`.  (Exactness of the float
computation: for an integer |x| < 2²² and 1 ≤ n ≤ 366 the float32 quotient differs from x/n by
at most 2⁻²⁴·|x|/n < 1/(4n), while x/n is either an integer — then the quotient is exact — or at
least 1/n away from every integer: the computed quotient never crosses an integer and its floor
is ⌊x/n⌋.  The harness generates on that lattice; a top-level `calculate_divide` is compared
exactly, as numerators over the denominator.)
-/

/-- a declarative system with dated parameters: `params[i]` lists `(start ordinal, value)` -/
structure XDecl extends Decl where
  params : List (List (Int × Int)) := []
  outputs : List Nat := []       -- `calculate_output` attribute of each variable: 1 = calculate_output_add,
                                 -- 2 = calculate_output_divide, anything else / missing = none
deriving Repr, Inhabited

/-- `calculate_divide`: the period the variable is computed for (`calculation_period`) -/
def divPeriod (u : DUnit) (q : Period) : Except String Period :=
  match u with
  | .year => q.thisYear
  | .month => q.firstMonth
  | .day => .ok q.firstDay
  | .week => q.firstWeek
  | .weekday => .ok q.firstWeekday
  | .eternity => .error "eternal"

/-- `calculate_divide`: the denominator, the size of that period in units of the requested one -/
def divDenominator (u : DUnit) (c : Period) : Except String Int :=
  match u with
  | .year => c.sizeInYears
  | .month => c.sizeInMonths
  | .day => c.sizeInDays
  | .week => c.sizeInWeeks
  | .weekday => c.sizeInWeekdays
  | .eternity => .error "eternal"

/-- node-level unary codes `XDIV + n`: floor division by `n` -/
def XDIV : Nat := 1000000

/-- the guards of `calculate_divide`, then the served node and the denominator -/
def divideTarget (d : Decl) (w : Nat) (q : Period) : Except String (Node Period × Nat) :=
  match d.vars[w]? with
  | none => .error "unknown"
  | some wv =>
    if unitWeight wv.unit < unitWeight q.unit ∨ q.size > 1 then .error "weight"
    else if wv.unit = .eternity then .error "eternal"
    else if q.unit = .eternity ∨ q.size ≠ 1 then .error "eternal-period"
    else match divPeriod wv.unit q with
      | .error e => .error e
      | .ok c =>
        match divDenominator q.unit c with
        | .error e => .error e
        | .ok n =>
          if n ≤ 0 then .error "denominator"
          else match servedPeriod wv.unit c with
            | .error e => .error e
            | .ok c' => .ok ((w, c'), n.toNat)

/-- `floor(population(w, q, options=[DIVIDE]))` elaborated to node level -/
def elabDivide (d : Decl) (w : Nat) (q : Except String Period) : Expr Period :=
  match q with
  | .error _ => .bad
  | .ok q =>
    match divideTarget d w q with
    | .error _ => .bad
    | .ok (k, n) => .op1 (XDIV + n) (.ref k.1 k.2)

/-- one step of the scan for the latest dated value on or before `o` -/
def latestStep (o : Int) (best : Option (Int × Int)) (f : Int × Int) : Option (Int × Int) :=
  if f.1 ≤ o then
    match best with
    | none => some f
    | some b => if b.1 ≤ f.1 then some f else some b
  else best

/-- `Parameter.get_at_instant`: the value with the greatest start on or before the instant -/
def paramAt (tbl : List (Int × Int)) (o : Int) : Option Int :=
  (tbl.foldl (latestStep o) none).map (·.2)

/-- the value `parameters(q).<i>` reads: at the START of `q`; none for an unknown parameter, an
    instant that cannot be built, or a parameter with no value yet at that instant
    (`ParameterNotFoundError`) -/
def paramValue (x : XDecl) (i : Nat) (q : Except String Period) : Option Int :=
  match x.params[i]?, q with
  | none, _ => none
  | _, .error _ => none
  | some tbl, .ok q => if q.unit = .eternity then none else paramAt tbl (ord q.start)

def elabParam (x : XDecl) (ent : Nat) (i : Nat) (q : Except String Period) : Expr Period :=
  match paramValue x i q with
  | none => .bad
  | some k => .const (List.replicate (x.size ent) k)

def OP_DIVIDE : Nat := 900
def OP_PARAM : Nat := 901

/-- the two reserved forms -/
def specialOp (x : XDecl) (ent : Nat) (p : Period) (o : Nat) : DExpr → Option (Expr Period)
  | .var w pt _ =>
    if o = OP_DIVIDE then
      some (match x.vars[w]? with
        | none => .bad
        | some wv => if wv.entity = ent then elabDivide x.toDecl w (applyPT p pt) else .bad)
    else if o = OP_PARAM then some (elabParam x ent w (applyPT p pt))
    else none
  | .const _ => none
  | .op1 _ _ => none
  | .op2 _ _ _ => none
  | .fail _ _ => none

/-- elaboration of the extended language -/
def xelabExpr (x : XDecl) (ent : Nat) (p : Period) : DExpr → Expr Period
  | .const k => .const (List.replicate (x.size ent) k)
  | .var w pt add =>
    match x.vars[w]? with
    | none => .bad
    | some wv => if wv.entity = ent then elabRead x.toDecl w (applyPT p pt) add else .bad
  | .op1 o a =>
    match specialOp x ent p o a with
    | some e => e
    | none => .op1 o (xelabExpr x (if o = 1 ∨ isRoleOp o = true then 0 else if o = 2 ∨ isProjOp o = true then 1 else ent) p a)
  | .op2 o a b => .op2 o (xelabExpr x ent p a) (xelabExpr x ent p b)
  | .fail id a => .fail id (xelabExpr x ent p a)

/-- unary operations of the extended language -/
def xf1 (d : Decl) (o : Nat) (v : Val) : Val :=
  if XDIV < o then v.map (fun a => a / ((o - XDIV : Nat) : Int)) else f1 d o v

/-- the node-level system of an extended declaration -/
def xelabSys (x : XDecl) (armed : List Nat) : Sys Period :=
  { elabSys x.toDecl armed with
    formula := fun v p => match x.vars[v]? with
      | none => none
      | some vv => (formulaInForce vv (startOrdOf p)).map (xelabExpr x vv.entity p)
    f1 := xf1 x.toDecl }

/-- which request `Simulation.calculate_output(v, q)` forwards to -/
inductive OutKind | plain | add | divide
deriving DecidableEq, Repr

def outputKind (x : XDecl) (v : Nat) : OutKind :=
  match x.outputs[v]? with
  | some 1 => .add
  | some 2 => .divide
  | _ => .plain

/-- a top-level `Simulation.calculate_divide(v, q)`: the node requested and the denominator -/
def requestDivNode (d : Decl) (v : Nat) (q : Period) : Except String (Node Period × Nat) := divideTarget d v q

/-- the parameters the formula in force at a node reads, in evaluation order, with the instant
    (as an ordinal) and the value read — what the full tracer records in `TraceNode.parameters`;
    a read that raises ends the list (the formula stops there) -/
def paramReadsE (x : XDecl) (p : Period) : DExpr → List (Nat × Int × Int) × Bool
  | .const _ => ([], true)
  | .var _ _ _ => ([], true)
  | .op1 o a =>
    match a with
    | .var i pt _ =>
      if o = OP_PARAM then
        match paramValue x i (applyPT p pt), applyPT p pt with
        | some k, .ok q => ([(i, ord q.start, k)], true)
        | _, _ => ([], false)
      else ([], true)
    | .const _ => ([], true)
    | .op1 _ _ => paramReadsE x p a
    | .op2 _ _ _ => paramReadsE x p a
    | .fail _ _ => paramReadsE x p a
  | .op2 _ a b =>
    let (ra, oka) := paramReadsE x p a
    if oka then let (rb, okb) := paramReadsE x p b; (ra ++ rb, okb) else (ra, false)
  | .fail _ a => paramReadsE x p a

/-! ## operations on the stored values between requests

`Simulation.get_array`, `Simulation.delete_arrays`, `Simulation.set_input` act on the holder's
store.  In the model the store is the cache plus the declared inputs. -/

/-- `Simulation.get_array(v, q)`: the stored value, if any (no calculation) -/
def getArray (sys : Sys Period) (s : St Period) (k : Node Period) : Option Val :=
  match lookup s.cache (sys.slot k) with
  | some (x, _) => some x
  | none => sys.input k.1 k.2

/-- is the stored period `k` deleted by `delete_arrays(q)`?  (`q.contains(k)`; an eternal
    variable has one slot, deleted by any period) -/
def deletes (eternal : Bool) (q k : Period) : Bool :=
  eternal || (match q.contains k with | .ok b => b | .error _ => false)

def isEternalVar (d : Decl) (v : Nat) : Bool :=
  match d.vars[v]? with
  | some vv => decide (vv.unit = .eternity)
  | none => false

/-- `Simulation.delete_arrays(v, q)` (`q = none`: every period) on the computed values -/
def deleteCached (d : Decl) (v : Nat) (q : Option Period) (c : Cache Period) : Cache Period :=
  c.filter (fun e => !(e.1.1 = v && (match q with | none => true | some q => deletes (isEternalVar d v) q e.1.2)))

/-- … and on the inputs -/
def deleteInputs (d : Decl) (v : Nat) (q : Option Period) : List (Nat × Period × Val) :=
  d.inputs.filter (fun i => !(i.1 = v && (match q with | none => true | some q => deletes (isEternalVar d v) q i.2.1)))

/-- `Simulation.set_input(v, q, x)`: refused for a period that is not one definition period long
    (`PeriodMismatchError`), ignored past the variable's end and for a neutralised variable;
    otherwise the value replaces whatever was stored under the slot -/
inductive SetOutcome | refused | ignored | stored
deriving DecidableEq, Repr

def setInputOutcome (d : Decl) (v : Nat) (q : Period) : SetOutcome :=
  match d.vars[v]? with
  | none => .refused
  | some vv =>
    if (match vv.endOrd with | some e => decide (q.unit ≠ DUnit.eternity ∧ ord q.start > e) | none => false) then .ignored
    else if q.unit = DUnit.eternity ∧ vv.unit ≠ DUnit.eternity then .refused
    else if vv.neutralized then .ignored
    else if vv.unit ≠ DUnit.eternity ∧ (vv.unit ≠ q.unit ∨ q.size > 1) then .refused
    else .stored

end OFCore.RuleSys
